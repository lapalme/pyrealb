import Pyrealb.Model.GetElems
import Pyrealb.Lemmas.Typ
import Pyrealb.Lemmas.HeapHist
import Pyrealb.Lemmas.HeapHeaded
/-! # C11 — only the final tree and the final flag values matter

Property theorems only.  Models: `Model/GetElems` (`_getElems`), `Model/Typ` (`Constituent.typ`, reader idioms),
`Model/Heap*` (the construction-time object graph: `Phrase.__init__/add/linkProperties`, `Dependent…`).

* (a) `getElems_flatten`  — holds (all nestings).
* (b) `insert_orders_same_list` — holds (pure list lemma: every insertion order ends in the same sequence).
* (c) `link_confluent` — REFUTED, already within one node (the links are computed BEFORE the adjective re-ordering of
  `Phrase.add`, so they are not a function of the resulting child sequence); `link_confluent_levels` — REFUTED also
  after the repair 54ff0b6 (ancestors are re-linked after `add`): a link written by an earlier run on a node that the
  final runs no longer write survives (`S(N, VP(V1))` then `VP.add(V2, 0)`: `V1` stays linked to the subject).
  `link_confluent_partial` / `link_confluent_levels_partial`: for EVERY history, if every location written by an
  earlier link run is written again by the final runs (the receiver and then its ancestors), and these perform the same
  constant writes in the state reached as in the base state, the link state is that of the final runs alone.
* (d) `typ_*` — hold, for all lists of dicts. -/
namespace Pyrealb.C11
open Pyrealb Pyrealb.GetElems Pyrealb.Typ Pyrealb.Heap

/-! ## (a) `_getElems` -/

/-- **C11.a** `_getElems` is the in-order flattening that drops `None`, for every nesting; and it is idempotent -/
def getElems_flatten : Prop :=
  ∀ (α : Type) (es : List (Arg α)),
    getElems es = (flatten es).map Arg.item ∧ getElems (getElems es) = getElems es

mutual
theorem getElems_eq {α : Type} : ∀ es : List (Arg α), getElems es = (flatten es).map Arg.item
  | [] => by simp [getElems, flatten]
  | e :: es => by simp [getElems, flatten, getElem_eq e, getElems_eq es]
theorem getElem_eq {α : Type} : ∀ e : Arg α, getElem e = (flatten1 e).map Arg.item
  | .none => by simp [GetElems.getElem, flatten1]
  | .item a => by simp [GetElems.getElem, flatten1]
  | .list l => by
    simp only [GetElems.getElem, flatten1, getElems_eq l]
    apply List.filter_eq_self.mpr
    intro x hx
    obtain ⟨a, _, rfl⟩ := List.mem_map.mp hx
    rfl
end

theorem getElems_items {α : Type} (l : List α) : getElems (l.map Arg.item) = l.map Arg.item := by
  induction l with
  | nil => simp [getElems]
  | cons a t ih => simp [getElems, GetElems.getElem, ih]

theorem getElems_flatten_holds : getElems_flatten := by
  intro α es
  refine ⟨getElems_eq es, ?_⟩
  rw [getElems_eq es, getElems_items]

/-! ## (b) every insertion order ends in the same list -/

/-- position at which child number `i` is inserted: the number of children already present that precede it -/
def posOf (present : List Nat) (i : Nat) : Nat := (present.filter (· < i)).length

/-- insert the children `order` (indices into the final sequence) one after the other, each at `posOf` -/
def insertOrder : List Nat → List Nat → List Nat
  | present, [] => present
  | present, i :: rest => insertOrder (insertAt present (posOf present i) i) rest

/-- **C11.b** the children given to the constructor (`init`, in their final relative order) and the others inserted
    later in ANY order (`order`), each at the position the final sequence prescribes, end in the final sequence -/
def insert_orders_same_list : Prop :=
  ∀ (n : Nat) (init order : List Nat), (init ++ order).Perm (List.range n) → init.Pairwise (· < ·) →
    insertOrder init order = List.range n

theorem insertAt_perm (l : List Nat) (k x : Nat) : (insertAt l k x).Perm (x :: l) :=
  List.perm_middle.trans (List.Perm.cons x (List.Perm.of_eq (List.take_append_drop k l)))

theorem insertAt_sorted (present : List Nat) (i : Nat) (hs : present.Pairwise (· < ·)) (hi : ¬ i ∈ present) :
    (insertAt present (posOf present i) i).Pairwise (· < ·) := by
  induction present with
  | nil => simp [insertAt, posOf]
  | cons a t ih =>
    obtain ⟨hat, hst⟩ := List.pairwise_cons.mp hs
    by_cases hlt : a < i
    · have e : insertAt (a :: t) (posOf (a :: t) i) i = a :: insertAt t (posOf t i) i := by
        simp [insertAt, posOf, hlt]
      rw [e]
      refine List.pairwise_cons.mpr ⟨fun x hx => ?_, ih hst fun m => hi (List.mem_cons_of_mem _ m)⟩
      rcases List.mem_cons.mp ((insertAt_perm t _ i).mem_iff.mp hx) with rfl | hx
      · exact hlt
      · exact hat x hx
    · have hia : i < a := by
        have : i ≠ a := fun e => hi (e ▸ List.mem_cons_self)
        omega
      have e : insertAt (a :: t) (posOf (a :: t) i) i = i :: a :: t := by
        have : (a :: t).filter (· < i) = [] := List.filter_eq_nil_iff.mpr fun x hx => by
          rcases List.mem_cons.mp hx with rfl | hx
          · simpa using hlt
          · have := hat x hx; simp; omega
        simp [insertAt, posOf, this]
      rw [e]
      refine List.pairwise_cons.mpr ⟨fun x hx => ?_, hs⟩
      rcases List.mem_cons.mp hx with rfl | hx
      · exact hia
      · exact Nat.lt_trans hia (hat x hx)

theorem insertOrder_spec (present order : List Nat) (hs : present.Pairwise (· < ·)) (nd : (present ++ order).Nodup) :
    (insertOrder present order).Pairwise (· < ·) ∧ (insertOrder present order).Perm (present ++ order) := by
  induction order generalizing present with
  | nil => simpa [insertOrder] using hs
  | cons i rest ih =>
    have hp : (insertAt present (posOf present i) i ++ rest).Perm (present ++ i :: rest) :=
      ((insertAt_perm present _ i).append_right rest).trans List.perm_middle.symm
    have hi : ¬ i ∈ present := fun m => (List.nodup_append.mp nd).2.2 i m i List.mem_cons_self rfl
    obtain ⟨s, p⟩ := ih _ (insertAt_sorted present i hs hi) (hp.nodup_iff.mpr nd)
    exact ⟨s, p.trans hp⟩

theorem insert_orders_same_list_holds : insert_orders_same_list := by
  intro n init order hperm hs
  obtain ⟨s, p⟩ := insertOrder_spec init order hs (hperm.nodup_iff.mpr List.nodup_range)
  exact (p.trans hperm).eq_of_pairwise (fun a b _ _ hab hba => absurd hab (Nat.lt_asymm hba)) s List.pairwise_lt_range

/-! ## (c) re-linking after each insertion -/

/-- the link state of a store: the `peng`/`taux` slots of every node (record identity), the record contents, `cod`,
    `subject` -/
def linkState (h : Heap) : Ptr := h.ptr

/-- successive `add(child, position)` of nodes to the phrase `p` -/
def addAll (h : Heap) (p : Nat) : List (Nat × Option Int) → R Heap
  | [] => .ok h
  | (e, pos) :: rest =>
    match phraseAdd1 h p e pos with
    | .ok h1 => addAll h1 p rest
    | .crash c => .crash c
    | .outside => .outside

def items (l : List Nat) : List (Arg Item) := l.map (fun c => Arg.item (Item.node c))

/-- **C11.c** (one node) whatever the base store `h0`, the constructor arguments and the later insertions: when the
    history ends with the child sequence `L`, the link state is the one of the one-shot construction `mk p L` -/
def link_confluent : Prop :=
  ∀ (h0 : Heap) (k : Kind) (lang : Lang) (args : List (Arg Item)) (steps : List (Nat × Option Int)) (hm h : Heap)
    (p : Nat), mkPhrase h0 k lang args = .ok (hm, p) → addAll hm p steps = .ok h →
    ∀ (h1 : Heap) (p1 : Nat), mkPhrase h0 k lang (items (h.kids p)) = .ok (h1, p1) → linkState h = linkState h1

/-- **C11.c** (across levels) attaching `p` to a parent before / after `p` has received its last child (at any position)
    gives the same link state -/
def link_confluent_levels : Prop :=
  ∀ (h0 : Heap) (k1 k2 : Kind) (lang : Lang) (kids1 kidsFinal : List Nat) (c : Nat) (pos : Option Int)
    (before after : List Nat) (ha1 ha hb1 hb2 hb : Heap) (p q p' q' : Nat),
    -- bottom-up: p complete, then the parent
    mkPhrase h0 k1 lang (items kidsFinal) = .ok (ha1, p) →
    mkPhrase ha1 k2 lang (items (before ++ [p] ++ after)) = .ok (ha, q) →
    -- top-down: p without its last child, the parent, then the child is added to p
    mkPhrase h0 k1 lang (items kids1) = .ok (hb1, p') →
    mkPhrase hb1 k2 lang (items (before ++ [p'] ++ after)) = .ok (hb2, q') →
    phraseAdd1 hb2 p' c pos = .ok hb → hb.kids p' = kidsFinal →
    linkState ha = linkState hb

/-! ### refutations (concrete witnesses, replayed on the real code by the harness) -/

def R.isOk {α} : R α → Bool
  | .ok _ => true
  | _ => false

def R.get {α} (d : α) : R α → α
  | .ok a => a
  | _ => d

theorem R.eq_ok {α} (d : α) (r : R α) (h : R.isOk r = true) : r = .ok (R.get d r) := by
  cases r <;> simp_all [R.isOk, R.get]

def tspec (k : Kind) (lem : String) (n : String := "s") : TermSpec :=
  { kind := k, lang := .en, lemma := lem.toList, pe := .i 3, n := .s n.toList, g := .s ['n'], t := .s ['p'] }

/-- `N("cat")`, `A("big")` -/
def w1_base : Heap := (mkTerminal (mkTerminal {} (tspec .N "cat")).1 (tspec .A "big")).1

def w1_hist : Heap × Nat := R.get (default, 0) (mkPhrase w1_base .VP .en (items [0, 1]))
def w1_one : Heap × Nat := R.get (default, 0) (mkPhrase w1_base .VP .en (items [1, 0]))

/-- Witness within ONE node, no `add` at all: `VP(N("cat"), A("big"))` links the VP to the record of its first child
    `cat`, then moves the adjective in front; built from its own resulting sequence `VP(A("big"), N("cat"))` the VP is
    linked to the record of `big`. -/
theorem link_confluent_refuted : ¬ link_confluent := by
  intro H
  have e1 : mkPhrase w1_base .VP .en (items [0, 1]) = .ok w1_hist :=
    R.eq_ok (default, 0) (mkPhrase w1_base .VP .en (items [0, 1])) (by decide)
  have hk : w1_hist.1.kids 2 = [1, 0] := by decide
  have hp : w1_hist.2 = 2 := by decide
  have e2 : mkPhrase w1_base .VP .en (items [1, 0]) = .ok w1_one :=
    R.eq_ok (default, 0) (mkPhrase w1_base .VP .en (items [1, 0])) (by decide)
  have e1' : mkPhrase w1_base .VP .en (items [0, 1]) = .ok (w1_hist.1, 2) :=
    e1.trans (congrArg R.ok (Prod.ext rfl hp))
  have e2' : mkPhrase w1_base .VP .en (items (w1_hist.1.kids 2)) = .ok (w1_one.1, w1_one.2) := by
    rw [hk]; exact e2
  have key := H w1_base .VP .en (items [0, 1]) [] w1_hist.1 w1_hist.1 2 e1' rfl w1_one.1 w1_one.2 e2'
  have := congrArg (fun q => q.peng 2) key
  revert this
  decide

/-- `N("cat").n("p")`, `V("sleep")`, `V("eat")` : handles 0,1,2 -/
def w2_base : Heap :=
  (mkTerminal (mkTerminal (mkTerminal {} (tspec .N "cat" "p")).1 (tspec .V "sleep")).1 (tspec .V "eat")).1

def w2_a1 : Heap × Nat := R.get (default, 0) (mkPhrase w2_base .VP .en (items [2, 1]))
def w2_a2 : Heap × Nat := R.get (default, 0) (mkPhrase w2_a1.1 .S .en (items ([0] ++ [3] ++ [])))
def w2_b1 : Heap × Nat := R.get (default, 0) (mkPhrase w2_base .VP .en (items [1]))
def w2_b2 : Heap × Nat := R.get (default, 0) (mkPhrase w2_b1.1 .S .en (items ([0] ++ [3] ++ [])))
def w2_b3 : Heap := R.get default (phraseAdd1 w2_b2.1 3 2 (some 0))

/-- Witness across levels (repaired code): `vp=VP(V("sleep")); s=S(N("cat").n("p"),vp); vp.add(V("eat"),0)` — the
    ancestors ARE re-linked, `eat` becomes the verb of the sentence, but `sleep` keeps the subject's record that the
    first run of S gave it; bottom-up (`VP(V("eat"),V("sleep"))`) it keeps its own: “Cats eat sleep.” / “… sleeps.” -/
theorem link_confluent_levels_refuted : ¬ link_confluent_levels := by
  intro H
  -- one evaluation of the two assemblies: every step succeeds, the handles and the child list are as stated, and
  -- `sleep` (handle 1) ends with different records
  have ⟨a1, pa, a2, b1, pb, b2, b3, hk, hne⟩ :
      R.isOk (mkPhrase w2_base .VP .en (items [2, 1])) = true ∧ w2_a1.2 = 3 ∧
      R.isOk (mkPhrase w2_a1.1 .S .en (items ([0] ++ [3] ++ []))) = true ∧
      R.isOk (mkPhrase w2_base .VP .en (items [1])) = true ∧ w2_b1.2 = 3 ∧
      R.isOk (mkPhrase w2_b1.1 .S .en (items ([0] ++ [3] ++ []))) = true ∧
      R.isOk (phraseAdd1 w2_b2.1 3 2 (some 0)) = true ∧ w2_b3.kids 3 = [2, 1] ∧
      (linkState w2_a2.1).peng 1 ≠ (linkState w2_b3).peng 1 := by decide +kernel
  exact hne (congrArg (fun q => q.peng 1)
    (H w2_base .VP .S .en [1] [2, 1] 2 (some 0) [0] [] w2_a1.1 w2_a2.1 w2_b1.1 w2_b2.1 w2_b3 3 w2_a2.2 3 w2_b2.2
      ((R.eq_ok (default, 0) _ a1).trans (congrArg R.ok (Prod.ext rfl pa))) (R.eq_ok (default, 0) _ a2)
      ((R.eq_ok (default, 0) _ b1).trans (congrArg R.ok (Prod.ext rfl pb))) (R.eq_ok (default, 0) _ b2) (R.eq_ok default _ b3) hk))

/-! ### what is true: absorption of the earlier link runs -/

theorem addAll_trace (h : Heap) (p : Nat) (steps : List (Nat × Option Int)) (h' : Heap)
    (hr : addAll h p steps = .ok h') : ∃ Ps, Trace p h steps Ps h' := by
  induction steps generalizing h with
  | nil => simp [addAll] at hr; subst hr; exact ⟨[], Trace.nil h⟩
  | cons s rest ih =>
    obtain ⟨e, pos⟩ := s
    simp only [addAll] at hr
    cases h1r : phraseAdd1 h p e pos with
    | crash c => rw [h1r] at hr; simp at hr
    | outside => rw [h1r] at hr; simp at hr
    | ok h1 =>
      rw [h1r] at hr
      obtain ⟨Ps, tr⟩ := ih h1 hr
      obtain ⟨P, Qs, hl, hu, hp, hlk, u, rfl⟩ := phraseAdd1_trace h p e pos h1 h1r
      exact ⟨P :: Qs ++ Ps, Trace.cons hp hlk u tr⟩

/-- absorption with several final runs (the re-linked node and then its ancestors) -/
theorem runs_absorbed_many (q : Ptr) (Ps Qs : List (List Act)) (W V : List Wr)
    (hW : runW q Ps = some W) (hV : runW q Qs = some V) (stable : runW (applyW q W) Qs = some V)
    (cover : ∀ l ∈ locs W, l ∈ locs V) : runPlans q (Ps ++ Qs) = runPlans q Qs := by
  rw [runPlans_append, runW_sound q Ps W hW]
  simp only
  rw [runW_sound _ Qs V stable, runW_sound q Qs V hV, applyW_absorb q W V cover]

/-- **C11.c partial** (every history of insertions into one node, attached or not).  `hinit`/`hinit'` are the stores in
    which the first link run of the history / of the one-shot construction takes place (same pointer part).  If
    * the history's link runs are `Ps` followed by the runs `Qs` of its LAST insertion (the receiver, then each of its
      ancestors), and the one-shot construction performs the same runs `Qs`,
    * every location written by the earlier runs (`W`) is written again by `Qs` (`cover`),
    * `Qs` perform the same constant writes `V` in the state the history reached as in the base state (`stable`),
    then the history ends in the link state of the one-shot construction. -/
theorem link_confluent_partial (hinit hinit' : Heap) (p p' : Nat) (steps : List (Nat × Option Int))
    (Ps Qs : List (List Act)) (h : Heap) (e' : Nat) (pos' : Option Int) (h1 : Heap)
    (base : hinit.ptr = hinit'.ptr)
    (tr : Trace p hinit steps (Ps ++ Qs) h) (one : Trace p' hinit' [(e', pos')] Qs h1)
    (pure : ∀ Q ∈ Ps ++ Qs, PurePlan Q)
    (W V : List Wr) (hW : runW hinit.ptr Ps = some W) (hV : runW hinit.ptr Qs = some V)
    (stable : runW (applyW hinit.ptr W) Qs = some V) (cover : ∀ l ∈ locs W, l ∈ locs V) :
    linkState h = linkState h1 := by
  have t1 := trace_ptr tr pure
  have t2 := trace_ptr one (fun Q hQ => pure Q (by simp [hQ]))
  rw [runs_absorbed_many _ Ps Qs W V hW hV stable cover] at t1
  rw [← base] at t2
  rw [t1] at t2
  simp only [Except.ok.injEq] at t2
  exact t2

theorem headed_pure (wt : Bool) (p : Nat) (Q : List Act) (hQ : Headed wt p Q) : PurePlan Q := by
  rcases hQ with rfl | ⟨hd, _, rfl⟩
  · intro a ha; simp at ha
  · intro a ha
    cases wt <;> simp [headedPlan] at ha
    · subst ha; rfl
    · rcases ha with rfl | rfl <;> rfl

/-- **C11.c structural** (VP, PP, AP, AdvP — the phrases whose link run only copies the record(s) of their head;
    `Lemmas/HeapHeaded.plan_headed`: every plan of such a phrase that does not contain itself has the form `Headed`).
    For EVERY history of insertions into such a phrase `p` (not yet attached), in any order and at any position: if the
    head `H` of the final child list has an agreement record (and a tense record when `p` is a VP, `wt = true`) — e.g. it
    is the V of the VP, the A of the AP — the history ends in the link state of the one-shot construction, whatever the
    heads of the intermediate child lists were (`VP(Adv("now")).add(V("sleep"))`, a head inserted in front of another …).
    The condition fails exactly in the known within-node findings of these kinds (a final head without record: PP, a
    phrase left headless). -/
theorem link_confluent_headed (wt : Bool) (hinit hinit' : Heap) (p p' : Nat) (steps : List (Nat × Option Int))
    (Ps : List (List Act)) (H : Nat) (h : Heap) (e' : Nat) (pos' : Option Int) (h1 : Heap)
    (base : hinit.ptr = hinit'.ptr)
    (tr : Trace p hinit steps (Ps ++ [headedPlan wt p H]) h)
    (one : Trace p' hinit' [(e', pos')] [headedPlan wt p H] h1)
    (shape : ∀ Q ∈ Ps, Headed wt p Q) (hH : H ≠ p) (hp : (hinit.peng H).isSome)
    (ht : wt = true → (hinit.taux H).isSome) : linkState h = linkState h1 := by
  have pureF : PurePlan (headedPlan wt p H) := headed_pure wt p _ (Or.inr ⟨H, hH, rfl⟩)
  have pure : ∀ Q ∈ Ps ++ [headedPlan wt p H], PurePlan Q := by
    intro Q hQ
    rcases List.mem_append.mp hQ with hQ | hQ
    · exact headed_pure wt p Q (shape Q hQ)
    · simp at hQ; subst hQ; exact pureF
  have t1 := trace_ptr tr pure
  have t2 := trace_ptr one (fun Q hQ => by simp at hQ; subst hQ; exact pureF)
  rw [headed_absorbed wt hinit.ptr p H Ps shape hH hp ht] at t1
  simp only [runPlans] at t2
  rw [← base] at t2
  cases hx : execP hinit.ptr (headedPlan wt p H) with
  | error c => rw [hx] at t1; cases t1
  | ok q =>
    rw [hx] at t1 t2
    simp only [Except.ok.injEq] at t1 t2
    simp only [linkState, ← t1, ← t2]

/-- **C11.c partial** (across levels, on the pointer part).  A history whose link runs are `Ps` (nodes linked while
    still incomplete, ancestors linked before their descendants were complete …) and which ENDS by re-linking, bottom-up,
    the nodes `Qs` (the receiver of the last `add` and then every ancestor) reaches the link state of running `Qs` alone
    — i.e. of bottom-up construction — as soon as the final runs cover what the earlier ones wrote and are stable.
    Since 54ff0b6 the code performs the ancestor runs after every `add`; `link_confluent_levels_refuted` is a history in
    which `cover` fails (a node linked by an earlier run is no longer written by the final ones). -/
theorem link_confluent_levels_partial (q : Ptr) (Ps Qs : List (List Act)) (W V : List Wr)
    (hW : runW q Ps = some W) (hV : runW q Qs = some V) (stable : runW (applyW q W) Qs = some V)
    (cover : ∀ l ∈ locs W, l ∈ locs V) : runPlans q (Ps ++ Qs) = runPlans q Qs :=
  runs_absorbed_many q Ps Qs W V hW hV stable cover

/-! ## (d) `typ` -/

/-- a dict: unique keys -/
def IsDict (d : Dict) : Prop := d.keys.Nodup

/-- value of flag `k` in the stored map after the successive calls `ds` on a fresh receiver -/
def flagAfter (lang : Lang) (ds : List Dict) (k : Str) : Option Val :=
  lookup k ((storedAfter lang none ds).getD [])

theorem flagAfter_eq (lang : Lang) (ds : List Dict) (nd : ∀ d ∈ ds, IsDict d) (k : Str) :
    flagAfter lang ds k = effective lang ds k := by
  rw [flagAfter, lookup_storedAfter lang none ds nd k]
  exact Option.or_none

/-- call by call, the same dict up to the order of its keys -/
inductive PermEach : List Dict → List Dict → Prop where
  | nil : PermEach [] []
  | cons {d d' : Dict} {ds ds' : List Dict} : d.Perm d' → PermEach ds ds' → PermEach (d :: ds) (d' :: ds')

/-- **C11.d1** the key order inside each call is irrelevant -/
def typ_merge_order_free : Prop :=
  ∀ (lang : Lang) (ds ds' : List Dict), (∀ d ∈ ds, IsDict d) → PermEach ds ds' →
    ∀ k, flagAfter lang ds k = flagAfter lang ds' k

theorem effective_perm (lang : Lang) (ds ds' : List Dict) (nd : ∀ d ∈ ds, IsDict d)
    (hp : PermEach ds ds') (k : Str) : effective lang ds k = effective lang ds' k := by
  induction hp with
  | nil => rfl
  | cons hd _ ih =>
    simp only [effective]
    rw [ih (fun d hdm => nd d (List.mem_cons_of_mem _ hdm))]
    have h1 := nd _ List.mem_cons_self
    unfold lookupV
    rw [lookup_perm (keys_filter_nodup h1 _) (hd.filter _) k]

theorem typ_merge_order_free_holds : typ_merge_order_free := by
  intro lang ds ds' nd hp k
  have nd' : ∀ d ∈ ds', IsDict d := by
    intro d hd
    induction hp with
    | nil => simp at hd
    | cons h _ ih =>
      rcases List.mem_cons.mp hd with rfl | hd
      · exact (List.Perm.map _ h).nodup_iff.mp (nd _ List.mem_cons_self)
      · exact ih (fun d hdm => nd d (List.mem_cons_of_mem _ hdm)) hd
  rw [flagAfter_eq lang ds nd, flagAfter_eq lang ds' nd', effective_perm lang ds ds' nd hp]

/-- **C11.d2** one call with a dict = the same entries given in several successive calls, for EVERY way of cutting it -/
def typ_split_equiv : Prop :=
  ∀ (lang : Lang) (ds : List Dict), IsDict ds.flatten → ∀ k, flagAfter lang ds k = flagAfter lang [ds.flatten] k

theorem effective_flatten (lang : Lang) (ds : List Dict) (nd : IsDict ds.flatten) (k : Str) :
    effective lang ds k = lookupV lang ds.flatten k := by
  induction ds with
  | nil => rfl
  | cons d ds ih =>
    unfold IsDict Dict.keys at nd ih
    simp only [List.flatten_cons, List.map_append] at nd
    obtain ⟨_, nd2, disj⟩ := List.nodup_append.mp nd
    simp only [effective, ih nd2, lookupV, List.flatten_cons, List.filter_append, lookup_append]
    cases h1 : lookup k (List.filter (keptB lang) d) with
    | none => simp
    | some v =>
      cases h2 : lookup k (List.filter (keptB lang) ds.flatten) with
      | none => rfl
      | some v' =>
        -- impossible: the key would occur twice
        have m1 := (List.mem_filter.mp (lookup_mem h1)).1
        have m2 := (List.mem_filter.mp (lookup_mem h2)).1
        exact absurd rfl (disj k (List.mem_map.mpr ⟨_, m1, rfl⟩) k (List.mem_map.mpr ⟨_, m2, rfl⟩))

theorem typ_split_equiv_holds : typ_split_equiv := by
  intro lang ds nd k
  have ndall : ∀ d ∈ ds, IsDict d := by
    intro d hd
    unfold IsDict Dict.keys at *
    have : List.Sublist d ds.flatten := List.sublist_flatten_of_mem hd
    exact (this.map _).nodup nd
  rw [flagAfter_eq lang ds ndall, flagAfter_eq lang [ds.flatten] (by simpa using nd)]
  rw [effective_flatten lang ds nd k]
  simp [effective]

/-- **C11.d3** a later valid value replaces an earlier one (what is stored is the value itself, or the boolean a
    numeric 0 / 1 is equal to: `normVal`) -/
def typ_later_wins : Prop :=
  ∀ (lang : Lang) (ds : List Dict) (d : Dict) (k : Str) (v : Val), (∀ x ∈ ds ++ [d], IsDict x) →
    (k, v) ∈ d → entryKept lang k v = true →
      flagAfter lang (ds ++ [d]) k = some (normVal lang k v) ∧
      ((v.isBool || v.isStr) = true → flagAfter lang (ds ++ [d]) k = some v)

theorem effective_snoc (lang : Lang) (ds : List Dict) (d : Dict) (k : Str) :
    effective lang (ds ++ [d]) k = (lookupV lang d k).or (effective lang ds k) := by
  induction ds with
  | nil => simp [effective]
  | cons x t ih => simp only [List.cons_append, effective, ih, Option.or_assoc]

theorem normVal_of_bool_str (lang : Lang) (k : Str) (v : Val) (hv : (v.isBool || v.isStr) = true) : normVal lang k v = v := by
  unfold normVal needsNorm
  cases lookup k Gen.TypConsts.allowedTypes with
  | none => simp
  | some _ => simp only; split <;> simp [hv]

theorem typ_later_wins_holds : typ_later_wins := by
  intro lang ds d k v nd hm hk
  have ndd : IsDict d := nd d (by simp)
  have : lookupV lang d k = some (normVal lang k v) := by
    unfold lookupV
    rw [lookup_of_mem_nodup (keys_filter_nodup ndd _) (List.mem_filter.mpr ⟨hm, by simpa [keptB] using hk⟩)]
    rfl
  have e : flagAfter lang (ds ++ [d]) k = some (normVal lang k v) := by
    rw [flagAfter_eq lang _ nd, effective_snoc, this, Option.some_or]
  exact ⟨e, fun hv => by rw [e, normVal_of_bool_str lang k v hv]⟩

/-- since 6301216 a numeric `0` is stored as `False`: "False equals absent" holds for it too (with
    `typ_false_eq_absent` below: every reader treats the stored `False` as an absent flag) -/
theorem typ_zero_stored_false (lang : Lang) (ds : List Dict) (d : Dict) (k : Str) (nd : ∀ x ∈ ds ++ [d], IsDict x)
    (hm : (k, Val.i 0) ∈ d) (hk : entryKept lang k (.i 0) = true) (hn : needsNorm lang (k, .i 0) = true) :
    flagAfter lang (ds ++ [d]) k = some (.b false) := by
  have := (typ_later_wins_holds lang ds d k (.i 0) nd hm hk).1
  rw [this]
  simp [normVal, hn, Val.truthy]

/-- **C11.d4** a flag set to `False` reads like an absent flag, for every reader idiom that the sources use -/
def typ_false_eq_absent : Prop :=
  (∀ st ∈ Gen.TypConsts.readerSites, falseEqAbsent st.idiom = true) ∧
  (∀ (i : Idiom), falseEqAbsent i = true → ∀ (T : Dict) (K K' : Str),
      read i (Dict.set T K (.b false)) K' = read i (Dict.del T K) K')

/-- every reader site of the generated inventory uses an idiom that cannot tell `False` from absent
    (`decide` over the complete table: re-proved whenever a reader is added or changed) -/
theorem typ_false_eq_absent_sites : ∀ st ∈ Gen.TypConsts.readerSites, falseEqAbsent st.idiom = true := by
  decide

theorem typ_false_eq_absent_holds : typ_false_eq_absent :=
  ⟨typ_false_eq_absent_sites, fun i hi T K K' => read_false_eq_absent i hi T K K'⟩

/-- **C11.d5** an entry that fails validation (an illegal value for a known flag) is dropped with a warning: the flag
    keeps the value it had, the other flags are what they would be without the entry; an unknown key only warns -/
def typ_invalid_ignored : Prop :=
  ∀ (lang : Lang) (ds : List Dict) (d : Dict) (k : Str) (v : Val), (∀ x ∈ ds ++ [d], IsDict x) →
    (k, v) ∈ d → entryKept lang k v = false →
      flagAfter lang (ds ++ [d]) k = flagAfter lang ds k ∧
      (∀ k', k' ≠ k → flagAfter lang (ds ++ [d]) k' = flagAfter lang (ds ++ [Dict.del d k]) k') ∧
      1 ≤ (validate lang d).2 ∧
      (∀ (k0 : Str) (v0 : Val), lookup k0 Gen.TypConsts.allowedTypes = none → (k0, v0) ∈ d → 1 ≤ (validate lang d).2)

theorem keys_del_nodup {d : Dict} (nd : IsDict d) (k : Str) : IsDict (Dict.del d k) := keys_filter_nodup nd _

theorem typ_invalid_ignored_holds : typ_invalid_ignored := by
  intro lang ds d k v nd hm hk
  have ndd : IsDict d := nd d (by simp)
  have nds : ∀ x ∈ ds, IsDict x := fun x hx => nd x (by simp [hx])
  have hnone : lookup k (d.filter (keptB lang)) = none := by
    cases h : lookup k (d.filter (keptB lang)) with
    | none => rfl
    | some v' =>
      have m := List.mem_filter.mp (lookup_mem h)
      have : lookup k d = some v' := lookup_of_mem_nodup ndd m.1
      rw [lookup_of_mem_nodup ndd hm] at this
      cases this
      simp [keptB, hk] at m
  refine ⟨?_, ?_, ?_, ?_⟩
  · rw [flagAfter_eq lang _ nd, flagAfter_eq lang ds nds, effective_snoc]
    simp only [lookupV, hnone, Option.map_none, Option.none_or]
  · intro k' hne
    have nd2 : ∀ x ∈ ds ++ [Dict.del d k], IsDict x := by
      intro x hx
      rcases List.mem_append.mp hx with hx | hx
      · exact nds x hx
      · simp at hx; subst hx; exact keys_del_nodup ndd k
    rw [flagAfter_eq lang _ nd, flagAfter_eq lang _ nd2, effective_snoc, effective_snoc]
    have : lookup k' ((Dict.del d k).filter (keptB lang)) = lookup k' (d.filter (keptB lang)) := by
      unfold Dict.del
      rw [List.filter_filter]
      have : (List.filter (fun a => keptB lang a && (a.1 != k)) d) = (d.filter (keptB lang)).filter (fun kv => kv.1 != k) := by
        rw [List.filter_filter]; congr 1; funext a; exact Bool.and_comm _ _
      rw [this]
      exact lookup_filter_ne _ k' k hne
    simp only [lookupV, this]
  · rw [validate_snd]
    apply List.length_pos_of_mem (a := (k, v))
    apply List.mem_filter.mpr
    refine ⟨hm, ?_⟩
    unfold entryWarns
    cases hl : lookup k Gen.TypConsts.allowedTypes with
    | none => simp [entryKept, hl] at hk
    | some al => simp [hk]
  · intro k0 v0 hl hm0
    rw [validate_snd]
    apply List.length_pos_of_mem (a := (k0, v0))
    exact List.mem_filter.mpr ⟨hm0, by simp [entryWarns, hl]⟩

/-! ## non-vacuity: concrete instances of the hypotheses -/

/-- test: nested lists, tuples and `None` -/
example : flatten [Arg.item 1, .list [.item 2, .none, .list [.item 3, .list []]], .none, .item 0] = [1, 2, 3, 0] := by
  decide +kernel

/-- test: the four children 0..3, two given to the constructor, the others inserted in the order 3, 1 -/
example : insertOrder [0, 2] [3, 1] = [0, 1, 2, 3] := by decide +kernel

/-- test: a French dict with a legal, an illegal and an unknown entry, then a later call -/
example : flagAfter .fr [[(s "neg", .s (s "plus")), (s "mod", .s (s "xx")), (s "foo", .b true)], [(s "pas", .b true)]]
    (s "neg") = some (.s (s "plus")) := by decide +kernel

/-- test: `mod: 0` given after `mod: "poss"` is accepted (0 == False) and stored as `False` -/
example : flagAfter .en [[(s "mod", .s (s "poss"))], [(s "mod", .i 0), (s "exc", .i 1)]] (s "mod") = some (.b false) ∧
    flagAfter .en [[(s "mod", .s (s "poss"))], [(s "mod", .i 0), (s "exc", .i 1)]] (s "exc") = some (.b true) := by decide +kernel


/-- the store in which the first link run of `Phrase(k, kids)` takes place is `preLink (preMk …) p last none` -/
def preMk (h : Heap) (k : Kind) (lang : Lang) (kids : List Nat) : Heap :=
  initElems { h with n := h.n + 1, node := upd h.node h.n { kind := k, lang := lang } } h.n (kids.dropLast.map Item.node)

def nv_h0 : Heap := (mkTerminal (mkTerminal {} (tspec .D "the")).1 (tspec .N "cat" "p")).1
def nv_init : Heap := preMk nv_h0 .NP .en [0]
def nv_l0 : Heap := R.get default (linkR (preLink nv_init 2 0 none) 2)
def nv_a : Heap := reorder nv_l0 2
def nv_l1 : Heap := R.get default (linkR (preLink nv_a 2 1 none) 2)
def nv_b : Heap := reorder nv_l1 2
def nv_init' : Heap := preMk nv_h0 .NP .en [0, 1]
def nv_l1' : Heap := R.get default (linkR (preLink nv_init' 2 1 none) 2)
def nv_one : Heap := reorder nv_l1' 2
def nv_P0 : List Act := (plan (preLink nv_init 2 0 none) 2).getD []
def nv_P : List Act := (plan (preLink nv_a 2 1 none) 2).getD []

/-- non-vacuity of `link_confluent_partial`: `NP(D("the")).add(N("cat").n("p"))` against `NP(D("the"),N("cat").n("p"))`:
    the first run links NP and D to the record of D, the final run re-points both to the record of the noun -/
example : linkState nv_b = linkState nv_one :=
  link_confluent_partial nv_init nv_init' 2 2 [(0, none), (1, none)] [nv_P0] [nv_P] nv_b 1 none nv_one rfl
    (Trace.cons (Qs := []) (by decide) (R.eq_ok default _ (by decide)) (UpRuns.top (by decide))
      (Trace.cons (Qs := []) (Ps := []) (by decide) (R.eq_ok default _ (by decide)) (UpRuns.top (by decide))
        (Trace.nil _)))
    (Trace.cons (Qs := []) (Ps := []) (by decide) (R.eq_ok default _ (by decide)) (UpRuns.top (by decide)) (Trace.nil _))
    (by decide) ((runW nv_init.ptr [nv_P0]).getD []) ((runW nv_init.ptr [nv_P]).getD [])
    (by decide) (by decide) (by decide) (by decide)

/-- … and the two link states are not trivial: the determiner ends up sharing the noun's record -/
example : nv_b.peng 0 = nv_b.peng 1 ∧ nv_a.peng 0 ≠ nv_b.peng 0 := by decide +kernel

-- `VP(Adv("now")).add(V("sleep"))` against `VP(Adv("now"),V("sleep"))`: the first run sees the head `now` (no record)
def hd_h0 : Heap := (mkTerminal (mkTerminal {} (tspec .Adv "now")).1 (tspec .V "sleep")).1
def hd_init : Heap := preMk hd_h0 .VP .en [0]
def hd_l0 : Heap := R.get default (linkR (preLink hd_init 2 0 none) 2)
def hd_l1 : Heap := R.get default (linkR (preLink (reorder hd_l0 2) 2 1 none) 2)
def hd_init' : Heap := preMk hd_h0 .VP .en [0, 1]
def hd_l1' : Heap := R.get default (linkR (preLink hd_init' 2 1 none) 2)

/-- non-vacuity of `link_confluent_headed` (the head changes from `now` to `sleep`) -/
example : linkState (reorder hd_l1 2) = linkState (reorder hd_l1' 2) :=
  link_confluent_headed true hd_init hd_init' 2 2 [(0, none), (1, none)] [headedPlan true 2 0] 1 _ 1 none _ rfl
    (Trace.cons (Qs := []) (by decide) (R.eq_ok default _ (by decide)) (UpRuns.top (by decide))
      (Trace.cons (Qs := []) (Ps := []) (by decide) (R.eq_ok default _ (by decide)) (UpRuns.top (by decide))
        (Trace.nil _)))
    (Trace.cons (Qs := []) (Ps := []) (by decide) (R.eq_ok default _ (by decide)) (UpRuns.top (by decide)) (Trace.nil _))
    (by intro Q hQ; simp at hQ; subst hQ; exact Or.inr ⟨0, by decide, rfl⟩) (by decide) (by decide) (by decide)

/-- … and its plans are indeed of the headed form, by `plan_headed` -/
example : Headed true 2 ((plan (preLink hd_init 2 0 none) 2).getD []) :=
  plan_headed (preLink hd_init 2 0 none) 2 _ (by decide) (by decide) (by decide)

-- top-down assembly of “the cats sleep”: np=NP(D("the")); s=S(np,VP(V("sleep"))); np.add(N("cat").n("p"))
def lv_base : Heap :=
  let h := (mkTerminal (mkTerminal (mkTerminal {} (tspec .D "the")).1 (tspec .V "sleep")).1 (tspec .N "cat" "p")).1
  (R.get (default, 0) (mkPhrase h .VP .en (items [1]))).1
def lv_b1 : Heap × Nat := R.get (default, 0) (mkPhrase lv_base .NP .en (items [0]))
def lv_b2 : Heap × Nat := R.get (default, 0) (mkPhrase lv_b1.1 .S .en (items [4, 3]))
def lv_b3 : Heap := R.get default (phraseAdd1 lv_b2.1 4 2 none)
def lv_q : Ptr := lv_base.ptr
def lv_P1 : List Act := (plan (preLink (preMk lv_base .NP .en [0]) 4 0 none) 4).getD []
def lv_S1 : List Act := (plan (preLink (preMk lv_b1.1 .S .en [4, 3]) 5 3 none) 5).getD []
def lv_P2 : List Act := (plan (preLink lv_b2.1 4 2 none) 4).getD []
def lv_S2 : List Act := (plan lv_b3 5).getD []

/-- non-vacuity of `link_confluent_levels_partial`: the link runs of that top-down assembly (NP, S, then NP and its
    ancestor S again after the `add`) reach the state of the two final runs alone -/
example : runPlans lv_q ([lv_P1, lv_S1] ++ [lv_P2, lv_S2]) = runPlans lv_q [lv_P2, lv_S2] :=
  link_confluent_levels_partial lv_q [lv_P1, lv_S1] [lv_P2, lv_S2]
    ((runW lv_q [lv_P1, lv_S1]).getD []) ((runW lv_q [lv_P2, lv_S2]).getD [])
    (by decide) (by decide) (by decide) (by decide)

/-- … after which the verb shares the record of the noun (handle 2), as in bottom-up construction — and this is what the
    repaired `add` computes (“The cats sleep.”) -/
example : (match runPlans lv_q [lv_P2, lv_S2] with | .ok q => q.peng 1 == q.peng 2 | _ => false) = true := by decide +kernel
example : lv_b3.peng 1 = lv_b3.peng 2 := by decide +kernel

end Pyrealb.C11
