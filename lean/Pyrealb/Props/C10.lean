import Pyrealb.Lemmas.FormatSpace
import Pyrealb.Lemmas.FormatStop
import Pyrealb.Lemmas.FormatWrap
import Pyrealb.Lemmas.FormatTablesOK
import Pyrealb.Lemmas.FormatTree
/-! # C10 — surface formatting: capital, final mark, spacing, punctuation and HTML tags

The model (`Model/Format`) mirrors `Constituent.doFormat`, `titleCase`, `detokenize`; it is
parametric in the punctuation tables and in Python's case mapping (`CaseMap`).  Theorems hold for every case map satisfying
`SpaceOK` / `PunctOK` (proved of the tabulated Python case map in `Lemmas/FormatTablesOK`), for token lists / trees of every size.  Clauses the unchanged code violates are
`_refuted` by a concrete witness (replayed on the real code by the harness) and come with a `_partial`. -/
deriving instance DecidableEq for Except

namespace Pyrealb.C10
open Pyrealb Pyrealb.Format

/-- **C10.a** the joined text never contains a doubled space (tokens themselves free of doubled spaces) -/
def detok_no_double_space : Prop :=
  ∀ (cm : CaseMap) (cfg : DetokCfg) (toks : List Tok) (x : Str), SpaceOK cm →
    (∀ t ∈ toks, NoDbl t.real) → detokenize cm cfg toks = .ok x → NoDbl x

theorem detok_no_double_space_holds : detok_no_double_space :=
  fun _ cfg toks x hc h hx => (detokenize_spaces hc cfg toks x h hx).1

/-- **C10.b** … and never starts with a space -/
def detok_no_leading_space : Prop :=
  ∀ (cm : CaseMap) (cfg : DetokCfg) (toks : List Tok) (x : Str), SpaceOK cm →
    (∀ t ∈ toks, NoDbl t.real) → detokenize cm cfg toks = .ok x → x.head? ≠ some ' '

theorem detok_no_leading_space_holds : detok_no_leading_space :=
  fun _ cfg toks x hc h hx => (detokenize_spaces hc cfg toks x h hx).2

-- non-vacuity: the hypotheses hold of the shipped case map and of a token list with library-spaced signs
example : SpaceOK pyCase := pyCase_spaceOK
example : detokenize pyCase { lang := .en, cap := .absent, top := true, tagged := false }
    [{ real := s "the" }, { real := s " (cat) " }, { real := s "sleeps, " }, { real := s " « now » " }]
    = .ok (s "The (cat) sleeps, « now » . ") := by
  repeat rw [s_ofList]
  decide +kernel

/-! no space before a comma or a full stop, in the reading of DESIGN §6: library-inserted spacing, one sign per junction -/

/-- a word carrying at most one sign attached before it and one after it -/
structure Piece where
  b : Option Str
  w : Str
  /-- sign attached after the word; `true`: it is the closing half of an `en` option -/
  a : Option (Str × Bool)

/-- the token `doFormat` produces for the piece -/
def pieceTok (tb : Tables) (p : Piece) : Except Crash Tok :=
  (match p.b with
    | none => .ok []
    | some x => (getBA tb x).map (·.1)) >>= fun bs =>
  (match p.a with
    | none => .ok []
    | some (x, cl) => (getBA tb x).map (fun q => if cl then q.2 else q.1)) >>= fun as =>
  .ok { real := bs ++ p.w ++ as }

def piecesToks (tb : Tables) : List Piece → Except Crash (List Tok)
  | [] => .ok []
  | p :: r => pieceTok tb p >>= fun t => piecesToks tb r >>= fun l => .ok (t :: l)

def cleanWord (w : Str) : Bool := !w.isEmpty && !w.contains ' ' && !headCS w

def lexSign (tb : Tables) (x : Str) : Bool := (lookup x tb.lex).isSome && !x.contains ' '

def pieceOK (tb : Tables) (p : Piece) : Bool :=
  cleanWord p.w
  && (match p.b with | none => true | some x => lexSign tb x)
  && (match p.a with | none => true | some (x, _) => lexSign tb x)

def singleJunction : List Piece → Bool
  | p :: q :: r => !(p.a.isSome && q.b.isSome) && singleJunction (q :: r)
  | _ => true

/-- **C10.c** (full clause) a warning-free top-level sentence made of plain words, each junction carrying at most one
    lexicon sign with the spacing of its pc rule, contains no space before a comma or a full stop -/
def no_space_before_comma_or_stop : Prop :=
  ∀ (lang : Lang) (ps : List Piece) (toks : List Tok) (x : Str),
    (∀ p ∈ ps, pieceOK (tablesOf lang) p = true) → singleJunction ps = true →
    piecesToks (tablesOf lang) ps = .ok toks →
    detokenize pyCase { lang := lang, cap := .absent, top := true, tagged := false } toks = .ok x →
    NoSpaceBefore x

def witnessQuote : List Piece :=
  [⟨none, s "the", none⟩, ⟨none, s "cat", none⟩, ⟨some (s "\""), s "sleeps", some (s "\"", true)⟩]

/-- the unchanged code: `S(NP(D("the"),N("cat")),VP(V("sleep")).en('"'))` is `The cat "sleeps" . ` -/
theorem no_space_before_comma_or_stop_refuted : ¬ no_space_before_comma_or_stop := by
  intro h
  have hev : (∀ p ∈ witnessQuote, pieceOK (tablesOf .en) p = true) ∧
      piecesToks (tablesOf .en) witnessQuote =
        .ok [{ real := s "the" }, { real := s "cat" }, { real := s " \"sleeps\" " }] ∧
      detokenize pyCase { lang := .en, cap := .absent, top := true, tagged := false }
        [{ real := s "the" }, { real := s "cat" }, { real := s " \"sleeps\" " }] = .ok (s "The cat \"sleeps\" . ") := by
    unfold witnessQuote
    repeat rw [s_ofList]
    decide +kernel
  refine (h .en witnessQuote _ _ hev.1 (by decide) hev.2.1 hev.2.2).2 ⟨s "The cat \"sleeps\"", [' '], ?_⟩
  repeat rw [s_ofList]
  rfl

/-- what holds: tokens free of “space + comma/stop”, none after the first beginning with a comma or a full stop, and no
    final space when a full stop is appended -/
theorem no_space_before_comma_or_stop_partial :
    ∀ (cm : CaseMap) (cfg : DetokCfg) (toks : List Tok) (x : Str), PunctOK cm →
      (∀ t ∈ toks, NoSpaceBefore t.real) → (∀ t ∈ toks.tail, HeadOK t) →
      (∀ body, joinToks cm cfg.lang (decide (cfg.lang = .en ∧ cfg.cap = .tit)) toks = .ok body →
        body.getLast? ≠ some ' ' ∨
        ∃ c, lastVis (upperAt cm body (sepWord cm body).1) = some c ∧ marks.contains c = true) →
      detokenize cm cfg toks = .ok x → NoSpaceBefore x := by
  intro cm cfg toks x hc h hh hend hx
  refine (noSpaceBefore_iff x).mpr (detokenize_noSp hc rfl rfl cfg toks x (fun t ht => (noSpaceBefore_iff _).mp (h t ht))
    (fun t ht => headCS_eq _ ▸ hh t ht) (.inr ?_) hx).1
  intro body c hj hlv hm
  rcases hend body hj with hl | ⟨c', hc', hm'⟩
  · exact hl
  · rw [hlv] at hc'; cases hc'; rw [hm] at hm'; cases hm'

/-- **C10.d** top-level, capitalization not switched off, sentence not wrapped in a tag: a full stop and a space are
    appended exactly when the last visible character `c` (what follows it is spaces and complete tags) is not one of
    `? ! . : ; / ) ] }` -/
def final_stop_iff : Prop :=
  ∀ (cm : CaseMap) (cfg : DetokCfg) (toks : List Tok) (body core : Str) (c : Char) (trail : Str),
    cfg.top = true → (cfg.cap = .absent ∨ cfg.cap = .t ∨ cfg.cap = .tit) → cfg.tagged = false → toks ≠ [] →
    joinToks cm cfg.lang (decide (cfg.lang = .en ∧ cfg.cap = .tit)) toks = .ok body →
    upperAt cm body (sepWord cm body).1 = core ++ c :: trail →
    Trail trail → inAngle false core = false → c ≠ ' ' → c ≠ '<' →
    detokenize cm cfg toks = .ok (core ++ c :: trail ++ (if marks.contains c then [] else ['.', ' ']))

theorem final_stop_iff_holds : final_stop_iff := by
  intro cm cfg toks body core c trail htop hcap htag hne hj hb ht hcore hc1 hc2
  have hlv := lastVis_eq core c trail hcore hc1 hc2 ht
  have hbody : body ≠ [] := by rintro rfl; simp [upperAt_nil] at hb
  rw [detokenize_eq, hj, ex_bind_ok, ex_pure, finish_top cm cfg body htop hcap hbody, hb, hlv]
  by_cases hm : c ∈ marks <;> simp [htag, hm]

example : detokenize pyCase { lang := .en, cap := .absent, top := true, tagged := false }
    [{ real := s "the" }, { real := s "<b>cat</b>" }, { real := s "<i>sleeps! </i>" }]
    = .ok (s "The <b>cat</b> <i>sleeps! </i>") := by
  repeat rw [s_ofList]
  decide +kernel

/-- leading material without any word character outside tags -/
inductive NoWord (cm : CaseMap) : Str → Prop where
  | nil : NoWord cm []
  | skip {c : Char} {x : Str} : cm.isWord c = false → c ≠ '<' → NoWord cm x → NoWord cm (c :: x)
  | tag {body x : Str} : body ≠ [] → '>' ∉ body → NoWord cm x → NoWord cm ('<' :: body ++ '>' :: x)

/-- **C10.e** (full clause) the first word character of a top-level sentence is upper-cased -/
def starts_upper : Prop :=
  ∀ (cm : CaseMap) (cfg : DetokCfg) (toks : List Tok) (body pre : Str) (c : Char) (rest : Str),
    cfg.top = true → (cfg.cap = .absent ∨ cfg.cap = .t ∨ cfg.cap = .tit) →
    joinToks cm cfg.lang (decide (cfg.lang = .en ∧ cfg.cap = .tit)) toks = .ok body → toks ≠ [] →
    body = pre ++ c :: rest → NoWord cm pre → cm.isWord c = true → c ≠ '<' →
    ∃ tail, detokenize cm cfg toks = .ok (pre ++ cm.upper c :: tail)

/-- the unchanged code: a leading `-` (from `.b("-")`) is taken for the first letter: `-the cat sleeps. ` -/
theorem starts_upper_refuted : ¬ starts_upper := by
  intro h
  -- everything the witness needs from the model, in one evaluation
  have hev : joinToks pyCase .en (decide (Lang.en = .en ∧ Cap.absent = .tit)) [{ real := s "-the" }, { real := s "cat" }] =
        .ok (s "-the cat") ∧
      detokenize pyCase { lang := .en, cap := .absent, top := true, tagged := false }
        [{ real := s "-the" }, { real := s "cat" }] = .ok (s "-the cat. ") ∧
      pyCase.isWord '-' = false ∧ pyCase.isWord 't' = true ∧ pyCase.upper 't' = 'T' := by
    repeat rw [s_ofList]
    decide +kernel
  obtain ⟨hj, hx, w1, w2, hu⟩ := hev
  have hsplit : s "-the cat" = ['-'] ++ 't' :: s "he cat" := by
    repeat rw [s_ofList]
    rfl
  obtain ⟨tail, ht⟩ := h pyCase { lang := .en, cap := .absent, top := true, tagged := false }
    [{ real := s "-the" }, { real := s "cat" }] _ ['-'] 't' _ rfl (Or.inl rfl) hj (by decide) hsplit
    (NoWord.skip w1 (by decide) NoWord.nil) w2 (by decide)
  rw [hx, hu, s_ofList] at ht
  simp at ht

/-- what holds: when the leading material consists of characters the regex skips (`[^<\w'-]`, so neither `'` nor
    `-`) and of complete tags -/
theorem starts_upper_partial :
    ∀ (cm : CaseMap) (cfg : DetokCfg) (toks : List Tok) (body pre : Str) (c : Char) (rest : Str),
      cfg.top = true → (cfg.cap = .absent ∨ cfg.cap = .t ∨ cfg.cap = .tit) →
      joinToks cm cfg.lang (decide (cfg.lang = .en ∧ cfg.cap = .tit)) toks = .ok body → toks ≠ [] →
      body = pre ++ c :: rest → Lead cm pre → cm.isWord c = true → c ≠ '<' →
      ∃ tail, detokenize cm cfg toks = .ok (pre ++ cm.upper c :: tail) := by
  intro cm cfg toks body pre c rest htop hcap hj hne hb hl hw hc
  have hidx := sepWord_idx cm pre c rest hl (by simp [isWordish, hw]) hc
  have hup : upperAt cm body (sepWord cm body).1 = pre ++ cm.upper c :: rest := by
    rw [hb, hidx, upperAt_append]
  have hbody : body ≠ [] := by rw [hb]; simp
  rw [detokenize_eq, hj, ex_bind_ok, ex_pure, finish_top cm cfg body htop hcap hbody, hup]
  rw [List.append_assoc, List.cons_append]
  exact ⟨_, rfl⟩

example : Lead pyCase (s " (<b x=\"1\">« ") := by
  rw [s_ofList]
  exact .skip (by decide +kernel) (.skip (by decide +kernel) (.tag (body := s "b x=\"1\"") (by decide) (by decide)
    (.skip (by decide +kernel) (.skip (by decide +kernel) .nil))))

/-- **C10.f** (full clause) a top-level sentence ends with a visible character that is not a space, one space, and
    then at most tags -/
def ends_mark_space : Prop :=
  ∀ (cm : CaseMap) (cfg : DetokCfg) (toks : List Tok) (x : Str), SpaceOK cm →
    cfg.top = true → (cfg.cap = .absent ∨ cfg.cap = .t ∨ cfg.cap = .tit) → cfg.tagged = false →
    (∀ t ∈ toks, NoDbl t.real) → detokenize cm cfg toks = .ok x → x ≠ [] →
    ∃ y m trail, x = y ++ m :: ' ' :: trail ∧ m ≠ ' ' ∧ Trail trail ∧ ' ' ∉ trail

/-- the unchanged code: a verbatim last token ending in a mark (`Q("yes!")`) gets neither full stop nor space -/
theorem ends_mark_space_refuted : ¬ ends_mark_space := by
  intro h
  have hx : detokenize pyCase { lang := .en, cap := .absent, top := true, tagged := false }
      [{ real := s "it" }, { real := s "says" }, { real := s "yes!" }] = .ok (s "It says yes!") := by
    repeat rw [s_ofList]
    decide +kernel
  obtain ⟨y, m, trail, e, _, ht, hsp⟩ := h pyCase _ _ _ pyCase_spaceOK rfl (Or.inl rfl) rfl
    (by repeat rw [s_ofList]
        simp only [noDbl_iff]
        decide) hx (by rw [s_ofList]; decide)
  -- trailing material without a space is empty or begins with `<`; the text ends with `!` and contains no `<`
  cases ht with
  | nil => rw [s_ofList] at e; simpa using congrArg List.getLast? e
  | space _ => simp at hsp
  | tag _ _ _ =>
    have hlt : '<' ∈ s "It says yes!" := by rw [e]; simp
    rw [s_ofList] at hlt
    revert hlt
    decide

/-- what holds: when the last visible character is not a terminal/closing mark the sentence ends with `". "` -/
theorem ends_mark_space_partial :
    ∀ (cm : CaseMap) (cfg : DetokCfg) (toks : List Tok) (body : Str) (c : Char),
      cfg.top = true → (cfg.cap = .absent ∨ cfg.cap = .t ∨ cfg.cap = .tit) → cfg.tagged = false → toks ≠ [] →
      joinToks cm cfg.lang (decide (cfg.lang = .en ∧ cfg.cap = .tit)) toks = .ok body → body ≠ [] →
      lastVis (upperAt cm body (sepWord cm body).1) = some c → marks.contains c = false →
      ∃ y, detokenize cm cfg toks = .ok (y ++ ['.', ' ']) := by
  intro cm cfg toks body c htop hcap htag hne hj hb hlv hm
  rw [detokenize_eq, hj, ex_bind_ok, ex_pure, finish_top cm cfg body htop hcap hb]
  rw [if_pos ⟨htag, by rw [hlv, Option.any_some, hm]; rfl⟩]
  exact ⟨_, rfl⟩

/-- **C10.g** on a non-empty list `doFormat` prefixes the first token with the `en`/`ba` opening strings (last option
    outermost), then the `b` strings, then the opening tags; and suffixes the last token with the closing tags, the `a`
    strings in option order, then the `en` closing strings (`poss`/`cap` applied first; the tokens in between untouched) -/
def wrap_verbatim_order : Prop :=
  ∀ (tb : Tables) (cm : CaseMap) (o : Opts) (pre : List Tok → List Tok) (toks : List Tok)
    (as bs es : List (Str × Str)), removeEmpty toks ≠ [] → pre (removeEmpty toks) ≠ [] →
    baAll tb (optList o.a) = .ok as → baAll tb (optList o.b) = .ok bs → baAll tb (ensOf o) = .ok es →
    doFormat tb cm o pre toks =
      .ok (wrapAll (revB es ++ revB bs ++ tagsB (optList o.tags)) (tagsA (optList o.tags) ++ fwdB as ++ fwdA es)
            (capPoss cm o (pre (removeEmpty toks))))

theorem wrap_verbatim_order_holds : wrap_verbatim_order :=
  fun tb cm o pre toks as bs es hre hne ha hb he =>
    (doFormat_ne tb cm o pre toks hre).trans (formatCore_eq tb cm o _ hne as bs es ha hb he)

example : doFormat tablesEn pyCase { cap := .t, tags := some [(s "b", [])], a := some [s ",", s "!"], en := some [s "("] } id
    [{ real := s "the" }, { real := [] }, { real := s "cat" }]
    = .ok [{ real := s " (<b>The" }, { real := s "cat</b>, ! ) " }] := by
  repeat rw [s_ofList]
  decide +kernel

/-- the spacing of a sign: rule `b` + sign + rule `a`, the closing half using `compl` and the rule of the second
    table name (or of the `compl` entry) -/
def SignSpacing (tb : Tables) (sign : Str) (e : PcEntry) : Prop :=
  ∃ rb ∈ tb.punct, ∃ ra ∈ tb.punct,
    getBA tb sign = .ok (rb.2.b ++ sign ++ rb.2.a, ra.2.b ++ (e.compl.getD sign) ++ ra.2.a) ∧
    some rb.1 = e.tab.head?

instance (tb : Tables) (sign : Str) (e : PcEntry) : Decidable (SignSpacing tb sign e) := by
  unfold SignSpacing; infer_instance

/-- **C10.h** every sign of both lexicons (38 today) is wrapped with the spacing of its pc rule and, when it has a
    `compl`, closed by that sign — `decide` over the generated tables -/
def closing_sign_tbl : Prop :=
  ∀ lang : Lang, ∀ se ∈ (tablesOf lang).lex, SignSpacing (tablesOf lang) se.1 se.2

/-- the same with the test on the rule name in front: the evaluation then tries one opening rule only -/
theorem signSpacing_iff (tb : Tables) (sign : Str) (e : PcEntry) : SignSpacing tb sign e ↔
    ∃ rb ∈ tb.punct, some rb.1 = e.tab.head? ∧ ∃ ra ∈ tb.punct,
      getBA tb sign = .ok (rb.2.b ++ sign ++ rb.2.a, ra.2.b ++ (e.compl.getD sign) ++ ra.2.a) :=
  ⟨fun ⟨rb, hb, ra, ha, h1, h2⟩ => ⟨rb, hb, h2, ra, ha, h1⟩, fun ⟨rb, hb, h2, ra, ha, h1⟩ => ⟨rb, hb, ra, ha, h1, h2⟩⟩

theorem closing_sign_tbl_holds : closing_sign_tbl := by
  intro lang se hse
  rw [signSpacing_iff]
  revert se
  cases lang <;> decide +kernel

def stdPairs : List (Str × Str) :=
  [(s "(", s ")"), (s "[", s "]"), (s "{", s "}"), (s "«", s "»"), (s "\"", s "\""), (s "'", s "'")]

/-- **C10.i** in both languages an opening sign is closed by the matching sign -/
def matching_closer : Prop :=
  ∀ lang : Lang, ∀ p ∈ stdPairs, ∃ b a, getBA (tablesOf lang) p.1 = .ok (b, a) ∧ p.1 <:+: b ∧ p.2 <:+: a

def closerOK (tb : Tables) (p : Str × Str) : Bool :=
  match getBA tb p.1 with
  | .ok (b, a) => decide (p.1 <:+: b) && decide (p.2 <:+: a)
  | .error _ => false

/-- holds since the French lexicon has `«`/`»` (repository commit 63dee74); `decide` over the generated tables -/
theorem matching_closer_holds : matching_closer := by
  intro lang p hp
  have hall : ∀ lang : Lang, ∀ p ∈ stdPairs, closerOK (tablesOf lang) p = true := by
    unfold stdPairs
    repeat rw [s_ofList]
    intro lang
    cases lang <;> decide +kernel
  have hok := hall lang p hp
  unfold closerOK at hok
  split at hok
  · rename_i b a hg
    simp only [Bool.and_eq_true, decide_eq_true_eq] at hok
    exact ⟨b, a, hg, hok.1, hok.2⟩
  · cases hok

example : getBA (tablesOf .fr) (s "«") = .ok (s " « ", s " » ") := by
  repeat rw [s_ofList]
  decide +kernel

/-- **C10.m** `cap(True)` changes nothing but one character of the first token, which it upper-cases: the first
    one after leading `[^<\w'-]` characters and complete tags -/
def cap_only_first_letter : Prop :=
  ∀ (cm : CaseMap) (x : Str), capFirst cm x = x ∨
    ∃ pre c rest, x = pre ++ c :: rest ∧ capFirst cm x = pre ++ cm.upper c :: rest ∧ pre.length = (sepWord cm x).1

/-- holds since `str.capitalize()` was replaced (repository commit 5a97ad4): `USA` stays `USA` -/
theorem cap_only_first_letter_holds : cap_only_first_letter :=
  fun cm x => upperAt_eq cm x _

example : capFirst pyCase (s "USA") = s "USA" := by
  repeat rw [s_ofList]
  decide +kernel
example : capFirst pyCase (s " (<b>the") = s " (<b>The" := by
  repeat rw [s_ofList]
  decide +kernel

/-! HTML tags: the realization tree is folded children left to right, then `doFormat` -/

theorem basOK_nil (tb : Tables) : BasOK tb [] := ⟨[], rfl, by simp⟩

theorem optsOK_plain (tb : Tables) (o : Opts) (ha : o.a = none) (hb : o.b = none) (he : o.en = none) (hba : o.ba = none)
    (ht : ∀ t ∈ optList o.tags, TagOK t) : OptsOK tb o := by
  refine ⟨ht, ?_, ?_, ?_⟩
  · rw [ha]; exact basOK_nil tb
  · rw [hb]; exact basOK_nil tb
  · simp only [ensOf, he, hba]; exact basOK_nil tb

/-- **C10.j** in the text of any well-formed tree (leaf texts, signs, tag names and attributes free of angle brackets)
    every opening tag is closed by a tag of the same name, innermost first — `cap(True)` and `poss` anywhere -/
def tags_balanced_nested : Prop :=
  ∀ (tb : Tables) (cm : CaseMap) (t : Tree) (toks : List Tok), AngOK cm → t.WF tb →
    t.real tb cm = .ok toks → balCheck (flat toks) = true

/-- holds since `cap(True)` upper-cases one letter outside the tags (repository commit 5a97ad4) -/
theorem tags_balanced_nested_holds : tags_balanced_nested :=
  fun tb cm t toks hcm hwf h => balCheck_of_neutral ((real_neutral_inv tb cm hcm).tree t toks h hwf)

/-- moreover, when `cap(True)` / `poss` sit above tag-free subtrees, the text is derivable in the grammar of
    well-nested tagged texts -/
theorem tags_grammar_holds :
    ∀ (tb : Tables) (cm : CaseMap) (t : Tree) (toks : List Tok), AngOK cm → t.OK tb →
      t.real tb cm = .ok toks → Bal (flat toks) :=
  fun tb cm t toks hcm hok h => (real_bal_inv tb cm hcm).tree t toks h hok

/-- **C10.k** the tags of a constituent enclose exactly the text of its own tokens (after `poss`/`cap`): the signs of
    `b`/`en` stay in front of the opening tags, those of `a`/`en` behind the closing tags -/
def tag_encloses_own_tokens : Prop :=
  ∀ (tb : Tables) (cm : CaseMap) (o : Opts) (l : List Tok) (as bs es : List (Str × Str)), l ≠ [] →
    baAll tb (optList o.a) = .ok as → baAll tb (optList o.b) = .ok bs → baAll tb (ensOf o) = .ok es →
    ∃ out, doFormat tb cm o id l = .ok out ∧
      flat out = (revB es ++ revB bs) ++ tagsB (optList o.tags) ++ flat (capPoss cm o (removeEmpty l))
        ++ tagsA (optList o.tags) ++ (fwdB as ++ fwdA es)

theorem tag_encloses_own_tokens_holds : tag_encloses_own_tokens := by
  intro tb cm o l as bs es hne ha hb he
  obtain ⟨out, h, _, hf⟩ := doFormat_flat tb cm o l as bs es hne ha hb he
  exact ⟨out, h, by rw [hf]; simp [List.append_assoc]⟩

/-- **C10.l** (full clause) deleting the tags of the realization gives the text of the same tree realized without its
    `tag` options (token boundaries, hence spaces, aside) -/
def strip_tags_eq_untagged : Prop :=
  ∀ (tb : Tables) (cm : CaseMap) (t : Tree) (toks : List Tok), AngOK cm → t.WF tb →
    t.real tb cm = .ok toks →
    ∃ toks', t.erase.real tb cm = .ok toks' ∧ flat toks' = strip false (flat toks)

def witnessCapEmptyTag : Tree :=
  .node { cap := .t } (.cons (.leaf { real := [] } { tags := some [(s "b", [])] }) (.cons (.leaf { real := s "cats" } {}) .nil))

/-- the repaired code still: `NP(Q("").tag("b"),N("cat").n("p")).cap(True)` is `<b></b> cats`; without the tag the
    empty token is dropped and it is `Cats` -/
theorem strip_tags_eq_untagged_refuted : ¬ strip_tags_eq_untagged := by
  intro h
  have hwf : witnessCapEmptyTag.WF tablesEn := by
    simp only [witnessCapEmptyTag, Tree.WF, Forest.WF, and_true]
    refine ⟨optsOK_plain _ _ rfl rfl rfl rfl (by intro t ht; cases ht), ⟨by decide, optsOK_plain _ _ rfl rfl rfl rfl ?_⟩,
      by decide, optsOK_plain _ _ rfl rfl rfl rfl (by intro t ht; cases ht)⟩
    intro t ht
    simp only [optList, List.mem_singleton] at ht
    subst ht
    exact ⟨by decide, by decide, by simp, by decide, by decide⟩
  have hev : witnessCapEmptyTag.real tablesEn pyCase = .ok [{ real := s "<b></b>" }, { real := s "cats" }] ∧
      witnessCapEmptyTag.erase.real tablesEn pyCase = .ok [{ real := s "Cats" }] := by
    unfold witnessCapEmptyTag
    repeat rw [s_ofList]
    decide +kernel
  obtain ⟨hr, h3⟩ := hev
  obtain ⟨toks', h1, h2⟩ := h tablesEn pyCase witnessCapEmptyTag _ pyCase_angOK hwf hr
  rw [h3] at h1
  cases h1
  repeat rw [s_ofList] at h2
  revert h2
  decide

/-- what holds: when `cap(True)` / `poss` sit above tag-free subtrees -/
theorem strip_tags_eq_untagged_partial :
    ∀ (tb : Tables) (cm : CaseMap) (t : Tree) (toks : List Tok), AngOK cm → t.OK tb →
      t.real tb cm = .ok toks →
      ∃ toks', t.erase.real tb cm = .ok toks' ∧ flat toks' = strip false (flat toks) := by
  intro tb cm t toks hcm hok h
  obtain ⟨toks', h1, h2, _, _⟩ := (real_strip_inv tb cm hcm).tree t toks h hok
  exact ⟨toks', h1, h2⟩

/-- non-vacuity: a tree with nested tags, attributes, signs and a capital satisfies the side conditions -/
def sampleTree : Tree :=
  .node { tags := some [(s "p", [(s "id", s "x")])], a := some [s "!"] }
    (.cons (.leaf { real := s "the" } { cap := .t })
      (.cons (.leaf { real := s "cat" } { tags := some [(s "b", [])], en := some [s "("] }) .nil))

example : sampleTree.real tablesEn pyCase =
    .ok [{ real := s "<p id=\"x\">The" }, { real := s " (<b>cat</b>) </p>! " }] := by
  unfold sampleTree
  repeat rw [s_ofList]
  decide +kernel
example : balCheck (s "<p id=\"x\">The (<b>cat</b>) </p>! ") = true := by
  rw [s_ofList]
  decide +kernel
example : sampleTree.erase.real tablesEn pyCase = .ok [{ real := s "The" }, { real := s " (cat) ! " }] := by
  unfold sampleTree
  repeat rw [s_ofList]
  decide +kernel

end Pyrealb.C10
