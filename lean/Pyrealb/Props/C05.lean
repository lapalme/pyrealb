import Pyrealb.Lemmas.ClauseFrRank
import Pyrealb.Lemmas.ClauseFrNesting
import Pyrealb.Lemmas.ClauseFrClause
import Pyrealb.Lemmas.ClauseFrFinite
import Pyrealb.Lemmas.ClauseFrDepClause
import Pyrealb.Lemmas.ClauseFrIntPhrase
import Pyrealb.Model.ClauseFrRealize
/-! # C05 — French clause transformations: negation, auxiliaries, clitics, inversion

Property theorems only. The model (`Model/ClauseFr*`) mirrors `doPronounPlacement`, `check_for_t`, `conjugate`,
`processTyp_verb`, `passivate`, `move_object`, in both notations. The position clauses are stated as the CONTRACT
OF `doPronounPlacement` on the flat token list of a clause split at its first verb: for EVERY list of tokens
before it and EVERY list of tokens after it (complements of any number, in any order, pronominalized or not), every
verb (symbolic), every tense and flag. The first verb of the list is the one that carries `neg2` and `lier` in both
pipelines (the auxiliary in a compound tense, the modality / progressive auxiliary otherwise). -/
namespace Pyrealb.C05
open Pyrealb Pyrealb.ClauseFr Pyrealb.Gen.ClauseFr

/-- an object, reflexive or adverbial clitic (by function: case acc/dat/refl, or `y`/`en`) -/
def IsCliticFn : Tok → Prop
  | .pro x _ => x.c = some .acc ∨ x.c = some .dat ∨ x.c = some .refl ∨ x.lemma = yStr ∨ x.lemma = enStr
  | _ => False

/-- the token list is split at its FIRST verb `x`, and no other verb carries a negation -/
structure AtFirstVerb (pre post : List Tok) : Prop where
  pre_noV : ∀ t ∈ pre, t.isV = false
  others_noNeg : ∀ t ∈ pre ++ post, match t with | .v y _ => y.neg2 = none | _ => True

theorem isClitic_fn (c : Tok) (h : c.isClitic = true) : IsCliticFn c := by
  cases c with
  | pro x f =>
    simp only [Tok.isClitic, isCliticPro, Bool.and_eq_true, Bool.or_eq_true, beq_iff_eq] at h
    unfold IsCliticFn
    rcases h.2 with (h1 | h1) | h1
    · cases hc : x.c with
      | none => simp [hc] at h1
      | some c => cases c <;> simp_all [cliticCases, Cas.str]
    · exact Or.inr (Or.inr (Or.inr (Or.inl h1)))
    · exact Or.inr (Or.inr (Or.inr (Or.inr h1)))
  | _ => cases h

theorem noV_of_clitics (cs : List Tok) (h : ∀ c ∈ cs, IsCliticFn c) : ∀ t ∈ cs, t.isV = false := by
  intro t ht
  cases t with
  | v y g => exact (h _ ht).elim
  | _ => rfl

/-- what is sorted together with `ne` and the second negative word: the reflexive pronoun and the popped clitics -/
theorem clitics_fn (x : VT) (isR : Bool) (pg : Option VT) (post : List Tok) :
    ∀ c ∈ (if isR ∧ x.t ≠ .pp then [reflPro (pg.getD x)] else []) ++ (collect post).1, IsCliticFn c := by
  refine List.forall_mem_append.mpr ⟨?_, fun c hc => isClitic_fn c (collect_fst_clitic post c hc)⟩
  split
  · exact List.forall_mem_singleton.mpr (by simp [reflPro, IsCliticFn])
  · exact fun _ hc => nomatch hc

theorem prosOf_noV (x : VT) (isR : Bool) (pg : Option VT) (post : List Tok) :
    ∀ t ∈ prosOf x isR pg (collect post).1, t.isV = false := by
  intro t ht
  rw [prosOf, sortPros_mem, prosRaw, List.append_assoc] at ht
  rcases List.mem_append.mp ht with ht | ht
  · cases hn : x.neg2 with
    | none => rw [hn] at ht; cases ht
    | some w =>
      rw [hn] at ht
      dsimp only at ht
      split at ht <;> simp at ht <;> rcases ht with rfl | rfl <;> rfl
  · exact noV_of_clitics _ (clitics_fn x isR pg post) t ht

/-- the pronouns put next to a verb that carries a (non-infinitive) negation: `ne`, then clitics only -/
theorem prosOf_neg (x : VT) (w : Str) (isR : Bool) (pg : Option VT) (post : List Tok) (hn : x.neg2 = some w)
    (hb : x.t ≠ .b) : ∃ cs, prosOf x isR pg (collect post).1 = .adv ne :: cs ∧ ∀ c ∈ cs, IsCliticFn c := by
  unfold prosOf prosRaw
  simp only [hn, hb, if_false, List.cons_append, List.nil_append]
  rw [sortPros_ne_cons _ (tableFor_neg x w hn)]
  exact ⟨_, rfl, fun c hc => clitics_fn x isR pg post c ((sortPros_mem _ _ c).mp hc)⟩

/-- the list is split at the verb loop 2 stops at: before it only auxiliaries of modality / progressive (without a
    negation of their own), no negation on a later verb -/
structure AtMainVerb (pre post : List Tok) : Prop where
  pre_aux : ∀ t ∈ pre, match t with
    | .v y _ => (y.isProg = true ∨ y.isMod = true) ∧ y.neg2 = none
    | _ => True
  post_noNeg : ∀ t ∈ post, match t with | .v y _ => y.neg2 = none | _ => True

theorem AtFirstVerb.main {pre post : List Tok} (h : AtFirstVerb pre post) : AtMainVerb pre post := by
  refine ⟨fun t ht => ?_, fun t ht => h.others_noNeg t (List.mem_append_right _ ht)⟩
  cases t with
  | v y g => cases h.pre_noV _ ht
  | _ => trivial

/-- **the placement in closed form** at the first verb that is not an auxiliary of modality / progressive -/
theorem place_main (refl : Bool) (pre post : List Tok) (x : VT) (f : Str) (out : List Tok)
    (hfv : AtMainVerb pre post) (hm : x.isMod = false) (hp : x.isProg = false)
    (h : placePronouns refl (pre ++ .v x f :: post) = .ok out) :
    ∃ isR, isReflexive x refl = .ok isR ∧ out = placedAt pre post x f isR (lastProg none pre) := by
  have haux : OnlyAuxV pre := by
    intro t ht
    cases t with
    | v y g => exact (hfv.pre_aux _ ht).1
    | _ => trivial
  have hna : NoAuxNeg (pre ++ .v x f :: post) := by
    refine List.forall_mem_append.mpr ⟨fun t ht => ?_, List.forall_mem_cons.mpr ⟨Or.inr ⟨hm, hp⟩, fun t ht => ?_⟩⟩
    · cases t with
      | v y g => exact Or.inl (hfv.pre_aux _ ht).2
      | _ => trivial
    · cases t with
      | v y g => exact Or.inl (hfv.post_noNeg _ ht)
      | _ => trivial
  rw [place_first_verb refl pre post x f haux hp hm hna] at h
  cases hr : isReflexive x refl with
  | error e => rw [hr] at h; cases h
  | ok isR => rw [hr] at h; cases h; exact ⟨isR, rfl, rfl⟩

/-- when the verb is not a positive imperative the pronouns stand before it -/
theorem placedAt_before (pre post : List Tok) (x : VT) (f : Str) (isR : Bool) (pg : Option VT)
    (htb : tableFor x ≠ .ipPos) :
    ∃ x' after, placedAt pre post x f isR pg = pre ++ prosOf x isR pg (collect post).1 ++ .v x' f :: after := by
  unfold placedAt
  rw [if_neg htb]
  exact ⟨_, _, List.append_assoc _ [_] _⟩

/-! ## ne_position -/

/-- **C05 `ne`**: in the list `doPronounPlacement` returns, `ne` stands immediately before the run of clitics that
    precedes the first verb (the finite verb of the clause), and only clitics stand between them -/
def ne_position : Prop :=
  ∀ (refl : Bool) (pre post : List Tok) (x : VT) (f w : Str) (out : List Tok),
    AtFirstVerb pre post → x.neg2 = some w → x.t ≠ .b →
    placePronouns refl (pre ++ .v x f :: post) = .ok out →
    ∃ cs after, out = pre ++ .adv ne :: cs ++ .v { x with neg2 := none } f :: after ∧ ∀ c ∈ cs, IsCliticFn c

theorem ne_position_holds : ne_position := by
  intro refl pre post x f w out hfv hn hb h
  by_cases haux : x.isMod = true ∨ x.isProg = true
  · -- modality / progressive auxiliary: loop 1 puts `ne` right before it
    obtain ⟨r, hr⟩ := place_aux_shape refl pre post out x f w hfv.pre_noV hn haux h
    exact ⟨[], post.take (if x.lier then 1 else 0) ++ .q w :: r, by rw [hr]; simp, fun _ hc => nomatch hc⟩
  · obtain ⟨isR, _, rfl⟩ := place_main refl pre post x f out hfv.main (Bool.eq_false_iff.mpr fun h => haux (Or.inl h))
      (Bool.eq_false_iff.mpr fun h => haux (Or.inr h)) h
    obtain ⟨cs, hcs, hall⟩ := prosOf_neg x w isR (lastProg none pre) post hn hb
    exact ⟨cs, pyInsert (if x.lier then 1 else 0) (.q w) (collect post).2,
      by simp [placedAt, tableFor_neg_ne_ipPos x w hn, hcs, hn, hb], hall⟩

/-! ## neg2_position_finite -/

/-- **C05 second negative word**: it stands right after the first verb — after at most one more token when that verb is
    hyphen-linked (`lier`: the inverted subject pronoun) -/
def neg2_position_finite : Prop :=
  ∀ (refl : Bool) (pre post : List Tok) (x : VT) (f w : Str) (out : List Tok),
    AtFirstVerb pre post → x.neg2 = some w → x.t ≠ .b →
    placePronouns refl (pre ++ .v x f :: post) = .ok out →
    ∃ before mid after, out = before ++ .v { x with neg2 := none } f :: mid ++ .q w :: after ∧
      mid.length ≤ (if x.lier then 1 else 0) ∧ (∀ t ∈ before, t.isV = false)

theorem neg2_position_finite_holds : neg2_position_finite := by
  intro refl pre post x f w out hfv hn hb h
  have hlen : ∀ l : List Tok, (l.take (if x.lier then 1 else 0)).length ≤ if x.lier then 1 else 0 :=
    fun l => by rw [List.length_take]; exact Nat.min_le_left _ _
  by_cases haux : x.isMod = true ∨ x.isProg = true
  · obtain ⟨r, hr⟩ := place_aux_shape refl pre post out x f w hfv.pre_noV hn haux h
    exact ⟨pre ++ [.adv ne], post.take (if x.lier then 1 else 0), r, by rw [hr]; simp, hlen post,
      List.forall_mem_append.mpr ⟨hfv.pre_noV, List.forall_mem_singleton.mpr rfl⟩⟩
  · obtain ⟨isR, _, rfl⟩ := place_main refl pre post x f out hfv.main (Bool.eq_false_iff.mpr fun h => haux (Or.inl h))
      (Bool.eq_false_iff.mpr fun h => haux (Or.inr h)) h
    obtain ⟨cs, hcs, hall⟩ := prosOf_neg x w isR (lastProg none pre) post hn hb
    exact ⟨pre ++ .adv ne :: cs, (collect post).2.take (if x.lier then 1 else 0),
      (collect post).2.drop (if x.lier then 1 else 0),
      by simp [placedAt, tableFor_neg_ne_ipPos x w hn, hcs, hn, hb, pyInsert_split], hlen _,
      List.forall_mem_append.mpr ⟨hfv.pre_noV, List.forall_mem_cons.mpr ⟨rfl, noV_of_clitics cs hall⟩⟩⟩

/-! ## clitic_order -/

/-- what the output has between the tokens that preceded the verb and the verb itself -/
def runBeforeVerb (pre out : List Tok) : List Tok := (out.drop pre.length).takeWhile (fun t => !t.isV)

/-- **C05 clitic order**: the pronouns (and negative words) put before the verb are sorted by the rank table
    of NonTerminalFr.py that applies to the verb (`Gen.proclitiqueOrdre*`, current content) — whatever complements
    follow the verb, in whatever order -/
def clitic_order : Prop :=
  ∀ (refl : Bool) (pre post : List Tok) (x : VT) (f : Str) (out : List Tok),
    AtMainVerb pre post → x.isMod = false → x.isProg = false → tableFor x ≠ .ipPos →
    placePronouns refl (pre ++ .v x f :: post) = .ok out →
    SortedBy (rankOf (tableFor x)) (runBeforeVerb pre out)

theorem runBefore_eq (pre pros after : List Tok) (v : Tok) (hv : v.isV = true) (hp : ∀ t ∈ pros, t.isV = false) :
    runBeforeVerb pre (pre ++ pros ++ v :: after) = pros := by
  unfold runBeforeVerb
  rw [List.append_assoc, List.drop_left]
  rw [List.takeWhile_append_of_pos (by intro t ht; simp [hp t ht])]
  simp [List.takeWhile, hv]

/-- closed form of the run before the verb: the sorted `prosOf` -/
theorem runBefore_place (refl : Bool) (pre post : List Tok) (x : VT) (f : Str) (out : List Tok)
    (hfv : AtMainVerb pre post) (hm : x.isMod = false) (hp : x.isProg = false) (htb : tableFor x ≠ .ipPos)
    (h : placePronouns refl (pre ++ .v x f :: post) = .ok out) :
    ∃ isR, isReflexive x refl = .ok isR ∧
      runBeforeVerb pre out = prosOf x isR (lastProg none pre) (collect post).1 := by
  obtain ⟨isR, hr, rfl⟩ := place_main refl pre post x f out hfv hm hp h
  obtain ⟨x', after, he⟩ := placedAt_before pre post x f isR (lastProg none pre) htb
  exact ⟨isR, hr, by rw [he]; exact runBefore_eq _ _ _ _ rfl (prosOf_noV x isR _ post)⟩

/-- a concrete clause « il lui le donne »: the verb followed by the dative then the accusative pronoun -/
def witnessVerbLex : VerbLex :=
  { lemma := "donner".toList, aux := "av".toList, pat := some ["tdir".toList], hasTab := true, ending := "er".toList,
    p := [some "e".toList, some "es".toList, some "e".toList, some "ons".toList, some "ez".toList, some "ent".toList],
    i := [], f := [], ps := [], c := [], s := [], si := [], ip := [], b := some "er".toList, pr := none, pp := .none }
def witnessV : VT := mkV witnessVerbLex .p
def witnessLui : Tok := .pro { lemma := "lui".toList, c := some .dat, tn := false, pe := 3, n := .s, g := .m } "lui".toList
def witnessLe : Tok := .pro { lemma := "lui".toList, c := some .acc, tn := false, pe := 3, n := .s, g := .m } "le".toList

/-- « il le lui donne »: the à-PP and the direct object are given in the WRONG order and come out sorted — through the
    complete model of both pipelines (a test on one clause; the theorem is `clitic_order_holds`) -/
def ilLuiLe : Spec :=
  { subj := some (.pro false 3 .s .m), verb := witnessVerbLex, t := Tense.p,
    comps := [.pp "à".toList { id := 2, g := .f, n := .s, pro := true }, .dir { id := 1, g := .m, n := .s, pro := true }],
    typ := {} }

example :
    (realizeToks .phrase ilLuiLe).map (fun l => l.map Tok.form)
        = .ok ["il".toList, "le".toList, "lui".toList, "donne".toList] ∧
    (realizeToks .dep ilLuiLe).map (fun l => l.map Tok.form)
        = .ok ["il".toList, "le".toList, "lui".toList, "donne".toList] := by decide +kernel

/-- **partial (weakest side condition)**: when what is put before the verb — `ne`, the reflexive pronoun, the clitics
    in the order the complements were given — is already in rank order, the output is in rank order; for ANY
    complements. (On the unchanged code this is also necessary: `clitic_order_now_iff`.) -/
theorem clitic_order_partial :
    ∀ (refl : Bool) (pre post : List Tok) (x : VT) (f : Str) (out : List Tok),
      AtMainVerb pre post → x.isMod = false → x.isProg = false → tableFor x ≠ .ipPos →
      placePronouns refl (pre ++ .v x f :: post) = .ok out →
      (∀ isR, isReflexive x refl = .ok isR →
        SortedBy (rankOf (tableFor x)) (prosRaw x isR (lastProg none pre) (collect post).1)) →
      SortedBy (rankOf (tableFor x)) (runBeforeVerb pre out) := by
  intro refl pre post x f out hfv hm hp htb h hs
  obtain ⟨isR, hr, hrun⟩ := runBefore_place refl pre post x f out hfv hm hp htb h
  rw [hrun]
  unfold prosOf sortPros
  split
  · exact sortBy_sorted _ _
  · exact hs isR hr

/-- on the code as it is (`Gen.sortKeyOnString = false`, re-derived from the source each run) the output is sorted
    exactly when the input order was: the placement never reorders -/
theorem clitic_order_now_iff (hkey : sortKeyOnString = false) :
    ∀ (refl : Bool) (pre post : List Tok) (x : VT) (f : Str) (out : List Tok) (isR : Bool),
      AtMainVerb pre post → x.isMod = false → x.isProg = false → tableFor x ≠ .ipPos →
      placePronouns refl (pre ++ .v x f :: post) = .ok out → isReflexive x refl = .ok isR →
      (SortedBy (rankOf (tableFor x)) (runBeforeVerb pre out) ↔
       SortedBy (rankOf (tableFor x)) (prosRaw x isR (lastProg none pre) (collect post).1)) := by
  intro refl pre post x f out isR hfv hm hp htb h hr
  obtain ⟨isR', hr', hrun⟩ := runBefore_place refl pre post x f out hfv hm hp htb h
  rw [hr] at hr'
  cases hr'
  rw [hrun]
  simp [prosOf, sortPros, hkey]

/-- when the sort key looks the realization up (`Gen.sortKeyOnString`, lifted from NonTerminalFr.py on every run),
    `clitic_order` holds for any complements in any order — by the sort lemma -/
theorem clitic_order_if_key_on_string (hkey : sortKeyOnString = true) : clitic_order := by
  intro refl pre post x f out hfv hm hp htb h
  obtain ⟨isR, _, hrun⟩ := runBefore_place refl pre post x f out hfv hm hp htb h
  rw [hrun]
  simp only [prosOf, sortPros, hkey, if_true]
  exact sortBy_sorted _ _

/-- **C05 clitic order holds** on the repaired code (commit 9374d6f « French clitics are sorted into the canonical
    order »): `Gen.sortKeyOnString = true` is re-derived from the source each run, so this stops compiling if the key
    goes back to the Terminal object -/
theorem clitic_order_holds : clitic_order := clitic_order_if_key_on_string rfl

/-- non-vacuity: the hypotheses of `clitic_order_partial` hold of « il le lui donne » (canonical order) -/
example : SortedBy (rankOf .std) [witnessLe, witnessLui] := by decide +kernel

/-! ## neg_infinitive -/

/-- **C05 infinitive**: both negative words stand before an infinitive (and before its clitics) -/
def neg_infinitive : Prop :=
  ∀ (refl : Bool) (pre post : List Tok) (x : VT) (f w : Str) (out : List Tok),
    AtFirstVerb pre post → x.neg2 = some w → x.t = .b →
    placePronouns refl (pre ++ .v x f :: post) = .ok out →
    ∃ cs after, out = pre ++ .adv ne :: .q w :: cs ++ .v x f :: after ∧ ∀ c ∈ cs, IsCliticFn c

def witnessModal : VT := { mkV witnessVerbLex .b with isMod := true, neg2 := some pas }

/-- an infinitive that is a modality / progressive auxiliary is negated like a finite verb: « ne pouvoir pas manger » -/
theorem neg_infinitive_refuted : ¬ neg_infinitive := by
  intro h
  obtain ⟨cs, after, heq, _⟩ := h false [] [.v (mkV witnessVerbLex .b) "manger".toList] witnessModal "pouvoir".toList pas
    [.adv ne, .v { witnessModal with neg2 := none } "pouvoir".toList, .q pas, .v (mkV witnessVerbLex .b) "manger".toList]
    ⟨(by intro t ht; cases ht), (by intro t ht; simp at ht; subst ht; rfl)⟩ rfl rfl rfl
  simp at heq

/-- **partial**: it holds of every infinitive that is not itself a modality / progressive auxiliary, for any
    complements; once the clitic sort is effective (`Gen.sortKeyOnString`), provided the second negative word ranks
    before the clitics in the infinitive table (it does when the key maps it to "pas") -/
theorem neg_infinitive_partial :
    ∀ (refl : Bool) (pre post : List Tok) (x : VT) (f w : Str) (out : List Tok),
      AtFirstVerb pre post → x.neg2 = some w → x.t = .b → x.isMod = false → x.isProg = false →
      (sortKeyOnString = true → ∀ c, IsCliticFn c → rankOf .inf (.q w) ≤ rankOf .inf c) →
      placePronouns refl (pre ++ .v x f :: post) = .ok out →
      ∃ cs after, out = pre ++ .adv ne :: .q w :: cs ++ .v x f :: after ∧ ∀ c ∈ cs, IsCliticFn c := by
  intro refl pre post x f w out hfv hn hb hm hp hrank h
  obtain ⟨isR, _, rfl⟩ := place_main refl pre post x f out hfv.main hm hp h
  have htb : tableFor x = .inf := by simp [tableFor, hb]
  have hrest := clitics_fn x isR (lastProg none pre) post
  -- the raw list is  ne :: q :: rest  with rest made of clitics
  have hpros : prosOf x isR (lastProg none pre) (collect post).1 = .adv ne :: .q w ::
      sortPros .inf ((if isR ∧ x.t ≠ .pp then [reflPro ((lastProg none pre).getD x)] else []) ++ (collect post).1) := by
    unfold prosOf prosRaw
    simp only [hn, if_pos hb, htb, List.cons_append, List.nil_append]
    rw [sortPros_ne_cons _ neMinimal_tbl.2.2, sortPros_cons_min _ _ _ (fun hk b hb' => hrank hk b (hrest b hb'))]
  exact ⟨sortPros .inf ((if isR ∧ x.t ≠ .pp then [reflPro ((lastProg none pre).getD x)] else []) ++ (collect post).1),
    (collect post).2, by simp [placedAt, htb, hpros, hn, hb], fun c hc => hrest c ((sortPros_mem _ _ c).mp hc)⟩

/-! ## imperative_pos_clitics_after -/

/-- **C05 positive imperative**: the clitics the scan reaches stand right after the verb, nothing but clitics -/
def imperative_pos_clitics_after : Prop :=
  ∀ (refl : Bool) (pre post : List Tok) (x : VT) (f : Str) (out : List Tok),
    AtMainVerb pre post → x.isMod = false → x.isProg = false → x.t = .ip → x.neg2 = none →
    placePronouns refl (pre ++ .v x f :: post) = .ok out →
    ∃ run after, out = pre ++ .v x f :: run ++ after ∧ (∀ c ∈ run, IsCliticFn c) ∧
      (∀ c ∈ (collect post).1, c ∈ run)

theorem imperative_pos_clitics_after_holds : imperative_pos_clitics_after := by
  intro refl pre post x f out hfv hm hp ht hn h
  obtain ⟨isR, _, rfl⟩ := place_main refl pre post x f out hfv hm hp h
  have htb : tableFor x = .ipPos := by simp [tableFor, ht, hn]
  have hx : ({ x with neg2 := none } : VT) = x := by cases x; simp_all
  have hnb : x.t ≠ .b := by rw [ht]; decide
  refine ⟨prosOf x isR (lastProg none pre) (collect post).1, (collect post).2,
    by simp [placedAt, htb, hn, hnb, hx], fun c hc => ?_, fun c hc => ?_⟩
  · rw [prosOf, sortPros_mem, prosRaw, hn, List.nil_append] at hc
    exact clitics_fn x isR _ post c hc
  · rw [prosOf, sortPros_mem, prosRaw]
    exact List.mem_append_right _ hc

/-! ## inversion_t_iff (both directions stated separately) -/

def vowels : List Char := "aeiouyàâäéèêëîïôöùûü".toList

/-- **C05 `-t-`, if**: a verb form that ends in a vowel, followed by il / elle / on, gets `-t-` -/
def inversion_t_if : Prop :=
  ∀ (x : VT) (fa : Str) (p : ProT) (fb : Str) (ch : Char) (plain : Bool),
    fa.getLast? = some ch → ch ∈ vowels → fb ∈ tPronouns →
    (checkForT (.v x fa) (.pro p fb) plain).1 = ['t', '-']

theorem vowels_not_dt : ∀ c ∈ vowels, tNotAfter.contains c = false := by decide +kernel

theorem inversion_t_if_holds : inversion_t_if := by
  intro x fa p fb ch plain hl hv hp
  have h1 := vowels_not_dt ch hv
  have h2 : tPronouns.contains fb = true := by simpa using hp
  unfold checkForT
  simp only [lastChar?, hl, h1, h2, Bool.not_false, Bool.and_self, if_true]

/-- **C05 `-t-`, only if**: `-t-` is written only between a verb form that does not end in d or t (the code's test,
    which also covers « vainc-t-il ») and il / elle / on -/
def inversion_t_only_if : Prop :=
  ∀ (a b : Tok) (plain : Bool), (checkForT a b plain).1 = ['t', '-'] →
    ∃ x fa p fb ch, a = .v x fa ∧ b = .pro p fb ∧ fa.getLast? = some ch ∧ tNotAfter.contains ch = false ∧ fb ∈ tPronouns

theorem ite_fst_nil {c : Prop} [Decidable c] (a b : Str) :
    (if c then (([] : Str), a) else (([] : Str), b)).1 = [] := by split <;> rfl

theorem inversion_t_only_if_holds : inversion_t_only_if := by
  intro a b plain h
  cases a with
  | v x fa =>
    cases b with
    | pro p fb =>
      unfold checkForT at h
      simp only [lastChar?] at h
      cases hl : fa.getLast? with
      | none => simp only [hl] at h; simp [ite_fst_nil] at h
      | some ch =>
        simp only [hl] at h
        cases h1 : tNotAfter.contains ch <;> cases h2 : tPronouns.contains fb
        · simp only [h1, h2] at h; simp [ite_fst_nil] at h
        · exact ⟨x, fa, p, fb, ch, rfl, rfl, hl, h1, by simpa using h2⟩
        · simp only [h1, h2] at h; simp [ite_fst_nil] at h
        · simp only [h1, h2] at h; simp [ite_fst_nil] at h
    | _ => simp [checkForT, Tok.form] at h
  | _ => simp [checkForT, Tok.form] at h

/-- a form that ends in d or t gets a plain hyphen -/
theorem inversion_dt_plain (x : VT) (fa : Str) (p : ProT) (fb : Str) (ch : Char) (plain : Bool)
    (hl : fa.getLast? = some ch) (hdt : tNotAfter.contains ch = true) :
    (checkForT (.v x fa) (.pro p fb) plain).1 = [] := by
  unfold checkForT
  simp only [lastChar?, hl, hdt]
  simp [ite_fst_nil]

/-- non-vacuity: « mange » + il, « prend » + il -/
example : (checkForT (.v witnessV "mange".toList) (.pro { lemma := je, c := none, tn := false, pe := 3, n := .s, g := .m } "il".toList)).1 = "t-".toList := by decide +kernel
example : (checkForT (.v witnessV "prend".toList) (.pro { lemma := je, c := none, tn := false, pe := 3, n := .s, g := .m } "il".toList)).1 = [] := by decide +kernel

/-! ## estceque_cases — `move_object` of both notations, for any S / VP element lists -/

def wod : Str := ['w','o','d']

/-- **C05 est-ce que / inversion, constituent notation** (`PhraseFr.move_object`), `si` = index of the subject in the S,
    `vi` = index of the first verb of the VP:
    * a nominal subject with `wod`/`wad`: « est-ce que » before the subject, nothing else moves;
    * a first-person-singular pronoun whose verb is in the present tense and not in the Académie's list:
      « est-ce que » before the subject;
    * any other pronoun subject: it is removed, put right after the first verb, and that verb is hyphen-linked. -/
def estceque_cases_phrase : Prop :=
  (∀ (int : Str) (sel vp : List El) (si : Nat) (a : NPA),
      firstIdx isSubjEl sel = some si → sel[si]? = some (.np a) → (int = wod ∨ int = wadStr) →
      moveObjectPhrase int sel vp = .ok (pyInsert si (.q estCeQue) sel, vp)) ∧
  (∀ (int : Str) (sel vp : List El) (si vi : Nat) (p : ProT) (x : VT),
      firstIdx isSubjEl sel = some si → sel[si]? = some (.pro p) → p.lemma ∉ proLikeNoun →
      sel.any El.isVP = true → firstIdx El.isV vp = some vi → vp[vi]? = some (.v x) →
      (p.pe = 1 ∧ p.n = .s ∧ x.t = .p ∧ x.epe = 1 ∧ x.lex.lemma ∉ academie →
        moveObjectPhrase int sel vp = .ok (pyInsert si (.q estCeQue) sel, vp)) ∧
      (¬ (p.pe = 1 ∧ p.n = .s ∧ x.t = .p ∧ x.epe = 1 ∧ x.lex.lemma ∉ academie) →
        moveObjectPhrase int sel vp =
          .ok (sel.eraseIdx si, pyInsert (vi + 1) (.pro p) (vp.set vi (.v { x with lier := true })))))

theorem estceque_cases_phrase_holds : estceque_cases_phrase := by
  refine ⟨?_, ?_⟩
  · intro int sel vp si a hsi hel hint
    unfold moveObjectPhrase
    simp only [hsi, hel]
    rcases hint with h | h <;> simp [h, wod, wadStr]
  · intro int sel vp si vi p x hsi hel hpl hvp hvi hx
    refine ⟨?_, ?_⟩
    · intro ⟨h1, h2, h3, h4, h5⟩
      unfold moveObjectPhrase
      simp [hsi, hel, hpl, hvp, hvi, hx, h1, h2, h3, h4, h5]
    · intro hnot
      unfold moveObjectPhrase
      simp only [hsi, hel, hpl, hvp, hvi, hx]
      by_cases h12 : p.pe = 1 ∧ p.n = .s
      · have : ¬ (x.t = .p ∧ x.epe = 1 ∧ x.lex.lemma ∉ academie) := fun h => hnot ⟨h12.1, h12.2, h⟩
        simp [h12.1, h12.2, hpl]
        by_cases ha : x.t = .p <;> by_cases hb : x.epe = 1 <;> by_cases hc : x.lex.lemma ∈ academie <;> simp_all
      · simp [h12, hpl]

/-- **dependency notation** (`DependentFr.move_object`), `si` = index of the `subj` dependent, `v` the root verb -/
def estceque_cases_dep : Prop :=
  (∀ (int : Str) (v : VT) (deps : List Dep) (si : Nat) (sd : Dep) (a : NPA),
      firstIdx (fun (d : Dep) => d.rel = .subj) deps = some si → deps[si]? = some sd → sd.t = .np a →
      (int = wod ∨ int = wadStr) →
      moveObjectDep int v deps = (v, { rel := .det, t := .q estCeQue } :: deps)) ∧
  (∀ (int : Str) (v : VT) (deps : List Dep) (si : Nat) (sd : Dep) (p : ProT),
      firstIdx (fun (d : Dep) => d.rel = .subj) deps = some si → deps[si]? = some sd → sd.t = .pro p →
      p.lemma ∉ proLikeNounDep →
      (p.pe = 1 ∧ p.n = .s ∧ v.t = .p ∧ v.epe = 1 ∧ v.lex.lemma ∉ academieDep →
        moveObjectDep int v deps = (v, { rel := .det, t := .q estCeQue } :: deps)) ∧
      (¬ (p.pe = 1 ∧ p.n = .s ∧ v.t = .p ∧ v.epe = 1 ∧ v.lex.lemma ∉ academieDep) →
        moveObjectDep int v deps = ({ v with lier := true }, { rel := .post, t := .pro p } :: deps.eraseIdx si)))

theorem estceque_cases_dep_holds : estceque_cases_dep := by
  refine ⟨?_, ?_⟩
  · intro int v deps si sd a hsi hel ht hint
    unfold moveObjectDep
    simp only [hsi, hel, ht]
    rcases hint with h | h <;> simp [h, wod, wadStr]
  · intro int v deps si sd p hsi hel ht hpl
    refine ⟨?_, ?_⟩
    · intro ⟨h1, h2, h3, h4, h5⟩
      unfold moveObjectDep
      simp [hsi, hel, ht, hpl, h1, h2, h3, h4, h5]
    · intro hnot
      unfold moveObjectDep
      simp only [hsi, hel, ht, hpl]
      simp [hpl]
      intro h1 h2 h3 h4
      exact Classical.byContradiction (fun h5 => hnot ⟨h1, h2, h3, h4, h5⟩)

/-- the two notations use the same Académie list and the same noun-like pronouns (generated from both files) -/
theorem estceque_lists_agree_tbl : academie = academieDep ∧ proLikeNoun = proLikeNounDep := by decide +kernel

/-! ## nesting_order, one_finite_verb — the verb chain `processTyp` builds (constituent notation) -/

/-- **C05 nesting**: after `processTyp` (passive, progressive, modality, negation) the verbs of the VP are, in order,
    exactly the declared nesting — for every verb, tense, subject and every list of complements -/
def nesting_order : Prop :=
  ∀ (sp : Spec) (sel vp : List El) (e : Str), IntOk sp →
    (∀ m, sp.typ.mod = some m → (modalLemma m).isSome = true) →
    phraseTyped sp = .ok (sel, vp, e) → verbChain vp = expectedChain sp

/-- **C05 one finite verb**: in the declared nesting only the first verb carries the tense of the clause; every other
    verb is an infinitive or a past participle -/
def one_finite_verb : Prop :=
  ∀ (sp : Spec), ∀ lt ∈ (expectedChain sp).tail, lt.2 = .b ∨ lt.2 = .pp

theorem one_finite_verb_holds : one_finite_verb := by
  intro sp lt hlt
  unfold expectedChain at hlt
  cases hp : sp.typ.pas <;> cases hg : sp.typ.prog <;> cases hm : (sp.typ.mod.bind modalLemma) <;>
    simp [hp, hg, hm, pasLayer, auxLayer] at hlt <;> (try (rcases hlt with rfl | rfl | rfl <;> simp)) <;>
    (try (rcases hlt with rfl | rfl <;> simp)) <;> (try (subst hlt; simp))

theorem nesting_order_holds : nesting_order := by
  intro sp sel vp e hok hmod h
  obtain ⟨_, b, c, hv, _, hc⟩ := phraseTyped_inv sp sel vp e hok h
  rw [hv.2, hc hmod]

/-- non-vacuity: « pouvoir être en train d'être mangé » -/
def nestingWitness : Spec :=
  { subj := none, verb := witnessVerbLex, t := Tense.p, comps := [],
    typ := { pas := true, prog := true, mod := some "poss".toList } }
example : expectedChain nestingWitness =
  [("pouvoir".toList, .p), ("être".toList, .b), ("être".toList, .b), ("donner".toList, .pp)] := by decide +kernel

/-! ## table facts (re-proved against the repository on every run) -/

/-- the five values `.typ({"mod": …})` accepts each resolve to a modality verb (hypothesis `hmod` of `nesting_order`) -/
theorem mod_values_resolve_tbl :
    ∀ m ∈ ["poss".toList, "perm".toList, "nece".toList, "obli".toList, "will".toList], (modalLemma m).isSome = true := by
  decide

/-- every modality verb of rules-fr.json, « être » and « avoir » have a lexicon entry and a conjugation table -/
theorem aux_verbs_known_tbl :
    (∀ p ∈ modalityVerb, (lookup p.2 auxVerbs).isSome = true) ∧ (lookup etre auxVerbs).isSome = true ∧
      (lookup avoir auxVerbs).isSome = true ∧ (lookup progAux auxVerbs).isSome = true := by decide +kernel

/-- `tempsAux` of TerminalFr.conjugate agrees with `compound` of rules-fr.json on the tenses the rules list -/
theorem tempsAux_matches_rules_tbl : ∀ p ∈ compoundRules, lookup p.1 tempsAux = some p.2 := by decide +kernel

/-- every compound tense of the code has an auxiliary tense among the 19 tense codes -/
theorem compound_tenses_tbl : ∀ t ∈ compoundList, ((lookup t tempsAux).bind Tense.ofStr).isSome = true := by decide +kernel

/-! ## the host of the clitics under the nesting [modal] [être en train de] [… verb] -/

/-- **C05 clitic host**: when the verbs in front are all modality / progressive auxiliaries (they carry the flag
    `isMod` / `isProg` that `processTyp_verb` sets and copies), every clitic the scan reaches — together with `ne` and
    the reflexive pronoun — is put immediately before the FIRST verb that is not such an auxiliary, behind all of them:
    « Il peut être en train de la lui donner » -/
def clitic_host : Prop :=
  ∀ (refl : Bool) (pre post : List Tok) (x : VT) (f : Str) (out : List Tok),
    AtMainVerb pre post → x.isMod = false → x.isProg = false → tableFor x ≠ .ipPos →
    placePronouns refl (pre ++ .v x f :: post) = .ok out →
    ∃ run x' after, out = pre ++ run ++ .v x' f :: after ∧ (∀ t ∈ run, t.isV = false) ∧
      (∀ c ∈ (collect post).1, c ∈ run)

theorem clitic_host_holds : clitic_host := by
  intro refl pre post x f out hmain hm hp htb h
  obtain ⟨isR, _, rfl⟩ := place_main refl pre post x f out hmain hm hp h
  obtain ⟨x', after, he⟩ := placedAt_before pre post x f isR (lastProg none pre) htb
  refine ⟨_, x', after, he, prosOf_noV x isR _ post, fun c hc => ?_⟩
  rw [prosOf, sortPros_mem, prosRaw]
  exact List.mem_append_right _ hc

/-! ## the position clauses on the WHOLE CLAUSE, in both notations (declarative, exclamative or interrogative)

`IntOk sp` only leaves out `wos` / `was` on a clause without subject or in the passive (there `processInt` of the
constituent notation deletes the last element of the S — the VP itself — and no verb is realized at all).

`phraseTyped_inv` + `phraseReal_parts` (constituent notation) and `depTyped_all` + `depReal_parts` (dependency notation)
show that both hand `doPronounPlacement` a list `verb-free tokens ++ first token of the first verb :: clean tokens`
(`Handed`); the first verb token carries `neg2`. The contract theorems above then apply to that list. -/
def nonEmptyB (t : Tok) : Bool := !t.form.isEmpty

/-- the constituent notation removes the empty realizations once more after the placement (`flt`) -/
def keepF (flt : Bool) (l : List Tok) : List Tok := if flt then l.filter nonEmptyB else l

theorem keepF_append (flt : Bool) (a b : List Tok) : keepF flt (a ++ b) = keepF flt a ++ keepF flt b := by
  cases flt
  · rfl
  · exact List.filter_append ..

theorem keepF_cons (flt : Bool) (t : Tok) (l : List Tok) (h : flt = true → t.form ≠ []) :
    keepF flt (t :: l) = t :: keepF flt l := by
  cases flt
  · rfl
  · exact List.filter_cons_of_pos (by simpa [nonEmptyB] using h rfl)

theorem keepF_mem (flt : Bool) (l : List Tok) (t : Tok) (h : t ∈ keepF flt l) : t ∈ l := by
  cases flt
  · exact h
  · exact (List.mem_filter.mp h).1

/-- **what both notations hand to `doPronounPlacement`**: verb-free tokens `pre`, the first token `y` of the first verb
    (a non-empty form `f`; it carries the negation `w`, and no hyphen outside an interrogative), clean tokens `tl`.
    The realized clause `toks` is what the placement returns, with the empty realizations removed once more in the
    constituent notation (`flt`), where the S does it. -/
def Handed (refl : Bool) (w : Option Str) (noInt : Prop) (Q : VT → Prop) (flt : Bool) (toks : List Tok) : Prop :=
  ∃ pre y f tl out, (∀ t ∈ pre, t.isV = false) ∧ (∀ t ∈ tl, TokTailOk t) ∧ y.neg2 = w ∧ (noInt → y.lier = false) ∧
    f ≠ [] ∧ Q y ∧ placePronouns refl (pre ++ .v y f :: tl) = .ok out ∧ toks = if flt then removeEmpty out else out

/-- the verb token keeps a placed list from being emptied: `removeEmpty` is the filter, on both sides of it -/
theorem keepF_split (flt : Bool) (a b : List Tok) (x : VT) (f : Str) (hf : f ≠ []) :
    (if flt then removeEmpty (a ++ .v x f :: b) else a ++ .v x f :: b) = keepF flt a ++ .v x f :: keepF flt b := by
  have hfe : (Tok.v x f).form.isEmpty = false := by simpa [Tok.form] using hf
  cases flt
  · rfl
  · rw [if_pos rfl, removeEmpty_filter _ ⟨.v x f, by simp, hfe⟩]
    exact (keepF_append true a _).trans (congrArg (keepF true a ++ ·) (keepF_cons true _ b (fun _ => hf)))

theorem atFirst_of (pre tl : List Tok) (hpre : ∀ t ∈ pre, t.isV = false) (htl : ∀ t ∈ tl, TokTailOk t) :
    AtFirstVerb pre tl := by
  refine ⟨hpre, fun t ht => ?_⟩
  cases t with
  | v y g =>
    rcases List.mem_append.mp ht with ht | ht
    · cases hpre _ ht
    · exact (htl _ ht).1
  | _ => trivial

theorem ne_position_of_handed {refl : Bool} {w : Str} {noInt : Prop} {flt : Bool} {toks : List Tok}
    (h : Handed refl (some w) noInt (fun y => y.t ≠ .b) flt toks) :
    ∃ a cs x f b, toks = a ++ .adv ne :: cs ++ .v x f :: b ∧ (∀ c ∈ cs, IsCliticFn c) ∧ (∀ t ∈ a, t.isV = false) ∧
      x.neg2 = none := by
  obtain ⟨pre, y, f, tl, out, hpre, htl, hyn, _, hf, hyt, hpl, rfl⟩ := h
  obtain ⟨cs, after, rfl, hcs⟩ := ne_position_holds refl pre tl y f w out (atFirst_of pre tl hpre htl) hyn hyt hpl
  refine ⟨keepF flt pre, keepF flt cs, { y with neg2 := none }, f, keepF flt after, ?_, fun c hc => hcs c (keepF_mem _ _ _ hc),
    fun t ht => hpre t (keepF_mem _ _ _ ht), rfl⟩
  rw [keepF_split flt _ after _ f hf, keepF_append, keepF_cons flt _ cs (fun _ => by decide)]

theorem neg2_position_of_handed {refl : Bool} {w : Str} {noInt : Prop} {flt : Bool} {toks : List Tok}
    (hw : flt = true → w ≠ []) (h : Handed refl (some w) noInt (fun y => y.t ≠ .b) flt toks) :
    ∃ a x f mid b, toks = a ++ .v x f :: mid ++ .q w :: b ∧ (∀ t ∈ a, t.isV = false) ∧ mid.length ≤ 1 ∧
      (noInt → mid = []) := by
  obtain ⟨pre, y, f, tl, out, hpre, htl, hyn, hyl, hf, hyt, hpl, rfl⟩ := h
  obtain ⟨before, mid, after, rfl, hmid, hbefore⟩ :=
    neg2_position_finite_holds refl pre tl y f w out (atFirst_of pre tl hpre htl) hyn hyt hpl
  have hlen : (keepF flt mid).length ≤ mid.length := by
    cases flt
    · exact Nat.le_refl _
    · exact List.length_filter_le _ _
  refine ⟨keepF flt before, { y with neg2 := none }, f, keepF flt mid, keepF flt after, ?_,
    fun t ht => hbefore t (keepF_mem _ _ _ ht), ?_, fun hi => ?_⟩
  · rw [show before ++ Tok.v { y with neg2 := none } f :: mid ++ Tok.q w :: after =
        before ++ Tok.v { y with neg2 := none } f :: (mid ++ Tok.q w :: after) from by simp,
      keepF_split flt before _ _ f hf, keepF_append, keepF_cons flt (.q w) after hw]
    simp
  · by_cases hl : y.lier = true
    · rw [if_pos hl] at hmid; omega
    · rw [if_neg hl] at hmid; omega
  · rw [hyl hi] at hmid
    cases mid with
    | nil => cases flt <;> rfl
    | cons _ _ => cases hmid

theorem clitic_order_of_handed {refl : Bool} {w : Option Str} {noInt : Prop} {flt : Bool} {toks : List Tok}
    (h : Handed refl w noInt (fun y => y.isMod = false ∧ y.isProg = false ∧ tableFor y ≠ .ipPos) flt toks) :
    ∃ a run x f b tb, toks = a ++ run ++ .v x f :: b ∧ (∀ t ∈ a ++ run, t.isV = false) ∧ SortedBy (rankOf tb) run := by
  obtain ⟨pre, y, f, tl, out, hpre, htl, _, _, hf, ⟨hym, hyp, hytb⟩, hpl, rfl⟩ := h
  have hmain := (atFirst_of pre tl hpre htl).main
  have hs := clitic_order_holds refl pre tl y f out hmain hym hyp hytb hpl
  obtain ⟨run, x', after, rfl, hrun, _⟩ := clitic_host_holds refl pre tl y f out hmain hym hyp hytb hpl
  rw [runBefore_eq pre run after _ rfl hrun] at hs
  refine ⟨keepF flt pre, keepF flt run, x', f, keepF flt after, tableFor y, ?_, fun t ht => ?_, ?_⟩
  · rw [keepF_split flt _ after x' f hf, keepF_append]
  · exact List.forall_mem_append.mpr ⟨fun t ht => hpre t (keepF_mem _ _ _ ht), fun t ht => hrun t (keepF_mem _ _ _ ht)⟩ t ht
  · cases flt
    · exact hs
    · exact List.Pairwise.filter _ hs

/-! ### constituent notation -/

/-- the first verb of the clause inflects (no morphology error), its form is not empty and `Q` holds of its first
    token: stated on the list of the VP before placement -/
def FirstVerb (Q : VT → Prop) (sp : Spec) : Prop :=
  ∀ sel vp e raw, phraseTyped sp = .ok (sel, vp, e) →
    realVPToks sp.typ.refl (pronominalizeVP vp) = .ok raw →
    ∃ y f tl, raw = .v y f :: tl ∧ f ≠ [] ∧ Q y

/-- the list handed to `doPronounPlacement` by the VP, behind the verb-free tokens the S puts in front -/
theorem phrase_placement_input (Q : VT → Prop) (sp : Spec) (toks : List Tok) (e : Str) (w : Option Str)
    (hok : IntOk sp) (hw : sp.typ.neg.map NegV.word2 = w) (hf : FirstVerb Q sp)
    (h : phraseToks sp = .ok (toks, e)) : Handed sp.typ.refl w (sp.typ.int = none) Q true toks := by
  unfold phraseToks at h
  obtain ⟨⟨sel, vp, endS⟩, hty, h⟩ := bindE_ok _ _ _ h
  dsimp only at h
  obtain ⟨toks', hreal, h⟩ := bindE_ok _ _ _ h
  cases h
  obtain ⟨hsel, b, c, hvc, hb, _⟩ := phraseTyped_inv sp sel vp e hok hty
  obtain ⟨x, np, rv, more, spre, placed, hc, hnp, hxn, hxl, hmore, hspre, hraw, hpl, rfl⟩ :=
    phraseReal_parts sp.typ.refl sel vp toks _ b hsel hvc.1 hreal
  obtain ⟨y, f, tl0, hrawe, hfne, hQ⟩ := hf sel vp e _ hty hraw
  obtain ⟨hd, tl1, hr, _⟩ := conj_first x sp.typ.refl np rv hnp hc
  rw [hr] at hrawe
  cases hrawe
  obtain ⟨pre', tl, hre, hpre', htl, hyn, hyl, _⟩ :=
    parts_removeEmpty x sp.typ.refl np rv [] more tl1 y f hc hnp (fun _ ht => nomatch ht) hmore hr hfne
  rw [List.nil_append] at hre
  rw [hre] at hpl
  refine ⟨spre ++ pre', y, f, tl, spre ++ placed, List.forall_mem_append.mpr ⟨hspre, hpre'⟩, htl,
    hyn.trans (hxn.trans hw), fun hi => hyl.trans (hxl.trans (hb hi)), hfne, hQ, ?_, rfl⟩
  rw [List.append_assoc, place_prefix _ _ _ hspre, hpl]; rfl

def FirstVerbFinite (sp : Spec) : Prop := FirstVerb (fun y => y.t ≠ .b) sp

/-- **C05 `ne`, clause level**: for every clause specification (any subject, verb, tense, complements in any number and
    order, pronominalized or not, passive / progressive / modality / reflexive flags, any interrogative) with a
    negation, the realized clause is `a ++ ne :: clitics ++ verb :: b` with no verb in `a` -/
def ne_position_clause : Prop :=
  ∀ (sp : Spec) (nv : NegV) (toks : List Tok) (e : Str),
    IntOk sp → sp.typ.neg = some nv → FirstVerbFinite sp → phraseToks sp = .ok (toks, e) →
    ∃ a cs x f b, toks = a ++ .adv ne :: cs ++ .v x f :: b ∧ (∀ c ∈ cs, IsCliticFn c) ∧ (∀ t ∈ a, t.isV = false) ∧
      x.neg2 = none

/-- **C05 second negative word, clause level**: …and it is followed by the second negative word — immediately, or
    behind the inverted subject pronoun of an interrogative (at most one token in between; none without `int`) -/
def neg2_position_clause : Prop :=
  ∀ (sp : Spec) (nv : NegV) (toks : List Tok) (e : Str),
    IntOk sp → sp.typ.neg = some nv → nv.word2 ≠ [] → FirstVerbFinite sp → phraseToks sp = .ok (toks, e) →
    ∃ a x f mid b, toks = a ++ .v x f :: mid ++ .q nv.word2 :: b ∧ (∀ t ∈ a, t.isV = false) ∧ mid.length ≤ 1 ∧
      (sp.typ.int = none → mid = [])

theorem ne_position_clause_holds : ne_position_clause := by
  intro sp nv toks e hok hneg hf h
  exact ne_position_of_handed (phrase_placement_input _ sp toks e _ hok (by rw [hneg]; rfl) hf h)

theorem neg2_position_clause_holds : neg2_position_clause := by
  intro sp nv toks e hok hneg hw hf h
  exact neg2_position_of_handed (fun _ => hw) (phrase_placement_input _ sp toks e _ hok (by rw [hneg]; rfl) hf h)

/-- executable form of `FirstVerbFinite` -/
def firstVerbFiniteB (sp : Spec) : Bool :=
  match phraseTyped sp with
  | .ok (_, vp, _) =>
    (match realVPToks sp.typ.refl (pronominalizeVP vp) with
     | .ok (.v y f :: _) => !f.isEmpty && y.t != .b
     | .ok _ => false
     | .error _ => true)
  | .error _ => true

theorem firstVerbFinite_of_check (sp : Spec) (h : firstVerbFiniteB sp = true) : FirstVerbFinite sp := by
  intro sel vp e raw h1 h2
  show ∃ y f tl, raw = .v y f :: tl ∧ f ≠ [] ∧ y.t ≠ .b
  unfold firstVerbFiniteB at h
  simp only [h1, h2] at h
  cases raw with
  | nil => simp at h
  | cons t tl =>
    cases t <;> simp at h
    rename_i y f
    exact ⟨y, f, tl, rfl, by cases f <;> simp_all, by simpa using h.2⟩

/-- non-vacuity: « il ne le lui donne pas » (complements given in the wrong order, negation) -/
def ilNeLeLuiDonnePas : Spec := { ilLuiLe with typ := { neg := some .yes } }
example : FirstVerbFinite ilNeLeLuiDonnePas := firstVerbFinite_of_check _ (by decide +kernel)
example : (phraseToks ilNeLeLuiDonnePas).map (fun r => r.1.map Tok.form) =
    .ok ["il".toList, "ne".toList, "le".toList, "lui".toList, "donne".toList, "pas".toList] := by decide +kernel

/-- the first verb token of the VP inflects and is the main verb (no modality / progressive flag), not a positive
    imperative: true of every conjugable clause without `mod` and `prog` -/
def FirstVerbMain (sp : Spec) : Prop :=
  FirstVerb (fun y => y.isMod = false ∧ y.isProg = false ∧ tableFor y ≠ .ipPos) sp

/-- **C05 clitic order, clause level** (constituent notation, any interrogative): whatever complements are given, in
    whatever order, pronominalized or not, the realized clause is `a ++ run ++ verb :: b` with no verb in `a ++ run`
    and `run` — `ne`, the reflexive pronoun, every clitic the scan reaches — sorted by the rank table in force -/
def clitic_order_clause : Prop :=
  ∀ (sp : Spec) (toks : List Tok) (e : Str),
    IntOk sp → FirstVerbMain sp → phraseToks sp = .ok (toks, e) →
    ∃ a run x f b tb, toks = a ++ run ++ .v x f :: b ∧ (∀ t ∈ a ++ run, t.isV = false) ∧ SortedBy (rankOf tb) run

theorem clitic_order_clause_holds : clitic_order_clause := by
  intro sp toks e hok hm h
  exact clitic_order_of_handed (phrase_placement_input _ sp toks e _ hok rfl hm h)

/-- executable form of `FirstVerbMain` -/
def firstVerbMainB (sp : Spec) : Bool :=
  match phraseTyped sp with
  | .ok (_, vp, _) =>
    (match realVPToks sp.typ.refl (pronominalizeVP vp) with
     | .ok (.v y f :: _) => !f.isEmpty && !y.isMod && !y.isProg && tableFor y != .ipPos
     | .ok _ => false
     | .error _ => true)
  | .error _ => true

theorem firstVerbMain_of_check (sp : Spec) (h : firstVerbMainB sp = true) : FirstVerbMain sp := by
  intro sel vp e raw h1 h2
  unfold firstVerbMainB at h
  simp only [h1, h2] at h
  cases raw with
  | nil => simp at h
  | cons t tl =>
    cases t <;> simp at h
    rename_i y f
    exact ⟨y, f, tl, rfl, by cases f <;> simp_all, by simpa using h.1.1.2, by simpa using h.1.2, by simpa using h.2⟩

/-- non-vacuity of `clitic_order_clause`: four pronominalized complements given in the reverse of the canonical order -/
def reversed4 : Spec :=
  { subj := some (.pro false 3 .s .m), verb := witnessVerbLex, t := Tense.p,
    comps := [.pp "de".toList { id := 4, g := .m, n := .s, pro := true }, .pp "dans".toList { id := 3, g := .m, n := .s, pro := true },
              .pp "à".toList { id := 2, g := .f, n := .s, pro := true }, .dir { id := 1, g := .m, n := .s, pro := true }],
    typ := { neg := some .yes, refl := true } }
example : FirstVerbMain reversed4 := firstVerbMain_of_check _ (by decide +kernel)
example : (phraseToks reversed4).map (fun r => r.1.map Tok.form) =
    .ok ["il".toList, "ne".toList, "le".toList, "lui".toList, "y".toList, "en".toList, "donne".toList, "pas".toList] := by decide +kernel

/-! ## one finite verb, on the tokens of the whole realized clause -/

/-- **C05 one finite verb, clause level**: in the token list of the realized clause (constituent notation, with or
    without an interrogative; any subject, verb, tense, complements, passive / progressive / modality / negation / reflexive),
    every verb token behind the first one is an infinitive, a past participle, or the participle half of a compound
    tense (`NonFin`): at most one finite form, and it is the first verb -/
def one_finite_verb_clause : Prop :=
  ∀ (sp : Spec) (toks : List Tok) (e : Str), IntOk sp → phraseToks sp = .ok (toks, e) →
    ∀ t ∈ (vts toks).tail, NonFin t

theorem one_finite_verb_clause_holds : one_finite_verb_clause := by
  intro sp toks e hok h
  unfold phraseToks at h
  obtain ⟨⟨sel, vp, endS⟩, hty, h⟩ := bindE_ok _ _ _ h
  dsimp only at h
  obtain ⟨toks', hreal, h⟩ := bindE_ok _ _ _ h
  cases h
  obtain ⟨hsel, b, c, hvc, _⟩ := phraseTyped_inv sp sel vp e hok hty
  exact phraseReal_one_finite sp.typ.refl sel vp toks _ b hsel hvc.1 hreal

/-- `doPronounPlacement` keeps the verbs of ANY token list: same number, same order, same tenses -/
theorem placement_keeps_verbs (refl : Bool) (cl out : List Tok) (h : placePronouns refl cl = .ok out) :
    vts out = vts cl := vts_place refl cl out h

/-- non-vacuity: « il ne le a pas pu être en train de donner » — four verb tokens, only the first one finite (the
    second is the participle half of the compound tense) -/
def nested4 : Spec :=
  { subj := some (.pro false 3 .s .m), verb := witnessVerbLex, t := Tense.pc,
    comps := [.dir { id := 1, g := .m, n := .s, pro := true }],
    typ := { neg := some .yes, prog := true, mod := some "poss".toList } }
example : (phraseToks nested4).map (fun r => vts r.1) = .ok [Tense.p, Tense.pc, Tense.b, Tense.b] := by decide +kernel

/-! ### dependency notation: `root(V, subj(..), comp(..)…).typ(..)` -/

/-- the two notations declare the same nesting, except for the tense of a passive imperative -/
theorem expectedChainDep_eq (sp : Spec) (h : sp.typ.pas = false ∨ sp.t ≠ .ip) : expectedChainDep sp = expectedChain sp := by
  unfold expectedChainDep expectedChain
  rcases h with h | h
  · simp [h, pasLayer, pasLayerDep]
  · simp [h, pasLayer, pasLayerDep]

/-- **C05 nesting, dependency notation**: the root verb followed by the verbs among its dependents, in order, is the
    declared nesting -/
def nesting_order_dep : Prop :=
  ∀ (sp : Spec) (v : VT) (deps : List Dep) (e : Str),
    (∀ m, sp.typ.mod = some m → (modalLemma m).isSome = true) →
    depTyped sp = .ok (v, deps, e) → chainOf (v, deps) = expectedChainDep sp

theorem nesting_order_dep_holds : nesting_order_dep := by
  intro sp v deps e hmod h
  obtain ⟨b, c, hd, _, hc⟩ := depTyped_all sp v deps e h
  rw [hd.2.2.2, hc hmod]

/-- non-vacuity: root « pouvoir », then « être » (progressive), « être » (passive), « donner » -/
def nestingWitnessDep : Spec :=
  { subj := some (.np { id := 0, g := .m, n := .s, pro := false }), verb := witnessVerbLex, t := Tense.p,
    comps := [.dir { id := 1, g := .m, n := .s, pro := false }],
    typ := { pas := true, prog := true, mod := some "poss".toList } }
example : (depTyped nestingWitnessDep).map (fun r => chainOf (r.1, r.2.1)) =
    .ok [("pouvoir".toList, .p), ("être".toList, .b), ("être".toList, .b), ("donner".toList, .pp)] := by decide +kernel

/-- **C05 one finite verb, dependency notation, clause level** -/
def one_finite_verb_clause_dep : Prop :=
  ∀ (sp : Spec) (toks : List Tok) (e : Str), depToks sp = .ok (toks, e) → ∀ t ∈ (vts toks).tail, NonFin t

theorem one_finite_verb_clause_dep_holds : one_finite_verb_clause_dep := by
  intro sp toks e h
  unfold depToks at h
  obtain ⟨⟨v, deps, endS⟩, hty, h⟩ := bindE_ok _ _ _ h
  dsimp only at h
  obtain ⟨toks', hreal, h⟩ := bindE_ok _ _ _ h
  cases h
  obtain ⟨b, c, hd, _⟩ := depTyped_all sp v deps e hty
  exact depReal_one_finite sp.typ.refl v deps toks hd.2.2.1 hreal

/-- the root verb inflects (no morphology error), its form is not empty, and `Q` holds of its first token -/
def FirstVerbDep (Q : VT → Prop) (sp : Spec) : Prop :=
  ∀ v deps e rv, depTyped sp = .ok (v, deps, e) →
    conjugate v sp.typ.refl (depNextPro (deps.filter Dep.isPre ++ deps.filter (fun d => !d.isPre))) = .ok rv →
    ∃ y f tl, rv.1 = .v y f :: tl ∧ f ≠ [] ∧ Q y

/-- the list the dependency notation hands to `doPronounPlacement`: the tokens of the whole clause -/
theorem dep_placement_input (Q : VT → Prop) (sp : Spec) (toks : List Tok) (e : Str) (w : Option Str)
    (hw : sp.typ.neg.map NegV.word2 = w) (hf : FirstVerbDep Q sp)
    (h : depToks sp = .ok (toks, e)) : Handed sp.typ.refl w (sp.typ.int = none) Q false toks := by
  unfold depToks at h
  obtain ⟨⟨v, deps, endS⟩, hty, h⟩ := bindE_ok _ _ _ h
  dsimp only at h
  obtain ⟨toks', hreal, h⟩ := bindE_ok _ _ _ h
  cases h
  obtain ⟨b, c, ⟨hvn, hvl, hdi, _⟩, hb, _⟩ := depTyped_all sp v deps e hty
  obtain ⟨rv, preT, postT, hrv, hpre, hpost, hfin⟩ := depReal_parts sp.typ.refl v deps toks hdi hreal
  obtain ⟨y, f, tl0, hrve, hfne, hQ⟩ := hf v deps e rv hty hrv
  obtain ⟨pre', tl, hre, hpre', htl, hyn, hyl, _⟩ := parts_removeEmpty v sp.typ.refl _ rv preT postT tl0 y f hrv
    (fun q hq => depNextPro_noV _ q hq) hpre hpost hrve hfne
  have hroot : rootIsVToks rv.1 = true := by rw [hrve]; cases tl0 <;> rfl
  rw [if_pos hroot, hre] at hfin
  exact ⟨pre', y, f, tl, toks, hpre', htl, hyn.trans (hvn.trans hw), fun hi => hyl.trans (hvl.trans (hb hi).1), hfne, hQ,
    hfin, rfl⟩

def FirstVerbDepFinite (sp : Spec) : Prop := FirstVerbDep (fun y => y.t ≠ .b) sp

/-- **C05 `ne`, clause level, dependency notation** -/
def ne_position_clause_dep : Prop :=
  ∀ (sp : Spec) (nv : NegV) (toks : List Tok) (e : Str),
    sp.typ.neg = some nv → FirstVerbDepFinite sp → depToks sp = .ok (toks, e) →
    ∃ a cs x f b, toks = a ++ .adv ne :: cs ++ .v x f :: b ∧ (∀ c ∈ cs, IsCliticFn c) ∧ (∀ t ∈ a, t.isV = false) ∧
      x.neg2 = none

theorem ne_position_clause_dep_holds : ne_position_clause_dep := by
  intro sp nv toks e hneg hf h
  exact ne_position_of_handed (dep_placement_input _ sp toks e _ (by rw [hneg]; rfl) hf h)

/-- **C05 second negative word, clause level, dependency notation**: right after the verb — behind the inverted
    subject pronoun when the clause is an interrogative with inversion (at most one token in between, none without
    an interrogative) -/
def neg2_position_clause_dep : Prop :=
  ∀ (sp : Spec) (nv : NegV) (toks : List Tok) (e : Str),
    sp.typ.neg = some nv → FirstVerbDepFinite sp → depToks sp = .ok (toks, e) →
    ∃ a x f mid b, toks = a ++ .v x f :: mid ++ .q nv.word2 :: b ∧ (∀ t ∈ a, t.isV = false) ∧ mid.length ≤ 1 ∧
      (sp.typ.int = none → mid = [])

theorem neg2_position_clause_dep_holds : neg2_position_clause_dep := by
  intro sp nv toks e hneg hf h
  exact neg2_position_of_handed (flt := false) (fun hc => nomatch hc) (dep_placement_input _ sp toks e _ (by rw [hneg]; rfl) hf h)

def FirstVerbDepMain (sp : Spec) : Prop :=
  FirstVerbDep (fun y => y.isMod = false ∧ y.isProg = false ∧ tableFor y ≠ .ipPos) sp

/-- **C05 clitic order, clause level, dependency notation** -/
def clitic_order_clause_dep : Prop :=
  ∀ (sp : Spec) (toks : List Tok) (e : Str),
    FirstVerbDepMain sp → depToks sp = .ok (toks, e) →
    ∃ a run x f b tb, toks = a ++ run ++ .v x f :: b ∧ (∀ t ∈ a ++ run, t.isV = false) ∧ SortedBy (rankOf tb) run

theorem clitic_order_clause_dep_holds : clitic_order_clause_dep := by
  intro sp toks e hm h
  exact clitic_order_of_handed (dep_placement_input _ sp toks e _ rfl hm h)

/-- executable form of `FirstVerbDep` for a decidable `q` -/
def firstVerbDepB (q : VT → Bool) (sp : Spec) : Bool :=
  match depTyped sp with
  | .ok (v, deps, _) =>
    (match conjugate v sp.typ.refl (depNextPro (deps.filter Dep.isPre ++ deps.filter (fun d => !d.isPre))) with
     | .ok (.v y f :: _, _) => !f.isEmpty && q y
     | .ok _ => false
     | .error _ => true)
  | .error _ => true

theorem firstVerbDep_of_check (q : VT → Bool) (sp : Spec) (h : firstVerbDepB q sp = true) :
    FirstVerbDep (fun y => q y = true) sp := by
  intro v deps e rv h1 h2
  unfold firstVerbDepB at h
  simp only [h1, h2] at h
  obtain ⟨l, b⟩ := rv
  cases l with
  | nil => simp at h
  | cons t tl =>
    cases t <;> simp at h
    rename_i y f
    exact ⟨y, f, tl, rfl, by cases f <;> simp_all, h.2⟩

/-- non-vacuity, dependency notation: « il ne le lui donne pas », « il ne le lui y en donne pas » -/
example : FirstVerbDepFinite ilNeLeLuiDonnePas := by
  have := firstVerbDep_of_check (fun y => y.t != .b) _ (by decide +kernel : firstVerbDepB _ ilNeLeLuiDonnePas = true)
  intro v deps e rv h1 h2
  obtain ⟨y, f, tl, a, b, c⟩ := this v deps e rv h1 h2
  exact ⟨y, f, tl, a, b, by simpa using c⟩
example : (depToks ilNeLeLuiDonnePas).map (fun r => r.1.map Tok.form) =
    .ok ["il".toList, "ne".toList, "le".toList, "lui".toList, "donne".toList, "pas".toList] := by decide +kernel
example : FirstVerbDepMain reversed4 := by
  have := firstVerbDep_of_check (fun y => !y.isMod && !y.isProg && tableFor y != .ipPos) _
    (by decide +kernel : firstVerbDepB _ reversed4 = true)
  intro v deps e rv h1 h2
  obtain ⟨y, f, tl, a, b, c⟩ := this v deps e rv h1 h2
  have c' : (y.isMod = false ∧ y.isProg = false) ∧ ¬tableFor y = CTable.ipPos := by simpa using c
  exact ⟨y, f, tl, a, b, c'.1.1, c'.1.2, c'.2⟩
example : (depToks reversed4).map (fun r => r.1.map Tok.form) =
    .ok ["il".toList, "ne".toList, "le".toList, "lui".toList, "y".toList, "en".toList, "donne".toList, "pas".toList] := by decide +kernel

/-- the guard « already elided » of loop 2 since commit c4595d2: the first word of the realization, so a tag or a
    punctuation sign attached to the pronoun no longer hides the apostrophe -/
example : elidedForm "<i>l'</i>.".toList = true ∧ elidedForm "l'".toList = true ∧ elidedForm "le".toList = false ∧
    elidedForm "le.'".toList = false := by decide +kernel

/-- non-vacuity with an interrogative: « ne le lui donne-t-il pas ? » (the inverted pronoun stands between the verb and
    « pas »: `mid` of `neg2_position_clause_dep` has one token) -/
def neLeLuiDonneTIlPas : Spec := { ilLuiLe with typ := { neg := some .yes, int := some "yon".toList } }
example : firstVerbDepB (fun y => y.t != .b) neLeLuiDonneTIlPas = true := by decide +kernel
example : (depToks neLeLuiDonneTIlPas).map (fun r => r.1.map Tok.form) =
    .ok ["ne".toList, "le".toList, "lui".toList, "donne".toList, "il".toList, "pas".toList] := by decide +kernel

/-- non-vacuity with an interrogative, constituent notation: « ne le lui donne-t-il pas ? », « pourquoi … » -/
example : IntOk neLeLuiDonneTIlPas := fun _ _ _ => ⟨rfl, rfl⟩
example : firstVerbFiniteB neLeLuiDonneTIlPas = true := by decide +kernel
example : (phraseToks neLeLuiDonneTIlPas).map (fun r => r.1.map Tok.form) =
    .ok ["ne".toList, "le".toList, "lui".toList, "donne".toList, "il".toList, "pas".toList] := by decide +kernel

end Pyrealb.C05
