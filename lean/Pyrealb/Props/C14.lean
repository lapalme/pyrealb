import Pyrealb.Model.Globals
import Pyrealb.Gen.Sites
/-! # C14 — output depends only on expression, language, lexicon; resources not mutated

Property theorems only.  Two kinds of statement:
* non-interference on the footprint model `Model/Globals` for ALL histories (induction over the op list);
* `…_tbl`: facts about the write inventory `Gen/Sites.globalWriteSites`, REGENERATED from `src/pyrealb/*.py` on
  every run — a new write to a global, class attribute, lexicon or rule table anywhere in the library changes
  the generated list and these `decide` proofs no longer check. -/
namespace Pyrealb.C14
open Pyrealb.Globals Pyrealb.Gen.Sites

variable {R E T : Type}

def NoMgmt (ops : List (Op R E)) : Prop := ∀ o ∈ ops, o.isManagement = false

def loadOp (l : Lang) : Op R E := match l with | .en => .loadEn | .fr => .loadFr

/-- what the user sees when realizing `probe` in state `st` -/
def probeOut (P : Params R E T) (st : State R) (probe : E) : Out T := (step P st (.realize probe)).2

theorem step_res_unchanged (P : Params R E T) (st : State R) (o : Op R E) (h : o.isManagement = false) :
    (step P st o).1.res = st.res := by
  cases o <;> simp_all [step, Op.isManagement]

theorem step_lang (P : Params R E T) (st : State R) (o : Op R E) :
    (step P st o).1.lang = lastLang st.lang [o] := by
  cases o <;> simp [step, lastLang]

theorem lastLang_cons (l0 : Lang) (o : Op R E) (os : List (Op R E)) :
    lastLang l0 (o :: os) = lastLang (lastLang l0 [o]) os := by
  cases o <;> simp [lastLang]

/-- **C14.a** building and realizing never modifies the lexicons or rule tables: after any history without a
    lexicon-management call the four resources are what they were. -/
def resources_unchanged : Prop :=
  ∀ (R E T : Type) (P : Params R E T) (st : State R) (ops : List (Op R E)),
    NoMgmt ops → (run P st ops).res = st.res

theorem resources_unchanged_holds : resources_unchanged := by
  intro R E T P st ops
  induction ops generalizing st with
  | nil => intro _; rfl
  | cons o os ih =>
    intro h
    have ho : o.isManagement = false := h o (by simp)
    have hos : NoMgmt os := fun o' ho' => h o' (by simp [ho'])
    show (run P (step P st o).1 os).res = st.res
    rw [ih _ hos, step_res_unchanged P st o ho]

/-- the current language after a history is that of the last successful load -/
def lang_is_last_load : Prop :=
  ∀ (R E T : Type) (P : Params R E T) (st : State R) (ops : List (Op R E)),
    (run P st ops).lang = lastLang st.lang ops

theorem lang_is_last_load_holds : lang_is_last_load := by
  intro R E T P st ops
  induction ops generalizing st with
  | nil => rfl
  | cons o os ih =>
    show (run P (step P st o).1 os).lang = _
    rw [ih, step_lang, lastLang_cons st.lang o os]

/-- **C14.b** history independence: the text of a probe realized after ANY history of building, realizing,
    warning, cloning, serializing, oneOf calls and language switches, followed by loading language `l`, is the
    text of the same probe in a fresh process after loading `l`. -/
def probe_history_free : Prop :=
  ∀ (R E T : Type) (P : Params R E T) (r : Res R) (ops : List (Op R E)) (l : Lang) (probe : E),
    NoMgmt ops →
    probeOut P (run P (init r) (ops ++ [loadOp l])) probe = probeOut P (run P (init r) [loadOp l]) probe

theorem run_append (P : Params R E T) (st : State R) (a b : List (Op R E)) :
    run P st (a ++ b) = run P (run P st a) b := by
  induction a generalizing st with
  | nil => rfl
  | cons o os ih => exact ih _

theorem probe_history_free_holds : probe_history_free := by
  intro R E T P r ops l probe h
  have hres : (run P (init r) ops).res = r := resources_unchanged_holds R E T P (init r) ops h
  unfold probeOut
  rw [run_append]
  cases l <;> simp [loadOp, run, step, hres] <;> rfl

/-- **C14.c** and it is unaffected by the counters and the oneOf memory, whatever their values -/
def probe_ignores_counters : Prop :=
  ∀ (R E T : Type) (P : Params R E T) (st : State R) (a b : Nat) (m : List (Nat × List Nat)) (probe : E),
    probeOut P { st with pengNO := a, tauxNO := b, oneOfMem := m } probe = probeOut P st probe

theorem probe_ignores_counters_holds : probe_ignores_counters := by
  intro R E T P st a b m probe
  simp [probeOut, step]

/-- **C14.d** only a lexicon-management call changes a lexicon, and only the named one (or the current one) -/
def management_named_lexicon : Prop :=
  ∀ (R E T : Type) (P : Params R E T) (st : State R) (l : Option Lang) (f : R → R),
    let st' := (step P st (.lexAdd l f)).1
    st'.res.rulesEn = st.res.rulesEn ∧ st'.res.rulesFr = st.res.rulesFr ∧
    (l.getD st.lang = .en → st'.res.lexFr = st.res.lexFr ∧ st'.res.lexEn = f st.res.lexEn) ∧
    (l.getD st.lang = .fr → st'.res.lexEn = st.res.lexEn ∧ st'.res.lexFr = f st.res.lexFr)

theorem management_named_lexicon_holds : management_named_lexicon := by
  intro R E T P st l f
  simp only [step]
  cases h : l.getD st.lang <;> simp [updLex]

/-- which state component a write site touches; `none` = a write the footprint model does not know -/
def classify (s : WriteSite) : Option Comp :=
  if s.target = "__lexicon.lang" then some .lang
  else if s.target = "Constituent.pengNO" ∨ s.target = "Constituent.tauxNO" then some .counters
  else if s.target.startsWith "pyrealb_oneOf_dict[" then some .oneOfMem
  else if s.target.startsWith "getLexicon()" then some .lexicon
  else none

/-- the functions allowed to write each component -/
def allowedWriter (c : Comp) (func : String) : Bool :=
  match c with
  | .lang => func = "loadEn" ∨ func = "loadFr"
  | .lexicon => func = "addToLexicon" ∨ func = "updateLexicon"
  | .counters => func = "Constituent.initProps" ∨ func = "Phrase.linkProperties" ∨ func = "Dependent.linkProperties"
  | .oneOfMem => func = "oneOf"

/-- **C14.e** every statement of the library that writes a module global, a class attribute, the lexicon
    object or a value obtained from the lexicon/rule accessors is one of the writes of the footprint model, in a
    function allowed to perform it: the lexicons are written only by addToLexicon/updateLexicon, the rule
    tables by nobody, the current language only by loadEn/loadFr; no mutable default argument, no cache. -/
def writes_allowed_tbl : Prop :=
  ∀ s ∈ globalWriteSites, ∃ c, classify s = some c ∧ allowedWriter c s.func = true

/-- **C14.f** nothing in the library switches the current language behind the user's back: the only calls of
    `load`/`loadEn`/`loadFr` and of `realize(<language>)` in the source are `load` dispatching to `loadEn`/`loadFr`
    the documented `Constituent.realize(lang)` and `buildLemmataMap(lang)` (both switch to the language they are given). (A warning, a constructor or a realization that called one of
    them would make later output depend on what was warned about or realized before.) -/
def lang_switch_tbl : Prop :=
  ∀ s ∈ langSwitchCalls, s = ("Lexicon.py", "load", "loadEn") ∨ s = ("Lexicon.py", "load", "loadFr") ∨
    s = ("Constituent.py", "Constituent.realize", "load") ∨
    s = ("lemmatize.py", "buildLemmataMap", "load")

theorem lang_switch_tbl_holds : lang_switch_tbl := by
  unfold lang_switch_tbl
  decide +kernel

/-- the components the inventory says are written somewhere are exactly those the model's operations write -/
def modelComps : List Comp := [.counters, .lexicon, .lang, .oneOfMem]

def inventoryComps : List Comp := (globalWriteSites.filterMap classify).eraseDups

def model_writes_agree_tbl : Prop :=
  (∀ c ∈ inventoryComps, c ∈ modelComps) ∧ (∀ c ∈ modelComps, c ∈ inventoryComps)

/-- both facts classify every site of the inventory: one evaluation -/
theorem write_inventory_tbl : writes_allowed_tbl ∧ model_writes_agree_tbl := by
  unfold writes_allowed_tbl model_writes_agree_tbl
  decide +kernel

theorem writes_allowed_tbl_holds : writes_allowed_tbl := write_inventory_tbl.1

theorem model_writes_agree_tbl_holds : model_writes_agree_tbl := write_inventory_tbl.2

/-- frame property tying `modelComps` to `step`: a non-management op leaves `lang` alone unless it is a load,
    and leaves the resources alone always (see `step_res_unchanged`) -/
theorem step_lang_frame (P : Params R E T) (st : State R) (o : Op R E)
    (h1 : o ≠ .loadEn) (h2 : o ≠ .loadFr) : (step P st o).1.lang = st.lang := by
  cases o <;> simp_all [step]

example : NoMgmt ([.loadFr, .build (7 : Nat), .realize 7, .warn 3, .oneOf 1 [0, 2], .loadOther] : List (Op Nat Nat)) := by
  intro o ho; simp at ho; rcases ho with h | h | h | h | h | h <;> subst h <;> rfl
example : globalWriteSites.length ≥ 10 := by decide +kernel

end Pyrealb.C14
