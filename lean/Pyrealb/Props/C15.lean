import Pyrealb.Model.LangSites
/-! # C15 — a constituent keeps the language it was created in, even inside the other

Property theorems only.
* `cur_independent`: information-flow lemma for ALL site lists and all resource contents — what a function body
  looks up does not depend on the current language unless one of its sites is of kind `current`.
* `sites_ok_tbl`: over the inventory `Gen/Sites.langSites` REGENERATED from `src/pyrealb/*.py` on every run, every
  lookup/factory call whose language is left to the current language sits in a function of the explicit exempt
  list (definitional defaults, notation converters, lemmatizer, warning sentences) — after the two `fix:` commits
  8586a6a and 92bd809 this includes the sentence-type transformations, beyond the property's scope G₀.  A new
  current-language lookup anywhere else changes the generated list and this `decide` proof no longer checks. -/
namespace Pyrealb.C15
open Pyrealb.LangSites Pyrealb.Gen.Sites

/-- **C15.a** non-interference: if no site of a function body is of kind `current`, its lookups are the same
    whatever language is current (for every content of lexicons and rules, own language and parameter). -/
def cur_independent : Prop :=
  ∀ (V : Type) (look : String → Lang → V) (own par cur₁ cur₂ : Lang) (sites : List Site),
    (∀ s ∈ sites, s.ref ≠ Ref.current) →
    runSites look cur₁ own par sites = runSites look cur₂ own par sites

theorem cur_independent_holds : cur_independent := by
  intro V look own par cur₁ cur₂ sites h
  unfold runSites
  apply List.map_congr_left
  intro s hs
  have := h s hs
  cases hr : s.ref <;> simp_all [resolve]

/-- conversely a `current` site really lets the current language through (the statement is not vacuous) -/
def current_site_leaks : Prop :=
  ∃ (look : String → Lang → Lang) (own par : Lang) (sites : List Site),
    runSites look .en own par sites ≠ runSites look .fr own par sites

theorem current_site_leaks_holds : current_site_leaks :=
  ⟨fun _ l => l, .en, .en, [⟨"getLemma", .current⟩], by decide⟩

/-- **C15.b** self/literal sites use the constituent's own / the stated language -/
def self_site_uses_own : Prop :=
  ∀ (cur own par : Lang), resolve cur own par .self = own ∧ ∀ l, resolve cur own par (.lit l) = l

theorem self_site_uses_own_holds : self_site_uses_own := by
  intro cur own par; exact ⟨rfl, fun _ => rfl⟩

/-- **C15.c** (generated inventory) every site that leaves the language to the current language is in an exempt
    function; in particular none is left in `Terminal.setLemma`, the declension/conjugation code, elision,
    `getTonicPro`, or the constructors of `Phrase`/`Dependent`.  Second conjunct: the private helpers counted as exempt are
    exactly those the call graph certifies (`derivedOK`: every caller an exempt root or an earlier entry). -/
def sites_ok_tbl : Prop :=
  (∀ s ∈ langSites, isCurrentKind s.kind = true → isExempt s.func = true) ∧
    derivedOK callGraph exemptFunctions [] derivedExempt = true

/-- the certificate check is not vacuous: a helper with a caller outside the exempt functions is rejected, one whose
    only caller is exempt is accepted -/
example : derivedOK [("A.f", "h"), ("B.g", "h")] ["A.f"] [] ["M.h"] = false := by decide +kernel
example : derivedOK [("A.f", "h"), ("M.h", "h")] ["A.f"] [] ["M.h"] = true := by decide +kernel
example : derivedOK [] ["A.f"] [] ["M.h"] = false := by decide +kernel

/-- the functions on the realization path of G₀ named by the property's anchors -/
def g0_functions : List String :=
  ["Terminal.setLemma", "Terminal.decline", "Terminal.real", "TerminalEn.conjugate", "TerminalEn.decline_adj_adv",
   "TerminalFr.conjugate", "TerminalFr.decline_adj_adv", "ConstituentFr.doElision", "ConstituentFr.doElision.isElidableFr",
   "ConstituentEn.doElision", "Constituent.getTonicPro", "Constituent.doFormat", "Phrase.__init__", "Phrase.add",
   "Dependent.__init__", "Phrase.real", "Dependent.real", "Phrase.cpReal", "Dependent.coordReal",
   "PhraseEn.processTyp_verb", "PhraseFr.processTyp_verb", "DependentEn.processTyp_verb", "DependentFr.processTyp_verb",
   "NonTerminalEn.affixHopping", "NonTerminalFr.doPronounPlacement", "Phrase.processTyp", "Dependent.processTyp",
   "Phrase.processInt", "Dependent.processTypInt", "Phrase.passivate", "Dependent.passivate",
   "PhraseEn.tag_question", "DependentEn.tag_question", "PhraseFr.move_object", "DependentFr.move_object"]

/-- no function of `g0_functions` has a current-language site -/
def g0_sites_tbl : Prop :=
  ∀ s ∈ langSites, g0_functions.contains s.func = true → isCurrentKind s.kind = false

/-- The facts about the generated inventory, evaluated together (they compare the same function names): `sites_ok_tbl`;
    no function of G₀ is exempt; the second block of the inventory alone (the `Dependent*`/`Phrase*` classes) has
    fifteen sites in functions of G₀. -/
theorem inventory_tbl :
    sites_ok_tbl ∧ (∀ f ∈ g0_functions, isExempt f = false) ∧
      15 ≤ (langSites1.filter (fun s => g0_functions.contains s.func)).length := by
  unfold sites_ok_tbl
  decide +kernel

theorem sites_ok_tbl_holds : sites_ok_tbl := inventory_tbl.1

/-- A current-language site sits in an exempt function (`sites_ok_tbl`), and no function of G₀ is exempt. -/
theorem g0_sites_tbl_holds : g0_sites_tbl := by
  intro s hs hg
  cases hk : isCurrentKind s.kind
  · rfl
  · have hex := sites_ok_tbl_holds.1 s hs hk
    rw [inventory_tbl.2.1 s.func (List.contains_iff_mem.mp hg)] at hex
    cases hex

/-- non-vacuity: the inventory really contains sites in those functions -/
example : (langSites.filter (fun s => g0_functions.contains s.func)).length ≥ 15 := by
  have hsub : langSites1.Sublist langSites :=
    (List.sublist_append_right langSites0 _).trans
      ((List.sublist_append_left _ langSites2).trans (List.sublist_append_left _ langSites3))
  exact Nat.le_trans inventory_tbl.2.2 (hsub.filter _).length_le
example : (langSites.filter (fun s => isCurrentKind s.kind)).length ≥ 40 := by decide +kernel

end Pyrealb.C15
