import Pyrealb.Model.DateTables
import Pyrealb.Lemmas.DateCal
import Pyrealb.Lemmas.DateDec
import Pyrealb.Lemmas.DateFormat
/-! # C17 — dates and times show exactly the selected fields with the right values

The model (`Model/Date`) mirrors `Terminal.dateFormat`, `Constituent.dOpt/nat/parseDateString`, the `DT` construction and
CPython's `toordinal/weekday`; the tables are the generated ones (`Gen/DateRules`, rewritten from data/rules-*.json on
every run).  The calendar clauses and `relative_sign` hold for all dates / day differences (arithmetic); the format-cell
clauses are `decide +kernel` over the generated tables × all field subsets × nat × det.  Clauses the unchanged code
violates have `_refuted` (a witness) and `_partial` (an exact characterisation of what is true). -/
namespace Pyrealb.C17
open Pyrealb Pyrealb.Date
open Pyrealb.Gen.DateRules


/-- day 1 is 0001-01-01; the next calendar day has the next ordinal; the calendar order is the order of the ordinals -/
def toordinal_counts_days : Prop :=
  toordinal ⟨1, 1, 1⟩ = 1 ∧
  (∀ d : Date, d.valid = true → toordinal d.next = toordinal d + 1) ∧
  (∀ a b : Date, a.valid = true → b.valid = true → a.lt b → toordinal a < toordinal b)

theorem toordinal_counts_days_holds : toordinal_counts_days :=
  ⟨by decide, toordinal_next, toordinal_strictMono⟩

/-- 0001-01-01 is a Monday (0); each day's weekday is the successor (mod 7) of the previous day's; and the closed
    form of CPython -/
def weekday_correct : Prop :=
  weekday ⟨1, 1, 1⟩ = 0 ∧
  (∀ d : Date, d.valid = true → weekday d.next = (weekday d + 1) % 7) ∧
  (∀ d : Date, weekday d = (toordinal d + 6) % 7 ∧ weekday d < 7)

theorem weekday_correct_holds : weekday_correct :=
  ⟨by decide, weekday_next, fun d => ⟨rfl, Nat.mod_lt _ (by decide)⟩⟩

/-- the successor used in the two clauses above is a valid date again (so the clauses chain over all days) -/
def next_is_valid : Prop := ∀ d : Date, d.valid = true → d.year < 9999 → d.next.valid = true ∧ d.lt d.next

theorem next_is_valid_holds : next_is_valid := fun d h hy => ⟨next_valid d h hy, lt_next d⟩

-- non-vacuity / tests (concrete instances; not property theorems)
example : (⟨2024, 2, 29⟩ : Date).valid = true ∧ (⟨2024, 2, 29⟩ : Date).next = ⟨2024, 3, 1⟩ := by decide
example : (⟨1900, 2, 29⟩ : Date).valid = false ∧ (⟨1900, 2, 28⟩ : Date).next = ⟨1900, 3, 1⟩ := by decide
example : (⟨2023, 12, 31⟩ : Date).next = ⟨2024, 1, 1⟩ ∧ toordinal ⟨2024, 1, 1⟩ = 738886 := by decide
example : weekday ⟨2015, 1, 1⟩ = 3 ∧ weekday ⟨2000, 1, 1⟩ = 5 := by decide   -- a Thursday, a Saturday


inductive Field where
  | year | month | date | day | hour | minute | second
  deriving DecidableEq, Repr

/-- which field a placeholder displays (`[A]`, the meridiem, belongs to the hour) -/
def fieldOf : Ph → Field
  | .Y => .year
  | .F | .M0 | .M => .month
  | .d0 | .d => .date
  | .l => .day
  | .h | .H0 | .H | .A => .hour
  | .m0 | .m => .minute
  | .s0 | .s => .second

/-- the fields displayed by a format; `none` when it contains an undefined placeholder -/
def fieldsOfKeys : List Str → Option (List Field)
  | [] => some []
  | k :: ks =>
    match lookup k phTable, fieldsOfKeys ks with
    | some p, some fs => some (fieldOf p :: fs)
    | _, _ => none

def fieldsOfFmt (fmt : Str) : Option (List Field) := fieldsOfKeys (placeholders fmt)

def sameSet (a b : List Field) : Bool := a.all (b.contains ·) && b.all (a.contains ·)

def selected : List (Field × Bool) → List Field
  | [] => []
  | (f, b) :: r => if b then f :: selected r else selected r

def dateSel (o : DOpts) : List Field := selected [(.year, o.year), (.month, o.month), (.date, o.date), (.day, o.day)]
def timeSel (o : DOpts) : List Field := selected [(.hour, o.hour), (.minute, o.minute), (.second, o.second)]

/-- the format selected for `key` exists (also after the `det` treatment) and displays exactly the fields `want` -/
def cellExact (r : DateRules) (nat det : Bool) (key : Str) (want : List Field) : Bool :=
  match selectFmt r nat det key with
  | .ok fmt =>
    (match fieldsOfFmt fmt with
     | some fs => sameSet fs want
     | none => false)
  | .error _ => false

/-- **C17.b** for every non-empty subset of the date fields and every non-empty subset of the time fields, in both
    languages, natural or not, with or without determiner -/
def fields_exact : Prop :=
  ∀ (lang : Lang) (o : DOpts),
    (dateSel o ≠ [] → cellExact (rulesOf lang) o.nat o.det (dateKey o) (dateSel o) = true) ∧
    (timeSel o ≠ [] → cellExact (rulesOf lang) o.nat o.det (timeKey0 o) (timeSel o) = true)

def mkOpts (y m d w H Mi S nat det : Bool) : DOpts :=
  { year := y, month := m, date := d, day := w, hour := H, minute := Mi, second := S, nat := nat, det := det, rtime := .off }

/-- the five date-field subsets without a format: month-day, year-day, year-date, year-date-day, year-month-day -/
def dateSubsetMissing (y m d w : Bool) : Bool :=
  [(false, true, false, true), (true, false, false, true),
   (true, false, true, false), (true, false, true, true), (true, true, false, true)].contains (y, m, d, w)

/-- the date cells that are right: all those that are present (same in both languages and styles) -/
def dateCellGood (_lang : Lang) (o : DOpts) : Bool :=
  !dateSubsetMissing o.year o.month o.date o.day

/-- the time cells that are right: all but `hour:second`, which is absent -/
def timeCellGood (_lang : Lang) (o : DOpts) : Bool :=
  !(o.hour && !o.minute && o.second)

theorem fields_exact_refuted : ¬ fields_exact := by
  intro h
  have := (h .en (mkOpts true false true false true true true true true)).1 (by decide)
  revert this; decide +kernel

/-- every date cell, for the field display (`cellExact`) and for `interpret` returning (`cellOK`) -/
theorem date_cells_tbl : ∀ (lang : Lang) (y m d w nat det : Bool),
    let key := joinSel '-' [(kYear, y), (kMonth, m), (kDate, d), (kDay, w)]
    let want : List Field := selected [(.year, y), (.month, m), (.date, d), (.day, w)]
    (want ≠ [] → cellExact (rulesOf lang) nat det key want = !dateSubsetMissing y m d w) ∧
    cellOK (rulesOf lang) nat det key = !dateSubsetMissing y m d w := by
  decide +kernel

theorem time_cells_tbl : ∀ (lang : Lang) (H Mi S nat det : Bool),
    let key := joinSel ':' [(kHour, H), (kMinute, Mi), (kSecond, S)]
    let want : List Field := selected [(.hour, H), (.minute, Mi), (.second, S)]
    (want ≠ [] → cellExact (rulesOf lang) nat det key want = !(H && !Mi && S)) ∧
    cellOK (rulesOf lang) nat det key = !(H && !Mi && S) := by
  decide +kernel

/-- exact characterisation: a selected cell is right iff it is not one of the listed ones -/
theorem fields_exact_partial :
    ∀ (lang : Lang) (o : DOpts),
      (dateSel o ≠ [] → cellExact (rulesOf lang) o.nat o.det (dateKey o) (dateSel o) = dateCellGood lang o) ∧
      (timeSel o ≠ [] → cellExact (rulesOf lang) o.nat o.det (timeKey0 o) (timeSel o) = timeCellGood lang o) :=
  fun lang o => ⟨(date_cells_tbl lang o.year o.month o.date o.day o.nat o.det).1,
    (time_cells_tbl lang o.hour o.minute o.second o.nat o.det).1⟩

theorem fields_exact_tbl :
    ∀ (lang : Lang) (y m d w H Mi S nat det : Bool),
      (dateSel (mkOpts y m d w H Mi S nat det) ≠ [] →
        cellExact (rulesOf lang) nat det (dateKey (mkOpts y m d w H Mi S nat det)) (dateSel (mkOpts y m d w H Mi S nat det))
          = dateCellGood lang (mkOpts y m d w H Mi S nat det)) ∧
      (timeSel (mkOpts y m d w H Mi S nat det) ≠ [] →
        cellExact (rulesOf lang) nat det (timeKey0 (mkOpts y m d w H Mi S nat det)) (timeSel (mkOpts y m d w H Mi S nat det))
          = timeCellGood lang (mkOpts y m d w H Mi S nat det)) :=
  fun lang y m d w H Mi S nat det => fields_exact_partial lang (mkOpts y m d w H Mi S nat det)

-- non-vacuity: a full selection is a right cell in all four tables
example : ∀ lang nat det, dateCellGood lang (mkOpts true true true true true true true nat det) = true ∧
    timeCellGood lang (mkOpts true true true true true true true nat det) = true := by decide


def clock12h (h : Nat) : Nat := if h % 12 = 0 then 12 else h % 12

def isHourNumber : Ph → Bool
  | .h | .H | .H0 => true
  | _ => false

def phsOf (fmt : Str) : List Ph := (placeholders fmt).filterMap (lookup · phTable)

def mentionsHour (fmt : Str) : Bool := (phsOf fmt).any (fun p => fieldOf p == .hour)

/-- the texts a format prints for the hour number(s) and for the meridiem -/
def hourShown (r : DateRules) (dt : DateTime) (fmt : Str) : List (Option Str) × List (Option Str) :=
  (((phsOf fmt).filter isHourNumber).map (fun p => (value r dt p).toOption),
   ((phsOf fmt).filter (· == .A)).map (fun p => (value r dt p).toOption))

def am : Str := ['a', '.', 'm', '.']
def pm : Str := ['p', '.', 'm', '.']

/-- English: one hour number, `clock12h hour` (padded or not), and one meridiem word, a.m. before noon;
    French: one hour number, the hour itself (padded or not), no meridiem -/
def clockOK (lang : Lang) (dt : DateTime) (fmt : Str) : Bool :=
  let hs := hourShown (rulesOf lang) dt fmt
  match lang with
  | .en => (hs.1 == [some (dec (clock12h dt.hour))] || hs.1 == [some (pad2 (clock12h dt.hour))]) &&
           hs.2 == [some (if dt.hour < 12 then am else pm)]
  | .fr => (hs.1 == [some (dec dt.hour)] || hs.1 == [some (pad2 dt.hour)]) && hs.2 == []

def tableOf (lang : Lang) (nat : Bool) : List (Str × Str) :=
  if nat then (rulesOf lang).natural else (rulesOf lang).nonNatural

/-- **C17.c** every format cell that displays the hour, at every hour -/
def clock12 : Prop :=
  ∀ (lang : Lang) (nat : Bool) (kv : Str × Str), kv ∈ tableOf lang nat → mentionsHour kv.2 = true →
    ∀ dt : DateTime, dt.hour < 24 → clockOK lang dt kv.2 = true

def canon (h : Nat) : DateTime := { year := 2015, month := 7, day := 23, hour := h, minute := 25, second := 45 }

/-- the hour placeholders of a format are those of the language's clock: English `[h]` with `[A]`, French `[H]` or
    `[H0]` without -/
def clockPhs (lang : Lang) (fmt : Str) : Bool :=
  match lang with
  | .en => (phsOf fmt).filter isHourNumber == [.h] && (phsOf fmt).filter (· == .A) == [.A]
  | .fr => ((phsOf fmt).filter isHourNumber == [.H] || (phsOf fmt).filter isHourNumber == [.H0]) &&
           (phsOf fmt).filter (· == .A) == []

/-- with these placeholders the clock is right at every instant, by what `value` is on them -/
theorem clockOK_of_clockPhs (lang : Lang) (dt : DateTime) (fmt : Str) (h : clockPhs lang fmt = true) :
    clockOK lang dt fmt = true := by
  cases lang <;> simp only [clockPhs, Bool.and_eq_true, Bool.or_eq_true, beq_iff_eq] at h
  · have e : (value rulesEn dt .A).toOption = some (if dt.hour < 12 then am else pm) := by
      change (getIdx [am, pm] (if dt.hour < 12 then 0 else 1)).toOption = _
      split <;> rfl
    simp only [clockOK, hourShown, h.1, h.2, List.map, rulesOf, e]
    simp only [value, Except.toOption, clock12h, BEq.rfl, Bool.true_or, Bool.and_self]
  · rcases h.1 with h1 | h1 <;>
      simp only [clockOK, hourShown, h1, h.2, List.map, value, Except.toOption, BEq.rfl, Bool.true_or, Bool.or_true,
        Bool.and_self]


/-- position of a placeholder in the conventional order: English weekday, month, day, year; French weekday, day, month,
    year; then hour, minute, second, meridiem -/
def rankOf : Lang → Ph → Nat
  | _, .l => 0
  | .en, .F | .en, .M | .en, .M0 => 1
  | .en, .d | .en, .d0 => 2
  | .fr, .d | .fr, .d0 => 1
  | .fr, .F | .fr, .M | .fr, .M0 => 2
  | _, .Y => 3
  | _, .h | _, .H | _, .H0 => 4
  | _, .m | _, .m0 => 5
  | _, .s | _, .s0 => 6
  | _, .A => 7

def strictlyIncreasing : List Nat → Bool
  | a :: b :: r => decide (a < b) && strictlyIncreasing (b :: r)
  | _ => true

/-- the placeholders of a format follow the conventional order (in particular no field is displayed twice) -/
def inOrder (lang : Lang) (fmt : Str) : Bool := strictlyIncreasing ((phsOf fmt).map (rankOf lang))

/-- **C17.c'** numeric (and named) fields appear in the language's conventional order, in every cell of the four
    tables: a numeric date `a/b` is month/day in English and day/month in French, the year comes last, a time is
    hour, minute, second -/
def conventional_order : Prop :=
  ∀ (lang : Lang) (nat : Bool) (kv : Str × Str), kv ∈ tableOf lang nat → inOrder lang kv.2 = true

/-- one pass over the cells of the four tables, for the order and (where the hour is displayed) the clock -/
theorem table_cells_tbl : ∀ (lang : Lang) (nat : Bool), ∀ kv ∈ tableOf lang nat,
    inOrder lang kv.2 = true ∧ (mentionsHour kv.2 = true → clockPhs lang kv.2 = true) := by
  decide +kernel

theorem numeric_order_tbl : conventional_order :=
  fun lang nat kv hkv => (table_cells_tbl lang nat kv hkv).1

theorem conventional_order_holds : conventional_order := numeric_order_tbl

/-- all 24 hours, every cell of the four generated tables that displays the hour, every instant -/
theorem clock12_holds : clock12 :=
  fun lang nat kv hkv hm dt _ => clockOK_of_clockPhs lang dt kv.2 ((table_cells_tbl lang nat kv hkv).2 hm)

theorem clock12_tbl :
    ∀ (lang : Lang) (nat : Bool), ∀ kv ∈ tableOf lang nat, mentionsHour kv.2 = true →
      ∀ h : Fin 24, clockOK lang (canon h.val) kv.2 = true :=
  fun lang nat kv hkv hm h => clock12_holds lang nat kv hkv hm (canon h.val) h.isLt

-- non-vacuity: cells displaying the hour exist in every table; 12:30 is "12", "p.m." (tests)
example : ∀ lang nat, (tableOf lang nat).any (fun kv => mentionsHour kv.2) = true := by decide +kernel
example : hourShown rulesEn (canon 12) ['a','t',' ','[','h',']',':','[','m','0',']',' ','[','A',']'] =
    ([some ['1','2']], [some pm]) := by decide +kernel
example : clock12h 0 = 12 ∧ clock12h 12 = 12 ∧ clock12h 13 = 1 ∧ clock12h 23 = 11 := by decide

-- non-vacuity / tests: the convention distinguishes the two languages, and rejects a swapped or repeated field
example : inOrder .fr "[l] [d]/[M]".toList = true ∧ inOrder .fr "[l] [M]/[d]".toList = false := by
  repeat rw [String.toList_ofList]
  decide +kernel
example : inOrder .en "[l] [M]/[d]".toList = true ∧ inOrder .en "[l] [d]/[M]".toList = false := by
  repeat rw [String.toList_ofList]
  decide +kernel
example : inOrder .en "[m0]:[H0]:[s0] [A]".toList = false ∧ inOrder .fr "[Y]/[M]".toList = false ∧
    inOrder .en "[d] [d]".toList = false := by
  repeat rw [String.toList_ofList]
  decide +kernel
example : (tableOf .fr false).any (fun kv => (phsOf kv.2).contains .d && (phsOf kv.2).contains .M) = true ∧
    (tableOf .en false).any (fun kv => (phsOf kv.2).contains .d && (phsOf kv.2).contains .M) = true := by decide +kernel


/-- **C17.d** the key `0h` ("at midnight") is selected exactly at 00:00:00 — and `12h` ("at noon") exactly at
    12:00:00 — when hour, minute and second are all displayed in natural style; these two cells are pure wording and
    exist only in the natural tables -/
def noon_midnight_iff : Prop :=
  (∀ (dt : DateTime) (o : DOpts),
    (timeKey dt o = k0h ↔ (o.nat = true ∧ o.hour = true ∧ o.minute = true ∧ o.second = true ∧
                            dt.hour = 0 ∧ dt.minute = 0 ∧ dt.second = 0)) ∧
    (timeKey dt o = k12h ↔ (o.nat = true ∧ o.hour = true ∧ o.minute = true ∧ o.second = true ∧
                             dt.hour = 12 ∧ dt.minute = 0 ∧ dt.second = 0))) ∧
  (∀ lang : Lang, ∀ k ∈ [k0h, k12h],
    (match lookup k (rulesOf lang).natural with
     | some w => placeholders w == []
     | none => false) = true ∧ lookup k (rulesOf lang).nonNatural = none)

theorem timeKeyC_noon_tbl : ∀ nat H Mi S mz sz h0 h12 : Bool,
    decide (timeKeyC nat H Mi S mz sz h0 h12 = k0h) = (nat && H && Mi && S && h0 && mz && sz) ∧
    decide (timeKeyC nat H Mi S mz sz h0 h12 = k12h) = (nat && H && Mi && S && h12 && mz && sz && !h0) := by
  decide +kernel

theorem noon_midnight_iff_holds : noon_midnight_iff := by
  refine ⟨fun dt o => ?_, by decide +kernel⟩
  have h := timeKeyC_noon_tbl o.nat o.hour o.minute o.second (dt.minute == 0) (dt.second == 0) (dt.hour == 0) (dt.hour == 12)
  rw [timeKey_eq]
  refine ⟨(h.1 ▸ decide_eq_true_iff.symm).trans ?_, (h.2 ▸ decide_eq_true_iff.symm).trans ?_⟩
  · simp only [Bool.and_eq_true, beq_iff_eq, and_assoc]
  · simp only [Bool.and_eq_true, beq_iff_eq, and_assoc, Bool.not_eq_true', beq_eq_false_iff_ne]
    exact ⟨fun ⟨a, b, c, d, e, f, g, _⟩ => ⟨a, b, c, d, e, f, g⟩, fun ⟨a, b, c, d, e, f, g⟩ => ⟨a, b, c, d, e, f, g, by omega⟩⟩

/-- the natural-time simplification leaves out only zero-valued minutes / seconds, and never a coarser field while a
    finer one is displayed -/
def nat_omits_only_zero : Prop :=
  ∀ (dt : DateTime) (o : DOpts),
    timeKey dt o = timeKey0 o ∨
    (o.nat = true ∧ o.hour = true ∧ o.minute = true ∧ dt.minute = 0 ∧ (o.second = true → dt.second = 0) ∧
      (timeKey dt o = kHour ∨ timeKey dt o = k0h ∨ timeKey dt o = k12h)) ∨
    (o.nat = true ∧ o.hour = true ∧ o.minute = true ∧ o.second = true ∧ dt.second = 0 ∧ timeKey dt o = kHM)

theorem timeKeyC_omit_tbl : ∀ nat H Mi S mz sz h0 h12 : Bool,
    let k := timeKeyC nat H Mi S mz sz h0 h12
    (decide (k = timeKeyC false H Mi S mz sz h0 h12) ||
     (nat && H && Mi && mz && (!S || sz) && (decide (k = kHour) || decide (k = k0h) || decide (k = k12h))) ||
     (nat && H && Mi && S && sz && decide (k = kHM))) = true := by
  decide +kernel

theorem nat_omits_only_zero_holds : nat_omits_only_zero := by
  intro dt o
  have h := timeKeyC_omit_tbl o.nat o.hour o.minute o.second (dt.minute == 0) (dt.second == 0) (dt.hour == 0) (dt.hour == 12)
  rw [timeKey_eq, show timeKey0 o = timeKeyC false o.hour o.minute o.second (dt.minute == 0) (dt.second == 0)
    (dt.hour == 0) (dt.hour == 12) from rfl]
  simpa [or_assoc, and_assoc, Decidable.imp_iff_not_or] using h

-- non-vacuity / tests
example : timeKey (canon 0) DOpts.default = kHMS := by decide
example : timeKey { (canon 0) with minute := 0, second := 0 } DOpts.default = k0h := by decide
example : timeKey { (canon 12) with minute := 0, second := 0 } DOpts.default = k12h := by decide
example : timeKey { (canon 12) with minute := 0, second := 0 } { DOpts.default with second := false } = kHour := by decide


/-- reference weekday names, index = Python `weekday()` (Monday 0) — independent of the rule files -/
def wdName : Lang → Nat → Str
  | .en, 0 => "Monday".toList | .en, 1 => "Tuesday".toList | .en, 2 => "Wednesday".toList | .en, 3 => "Thursday".toList
  | .en, 4 => "Friday".toList | .en, 5 => "Saturday".toList | .en, _ => "Sunday".toList
  | .fr, 0 => "lundi".toList | .fr, 1 => "mardi".toList | .fr, 2 => "mercredi".toList | .fr, 3 => "jeudi".toList
  | .fr, 4 => "vendredi".toList | .fr, 5 => "samedi".toList | .fr, _ => "dimanche".toList

/-- relative phrases of the two languages -/
inductive RelPhrase where
  | today | tomorrow | yesterday | afterTomorrow | beforeYesterday
  /-- the most recent such weekday strictly before the reference day ("last Monday", "lundi dernier") -/
  | last (w : Nat)
  /-- the first such weekday strictly after the reference day ("Monday", "lundi prochain") -/
  | coming (w : Nat)
  | inDays (n : Nat) | daysAgo (n : Nat)
  deriving Repr

/-- signed number of days a phrase denotes, said on a day whose weekday is `refWd` -/
def RelPhrase.meaning (refWd : Int) : RelPhrase → Int
  | .today => 0 | .tomorrow => 1 | .yesterday => -1 | .afterTomorrow => 2 | .beforeYesterday => -2
  | .last w => -(((refWd - w - 1) % 7) + 1)
  | .coming w => ((w - refWd - 1) % 7) + 1
  | .inDays n => n
  | .daysAgo n => -n

/-- reference wording (what an English / French speaker writes) -/
def RelPhrase.text : Lang → RelPhrase → Option Str
  | .en, .today => some "today".toList | .en, .tomorrow => some "tomorrow".toList | .en, .yesterday => some "yesterday".toList
  | .en, .last w => some ("last ".toList ++ wdName .en w) | .en, .coming w => some (wdName .en w)
  | .en, .inDays n => some ("in ".toList ++ dec n ++ " days".toList) | .en, .daysAgo n => some (dec n ++ " days ago".toList)
  | .en, _ => none
  | .fr, .today => some "aujourd'hui".toList | .fr, .tomorrow => some "demain".toList | .fr, .yesterday => some "hier".toList
  | .fr, .afterTomorrow => some "après-demain".toList | .fr, .beforeYesterday => some "avant-hier".toList
  | .fr, .last w => some (wdName .fr w ++ " dernier".toList) | .fr, .coming w => some (wdName .fr w ++ " prochain".toList)
  | .fr, .inDays n => some ("dans ".toList ++ dec n ++ " jours".toList) | .fr, .daysAgo n => some ("il y a ".toList ++ dec n ++ " jours".toList)

/-- **C17.e** for all dates and reference dates (every day difference, unbounded): the relative branch returns the
    reference wording of a phrase whose meaning, said on the reference day, is exactly the signed difference -/
def relative_sign : Prop :=
  ∀ (lang : Lang) (d ref : Date), ∃ (p : RelPhrase) (x : Str),
    relative (rulesOf lang) d ref = .ok x ∧ p.text lang = some x ∧
    p.meaning (weekday ref) = (toordinal d : Int) - (toordinal ref : Int)

/-- the phrase expected for a difference (`wd` = weekday of the date itself) -/
def phraseFor (lang : Lang) (diff : Int) (wd : Nat) : RelPhrase :=
  if diff = 0 then .today else if diff = 1 then .tomorrow else if diff = -1 then .yesterday
  else if lang = .fr ∧ diff = 2 then .afterTomorrow else if lang = .fr ∧ diff = -2 then .beforeYesterday
  else if diff < -6 then .daysAgo diff.natAbs else if 6 < diff then .inDays diff.natAbs
  else if diff < 0 then .last wd else .coming wd

theorem relative_week_tbl : ∀ (lang : Lang), ∀ k ∈ week, ∀ wr : Fin 7,
    let wd := (((wr.val : Int) + k) % 7).toNat
    let p := phraseFor lang k wd
    (relativeCore (rulesOf lang) k wd).toOption = p.text lang ∧ (p.text lang).isSome = true ∧ p.meaning wr.val = k := by
  decide +kernel

theorem relative_far_tbl (lang : Lang) (neg : Prop) [Decidable neg] (n : Nat) :
    (lookup (if neg then ['-'] else ['+']) (rulesOf lang).relative).map (replaceAll ['[','x',']'] (dec n)) =
      (if neg then RelPhrase.daysAgo n else .inDays n).text lang := by
  -- expose the literals of `RelPhrase.text` and make them character lists without decoding; then both sides compute
  cases lang <;> split <;> change _ = some _ <;> (repeat rw [String.toList_ofList]) <;> rfl

theorem tables_wf : ∀ lang : Lang, WFText (rulesOf lang) = true ∧ RelWF (rulesOf lang) = true := by decide +kernel

theorem relativeCore_phrase (lang : Lang) (diff : Int) (wd wr : Nat) (hwr : wr < 7)
    (hwd : (wd : Int) = ((wr : Int) + diff) % 7) :
    ∃ (p : RelPhrase) (x : Str), relativeCore (rulesOf lang) diff wd = .ok x ∧ p.text lang = some x ∧
      p.meaning wr = diff := by
  by_cases hin : -6 ≤ diff ∧ diff ≤ 6
  · have h := relative_week_tbl lang diff (mem_week.2 hin) ⟨wr, hwr⟩
    rw [show ((((wr : Nat) : Int) + diff) % 7).toNat = wd by omega] at h
    obtain ⟨x, hx, ht⟩ := ok_of_toOption h.1 h.2.1
    exact ⟨_, x, hx, ht, h.2.2⟩
  · have h := relativeCore_far _ (tables_wf lang).2 diff (by omega) wd
    rw [relative_far_tbl] at h
    obtain ⟨x, hx, ht⟩ := ok_of_toOption h (by cases lang <;> split <;> rfl)
    exact ⟨_, x, hx, ht, by split <;> simp only [RelPhrase.meaning] <;> omega⟩

theorem relative_sign_holds : relative_sign := fun lang d ref =>
  relativeCore_phrase lang _ _ _ (Nat.mod_lt _ (by decide)) (weekday_shift d ref)

-- non-vacuity / tests: the documented examples of the English test-suite instant
example : (relative rulesEn ⟨2014, 12, 31⟩ ⟨2015, 1, 1⟩).toOption = some "yesterday".toList := by
  rw [String.toList_ofList]; decide +kernel
example : (relative rulesEn ⟨2014, 12, 22⟩ ⟨2015, 1, 1⟩).toOption = some "10 days ago".toList := by
  rw [String.toList_ofList]; decide +kernel
example : (relative rulesFr ⟨2015, 1, 5⟩ ⟨2015, 1, 1⟩).toOption = some "lundi prochain".toList := by
  rw [String.toList_ofList]; decide +kernel


/-- **C17.f** no exception for any valid instant, any options, any reference day, in both languages -/
def dateFormat_total : Prop :=
  ∀ (lang : Lang) (dt : DateTime) (o : DOpts) (ref : Option Date), dt.valid = true →
    isOk (dateFormat (rulesOf lang) dt o ref) = true

/-- the date part returns: relative time, or a subset that has a format -/
def dateGood (o : DOpts) (hasRef : Bool) : Bool := hasRef || !dateSubsetMissing o.year o.month o.date o.day

/-- the time part returns: every selection but `hour:second` (at every instant, with or without determiner) -/
def timeGood (_lang : Lang) (_dt : DateTime) (o : DOpts) : Bool :=
  !(o.hour && !o.minute && o.second)

theorem dateFormat_total_refuted : ¬ dateFormat_total := by
  intro h
  have := h .en (canon 11) (mkOpts true false true false true true true true true) none (by decide)
  revert this; decide +kernel

/-- the keys the natural-time simplification substitutes are cells of the natural tables that return -/
theorem wording_cells_tbl : ∀ (lang : Lang) (det : Bool), ∀ k ∈ [kHour, k0h, k12h, kHM],
    cellOK (rulesOf lang) true det k = true := by
  decide +kernel

/-- exact characterisation of the inputs on which `dateFormat` returns -/
theorem dateFormat_total_partial :
    ∀ (lang : Lang) (dt : DateTime) (o : DOpts) (ref : Option Date), dt.valid = true →
      isOk (dateFormat (rulesOf lang) dt o ref) = (dateGood o ref.isSome && timeGood lang dt o) := by
  intro lang dt o ref hv
  obtain ⟨hwf, hrel⟩ := tables_wf lang
  -- the simplified time key is the plain one, or (only with hour and minute selected) a wording cell
  have ht : cellOK (rulesOf lang) o.nat o.det (timeKey dt o) = timeGood lang dt o := by
    rcases nat_omits_only_zero_holds dt o with h | ⟨hn, hH, hM, -, -, h⟩ | ⟨hn, hH, hM, -, -, h⟩
    · rw [h]; exact (time_cells_tbl lang o.hour o.minute o.second o.nat o.det).2
    · rw [timeGood, hn, hH, hM]
      rcases h with h | h | h <;> rw [h] <;> exact wording_cells_tbl lang o.det _ (by simp)
    · rw [timeGood, h, hn, hH, hM]; exact wording_cells_tbl lang o.det _ (by simp)
  rw [dateFormat_isOk _ hwf hrel dt hv, ht]
  cases ref with
  | none => exact congrArg (· && _) (date_cells_tbl lang o.year o.month o.date o.day o.nat o.det).2
  | some r => rfl

-- tests: `det:False` on the wording-only cells removes the leading word only; numeric cells keep every field
example : (selectFmt rulesEn true false k12h).toOption = some "noon".toList ∧
    (selectFmt rulesFr true false k0h).toOption = some "minuit".toList ∧
    (selectFmt rulesEn true false kYear).toOption = some "[Y]".toList ∧
    (selectFmt rulesFr false false kHM).toOption = some "[H0]:[m0]".toList := by
  repeat rw [String.toList_ofList]
  decide +kernel

-- non-vacuity: the defaults (full date and time) are good at every instant, in both languages
example : ∀ lang dt, dateGood DOpts.default false = true ∧ timeGood lang dt DOpts.default = true :=
  fun _ _ => ⟨rfl, rfl⟩


/-- the calls of a history that precede its `k`-th `realize` step -/
def callsBefore : List Step → Nat → List Call
  | [], _ => []
  | .call c :: rest, k => c :: callsBefore rest k
  | .realize :: _, 0 => []
  | .realize :: rest, k + 1 => callsBefore rest k

/-- **C17.g** in any history of option calls and realizations on one `DT` object, the `k`-th realization is the
    realization of a fresh `DT` on which the calls made so far were applied: earlier realizations leave no trace -/
def history_independent : Prop :=
  ∀ (lang : Lang) (lemma : Option Val) (steps : List Step) (k : Nat) (o : Out),
    (runHist (rulesOf lang) (DT.make lemma) steps).1[k]? = some o →
    o = ((callsBefore steps k).foldl DT.call (DT.make lemma)).realize (rulesOf lang)

theorem runHist_get (r : DateRules) (t : DT) (steps : List Step) (k : Nat) (o : Out)
    (h : (runHist r t steps).1[k]? = some o) : o = ((callsBefore steps k).foldl DT.call t).realize r := by
  induction steps generalizing t k with
  | nil => simp [runHist] at h
  | cons st rest ih =>
    cases st with
    | call c => simpa [callsBefore] using ih (t.call c) k h
    | realize =>
      cases k with
      | zero => simp [runHist] at h; simp [callsBefore, h]
      | succ k => simp only [runHist, List.getElem?_cons_succ] at h; simpa [callsBefore] using ih t k h

theorem history_independent_holds : history_independent :=
  fun lang lemma steps k o h => runHist_get (rulesOf lang) (DT.make lemma) steps k o h

-- test: hide the year after a first realization, then realize again
example : ((runHist rulesEn (DT.make (some (.dt (canon 11))))
    [.realize, .call (.dOpt (some [(kYear, .bool false)])), .call (.nat (.bool false)), .realize]).1.map
      (fun o => match o with | .text x => some x | _ => none))
    = [some "on Thursday, July 23, 2015 at 11:25:45 a.m.".toList, some "Thursday 7/23 11:25:45 a.m.".toList] := by
  repeat rw [String.toList_ofList]
  decide +kernel

/-! the Python source is the one the model mirrors (constants lifted by `ast` on every run, after the translator's
    normalisation) -/

def source_as_modelled : Prop :=
  pyFmtRE = "(.*?)\\[(.+?)]|(.+$)".toList ∧
  pyIsoRE = "(\\d{4}-\\d{2}-\\d{2})([T ](\\d{2}:\\d{2}:\\d{2}))?".toList ∧
  pyPlaceholders =
    [(['Y'], "str(dateObj.year)".toList),
     (['F'], "dateRule['text']['month'][str(dateObj.month)]".toList),
     (['M','0'], "f'{dateObj.month:02}'".toList),
     (['M'], "str(dateObj.month)".toList),
     (['d','0'], "f'{dateObj.day:02}'".toList),
     (['d'], "str(dateObj.day)".toList),
     (['l'], "dateRule['text']['weekday'][(dateObj.weekday() + 1) % 7]".toList),
     (['A'], "dateRule['text']['meridiem'][0 if dateObj.hour < 12 else 1]".toList),
     (['h'], "str(dateObj.hour % 12 or 12)".toList),
     (['H','0'], "f'{dateObj.hour:02}'".toList),
     (['H'], "str(dateObj.hour)".toList),
     (['m','0'], "f'{dateObj.minute:02}'".toList),
     (['m'], "str(dateObj.minute)".toList),
     (['s','0'], "f'{dateObj.second:02}'".toList),
     (['s'], "str(dateObj.second)".toList)] ∧
  pyPlaceholders.map (·.1) = phTable.map (·.1) ∧
  pyDateFields = [kYear, kMonth, kDate, kDay] ∧
  pyTimeFields = [kHour, kMinute, kSecond] ∧
  pyNatSimplification = ["==hour:minute:second".toList, "=0h".toList, "=12h".toList, "=hour".toList,
                         "=hour:minute".toList, "==hour:minute".toList, "=hour".toList] ∧
  pyStatements =
    ["dateS = interpret('-'.join((field for field in ('year', 'month', 'date', 'day') if dOpts[field])))".toList,
     "dateS = relativeDate[sign].replace('[x]', str(abs(diffDays)))".toList,
     "dateS = relativeDate[str(diffDays)].replace('[l]', dateRule['text']['weekday'][(dateObj.weekday() + 1) % 7])".toList,
     "diffDays = dateObj.toordinal() - dOpts['rtime'].toordinal()".toList,
     "fmt = fmt[fmt.find(' ') + 1:]".toList,
     "fmt = fmt[idx:]".toList,
     "fmt = fmts[fields]".toList,
     "fmts = dateRule['format']['natural' if dOpts['nat'] else 'non_natural']".toList,
     "return ' '.join((s for s in (dateS, timeS) if len(s) > 0))".toList,
     "return ''".toList,
     "return res".toList,
     "sign = '-' if diffDays < 0 else '+'".toList] ∧
  pyConditions =
    ["dOpts['nat']".toList, "len(fields) == 0".toList, "'det' in dOpts and (not dOpts['det'])".toList,
     "idx >= 0".toList, "m[1] is None".toList, "dateObj.hour < 12".toList, "isinstance(dOpts['rtime'], datetime.datetime)".toList,
     "str(diffDays) in relativeDate".toList, "diffDays < 0".toList, "dOpts['nat']".toList,
     "timeFields == 'hour:minute:second'".toList, "m == 0 and s == 0".toList, "h == 0".toList, "h == 12".toList,
     "s == 0".toList, "timeFields == 'hour:minute'".toList, "m == 0".toList] ∧
  pyRealDT = ["self.realization = self.dateFormat(self.date, self.getProp('dOpt'))".toList] ∧
  pyFactoryDT = ["def DT(lemma=None, lang=None)".toList, "return terminal('DT', lemma, lang)".toList] ∧
  pyAllowedKeys = allowedKeys ∧
  pyDefaults = [(kYear, DOpts.default.year), (kMonth, DOpts.default.month), (kDate, DOpts.default.date),
                (kDay, DOpts.default.day), (kHour, DOpts.default.hour), (kMinute, DOpts.default.minute),
                (kSecond, DOpts.default.second), (kNat, DOpts.default.nat), (kDet, DOpts.default.det),
                (kRtime, decide (DOpts.default.rtime ≠ .off))]

/- a literal is `String.ofList` of its characters: under `String.toList_ofList` the lifted character lists are compared
   with the literals without the (slow) UTF-8 decoding of `"…".toList` -/
theorem eq_map_toList (l : List Str) : l = l.map (fun x => (String.ofList x).toList) :=
  (List.map_id'' (fun _ => String.toList_ofList) l).symm

theorem eq_map_snd_toList (l : List (Str × Str)) : l = l.map (fun kv => (kv.1, (String.ofList kv.2).toList)) :=
  (List.map_id'' (fun _ => by rw [String.toList_ofList]) l).symm

-- sealed: otherwise the elaborator unfolds `String.ofList` on both sides before it compares the characters
seal String.ofList in
theorem source_as_modelled_holds : source_as_modelled :=
  ⟨String.toList_ofList.symm, String.toList_ofList.symm, eq_map_snd_toList _, rfl, rfl, rfl, eq_map_toList _,
   eq_map_toList _, eq_map_toList _, eq_map_toList _, eq_map_toList _, rfl, rfl⟩

end Pyrealb.C17
