import Pyrealb.Lemmas.NumberRoman
import Pyrealb.Lemmas.NumberFormat
import Pyrealb.Lemmas.NumberOrdinal
/-! # C16 — numbers: words, ordinals, Roman numerals, digit formatting, number agreement

The property theorems.  `Model/Number*.lean` mirrors `Number.py` and the `NO` part of `Terminal*.py` with every
word taken from the GENERATED `Gen/NumberWords`; `Model/NumberEval.lean` is the hand-written specification (the
numeral systems, the ordinal forms, canonical Roman numerals, reading of digit strings), independent of the
repository.  Finite facts are `decide +kernel` over the generated tables (`…_tbl`), the unbounded statements are
by induction over the list of digit triplets. -/
namespace Pyrealb.C16
open Pyrealb Pyrealb.Number Pyrealb.NumberSpec Pyrealb.Gen.NumberWords

/-- the domain of the property: `|n| < 10^21` -/
def InDomain (n : Int) : Prop := n.natAbs < 10 ^ 21
instance (n : Int) : Decidable (InDomain n) := inferInstanceAs (Decidable (n.natAbs < 10 ^ 21))

/-! ## C16.a  the cardinal in words denotes exactly `n` -/

/-- the spelling exists (no exception) and the numeral system of the language reads it back as `n` -/
def Denotes (ℓ : Lang) (n : Int) : Prop := ∃ w, enToutesLettres ℓ n = .ok w ∧ eval ℓ w = some n

def spell_eval_fr : Prop := ∀ n : Int, InDomain n → Denotes .fr n
def spell_eval_en : Prop := ∀ n : Int, InDomain n → Denotes .en n

theorem spell_eval_fr_holds : spell_eval_fr := spell_eval .fr

theorem spell_eval_en_holds : spell_eval_en := spell_eval .en

/-- the spelling never raises inside the domain -/
def spell_total : Prop := ∀ (ℓ : Lang) (n : Int), InDomain n → ∃ w, enToutesLettres ℓ n = .ok w

theorem spell_total_holds : spell_total := by
  intro ℓ n hn
  obtain ⟨w, hw, _⟩ := spell_eval ℓ n hn
  exact ⟨w, hw⟩

/-! ## C16.b  distinct numbers never share a spelling -/

def spell_injective : Prop := ∀ (ℓ : Lang) (a b : Int), InDomain a → InDomain b →
  enToutesLettres ℓ a = enToutesLettres ℓ b → a = b

theorem spell_injective_holds : spell_injective := by
  intro ℓ a b ha hb hab
  obtain ⟨wa, hwa, hea⟩ := spell_eval ℓ a ha
  obtain ⟨wb, hwb, heb⟩ := spell_eval ℓ b hb
  rw [hwa, hwb] at hab
  cases hab
  rw [hea] at heb
  exact Option.some.inj heb

/-! non-vacuity: concrete instances (tests, by kernel evaluation) -/
example : enToutesLettres .fr (-1000071) = .ok (s "moins un million soixante et onze") := by rw [s_ofList]; decide +kernel
example : eval .fr (s "moins un million soixante et onze") = some (-1000071) := by rw [s_ofList]; decide +kernel
example : enToutesLettres .en 999999999999999999999 = .ok (s ("nine hundred and ninety-nine quintillion nine hundred and ninety-nine quadrillion nine hundred and ninety-nine trillion nine hundred and ninety-nine billion nine hundred and ninety-nine million nine hundred and ninety-nine thousand nine hundred and ninety-nine")) := ok_s_of_str (by decide +kernel)
example : InDomain 999999999999999999999 := by decide +kernel
example : eval .en (s "one quadrillion") = some (10 ^ 15) := by rw [s_ofList]; decide +kernel
/-- outside the domain the code raises (`uM[l-2]`, IndexError) -/
example : enToutesLettres .en (10 ^ 21) = .error .indexError := by decide +kernel

/-! ## C16.c  ordinals are the spelling with the language's ordinal ending rule -/

/-- the ordinal of `n` is what the ordinal ending rule (`ordRule`: the ordinal form of every number word) makes of
    the cardinal -/
def OrdinalFollowsRule (ℓ : Lang) (n : Int) (g : Gender) : Prop :=
  ∃ w o, enToutesLettres ℓ n = .ok w ∧ ordinal ℓ n g = .ok o ∧ ordRule ℓ g w = some o

def ordinal_rule_en : Prop := ∀ (n : Int) (g : Gender), 1 ≤ n → InDomain n → OrdinalFollowsRule .en n g
def ordinal_rule_fr : Prop := ∀ (n : Int) (g : Gender), 1 ≤ n → InDomain n → OrdinalFollowsRule .fr n g

theorem ordinal_rule_en_holds : ordinal_rule_en := fun n g hn hd => ordinal_follows .en n g hn hd

theorem ordinal_rule_fr_holds : ordinal_rule_fr := fun n g hn hd => ordinal_follows .fr n g hn hd

/-! concrete instances (tests, by kernel evaluation) -/
example : ordinal .fr 81 .m = .ok (s "quatre-vingt-unième") ∧ ordinal .fr 200 .m = .ok (s "deux centième")
    ∧ ordinal .fr 2000000 .m = .ok (s "deux millionième") ∧ ordinal .fr 1001 .f = .ok (s "mille unième") := by
  rw [s_ofList, s_ofList, s_ofList, s_ofList]; decide +kernel
example : ordRule .fr .m (s "deux cents") = some (s "deux centième") := by rw [s_ofList, s_ofList]; decide +kernel
example : ordinal .en 1000000000000000021 .m = .ok (s "one quintillion twenty-first") := by rw [s_ofList]; decide +kernel
example : ordinal .fr 1 .f = .ok (s "première") ∧ ordinal .fr 61 .f = .ok (s "soixante et unième") := by
  rw [s_ofList, s_ofList]; decide +kernel

/-! ## C16.d  Roman numerals -/

/-- `roman n` is the canonical numeral of `n` and the value of that numeral is `n` -/
def roman_canon : Prop := ∀ n : Nat, 1 ≤ n → n ≤ 3999 →
  roman n = .ok (romanCanon n) ∧ romanValue (romanCanon n) = some n

theorem roman_canon_holds : roman_canon :=
  fun n _ h => ⟨roman_canon_eq n (by omega), romanValue_canon n (by omega)⟩

example : roman 1994 = .ok (s "MCMXCIV") := by rw [s_ofList]; decide +kernel

/-! ## C16.e  the formatted digit form parses back to the value rounded to the requested precision -/

/-- a float (exactly `± m / 10^k`) printed with `p` decimals is read back, with the language's grouping and
    decimal signs, as `± q / 10^p` where `q` is `m / 10^k` rounded to `p` decimals to nearest, ties to even -/
def format_dec_parse : Prop := ∀ (ℓ : Lang) (neg : Bool) (m k : Nat) (r : Str) (p : Nat),
  ∃ txt q, numberFormatter ℓ (.flt neg m k r) (some (p : Int)) = .ok txt ∧
    parseNumber (groupSign ℓ) (decimalSign ℓ) txt = some ⟨neg, q, p⟩ ∧ IsRounded m k p q

theorem format_dec_parse_holds : format_dec_parse := by
  intro ℓ neg m k r p
  exact ⟨_, roundHE m k p, numberFormatter_flt ℓ neg m k r p, parse_formatFixed_lang ℓ neg _ p, roundHE_isRounded m k p⟩

/-- an integer is printed with all its digits -/
def format_int_parse : Prop := ∀ (ℓ : Lang) (n : Int) (mp : Option Int),
  ∃ txt, numberFormatter ℓ (.int n) mp = .ok txt ∧
    parseNumber (groupSign ℓ) (decimalSign ℓ) txt = some ⟨decide (n < 0), n.natAbs, 0⟩

theorem format_int_parse_holds : format_int_parse := by
  intro ℓ n mp
  exact ⟨_, numberFormatter_int ℓ n mp, parse_formatFixed_lang ℓ _ _ 0⟩

example : numberFormatter .fr (.flt true 1234567891 3 (s "-1234567.891")) (some 2) = .ok (s "-1\u00a0234\u00a0567,89") := by
  rw [s_ofList, s_ofList]; decide +kernel
example : numberFormatter .en (.flt false 25 1 (s "2.5")) (some 0) = .ok (s "2") := by rw [s_ofList, s_ofList]; decide +kernel     -- tie to even
example : numberFormatter .en (.flt false 35 1 (s "3.5")) (some 0) = .ok (s "4") := by rw [s_ofList, s_ofList]; decide +kernel
example : numberFormatter .en (.int (10 ^ 17 + 1)) none = .ok (s "100,000,000,000,000,001") := by rw [s_ofList]; decide +kernel

/-! ## C16.f  grammatical number -/

/-- the value is 1 or -1 -/
def IsUnit : Val → Prop
  | .int x => x = 1 ∨ x = -1
  | .flt _ m k _ => m = 10 ^ k
  | .special _ => False

/-- the absolute value is below 2 -/
def AbsBelowTwo : Val → Prop
  | .int x => x.natAbs < 2
  | .flt _ m k _ => m < 2 * 10 ^ k
  | .special _ => False

instance : ∀ v, Decidable (IsUnit v)
  | .int _ => inferInstanceAs (Decidable (_ ∨ _))
  | .flt _ _ _ _ => inferInstanceAs (Decidable (_ = _))
  | .special _ => inferInstanceAs (Decidable False)

instance : ∀ v, Decidable (AbsBelowTwo v)
  | .int _ => inferInstanceAs (Decidable (_ < _))
  | .flt _ _ _ _ => inferInstanceAs (Decidable (_ < _))
  | .special _ => inferInstanceAs (Decidable False)

/-- English: singular exactly for the value 1 or -1 written without decimals (DESIGN §6: `1.0` is plural by the
    library's design), plural for everything else -/
def gram_number_en : Prop := ∀ (no : NO) (v : Val), no.lang = .en → no.dOpt.ord ≠ some true → no.value = some v →
  gramNumber no = .ok (if IsUnit v ∧ no.nbDecimals = 0 then .s else .p)

/-- French: plural exactly when the absolute value is 2 or more -/
def gram_number_fr : Prop := ∀ (no : NO) (v : Val), no.lang = .fr → no.dOpt.ord ≠ some true → no.value = some v →
  gramNumber no = .ok (if AbsBelowTwo v then .s else .p)

/-- ordinals are singular: what `grammaticalNumber()` answers and what realization sets -/
def ordinal_singular : Prop := ∀ (no : NO), no.dOpt.ord = some true →
  gramNumber no = .ok .s ∧ ∀ r w n, realNO no = .ok (r, w, n) → n = .s

theorem absEq_one (v : Val) : v.absEq 1 = true ↔ IsUnit v := by
  cases v with
  | int x => simp only [Val.absEq, IsUnit, beq_iff_eq]; omega
  | flt neg m k r => simp [Val.absEq, IsUnit]
  | special r => simp [Val.absEq, IsUnit]

theorem between_two (v : Val) : v.between (-2) 2 = true ↔ AbsBelowTwo v := by
  cases v with
  | int x => simp only [Val.between, AbsBelowTwo, Bool.and_eq_true, decide_eq_true_eq]; omega
  | flt neg m k r => simp [between_flt, AbsBelowTwo]
  | special r => simp [Val.between, AbsBelowTwo]

theorem gram_number_en_holds : gram_number_en := by
  intro no v hl ho hv
  have e1 : enSingAbs = 1 := rfl
  have e2 : enSingDecimals = 0 := rfl
  simp [gramNumber, ho, hv, hl, e1, e2, absEq_one, pure, Except.pure]

theorem gram_number_fr_holds : gram_number_fr := by
  intro no v hl ho hv
  have e1 : frSingLow = -2 := rfl
  have e2 : frSingHigh = 2 := rfl
  simp [gramNumber, ho, hv, hl, e1, e2, between_two, pure, Except.pure]

theorem ordinal_singular_holds : ordinal_singular := by
  intro no ho
  have hg : gramNumber no = .ok .s := by simp [gramNumber, ho, pure, Except.pure]
  refine ⟨hg, fun r w n hr => ?_⟩
  -- `n` of `gramNumber` is `.s`, so every branch returns `.s` in third place, directly or under `Except.map`
  have third : ∀ {α} (e : Except Crash α) (f : α → Str × Nat × GNum), (∀ a, (f a).2.2 = .s) →
      e.map f = .ok (r, w, n) → n = .s := by
    intro α e f hf h
    cases e with
    | error c => cases h
    | ok a => exact (congrArg (·.2.2) (Except.ok.inj h)).symm.trans (hf a)
  unfold realNO at hr
  rw [hg] at hr
  cases hv : no.value with
  | none => simp [hv] at hr
  | some v =>
    simp only [hv, ho, if_true] at hr
    cases v with
    | int x =>
      simp only at hr
      repeat' split at hr
      all_goals first | exact third _ _ (fun _ => rfl) hr | (cases hr; rfl)
    | flt _ _ _ _ => split at hr <;> cases hr <;> rfl
    | special _ => split at hr <;> cases hr <;> rfl

/-! non-vacuity: what `NO(1)`, `NO(1.0)`, `NO(-1.5)`, `NO(2)` give (tests) -/
example : gramNumber { lang := .en, value := some (.int (-1)), nbDecimals := 0, dOpt := defaultDOpt } = .ok .s := by decide +kernel
example : gramNumber { lang := .en, value := some (.flt false 10 1 (s "1.0")), nbDecimals := 1, dOpt := defaultDOpt } = .ok .p := by decide +kernel
example : gramNumber { lang := .fr, value := some (.flt true 15 1 (s "-1.5")), nbDecimals := 1, dOpt := defaultDOpt } = .ok .s := by decide +kernel
example : gramNumber { lang := .fr, value := some (.int 2), nbDecimals := 0, dOpt := defaultDOpt } = .ok .p := by decide +kernel

end Pyrealb.C16
