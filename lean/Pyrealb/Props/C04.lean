import Pyrealb.Lemmas.ClauseEnBridge
import Pyrealb.Model.ClauseEnSurf
/-! # C04 — English clause transformations build the right verb group and word order

Property theorems only.  The model (`Model/ClauseEn`, both notations) mirrors affixHopping / passivate / processInt /
tag_question / move_object; `Lemmas/ClauseEn*` prove that the model equals a declarative linearisation (`realize_lin`)
and compare the verb group with the prescribed one on every verb class, tense and flag combination.

Quantification: `sp : Spec` is ANY clause specification (any noun phrases and pronouns, any number of prepositional
complements, any preposition), the verb is any lemma (`VLemma.other` stands for every verb the code does not name),
`ty : Typ` any combination of neg/pas/perf/prog/contr/exc × 6 modalities × 14 interrogatives, `nt` both notations.
`out.main` is the clause proper (everything but the tag of a tag question). -/
namespace Pyrealb.C04
open Pyrealb Pyrealb.ClauseEn

/-! ## the verb group -/

/-- **C04.a** modal-or-will, have, be (progressive), be (passive), main verb last — or `do` + main verb -/
def verb_group_order : Prop :=
  ∀ (nt : Notation) (sp : Spec) (ty : Typ) (out : Out), realize nt sp ty = .ok out →
    (vgroupLF out.main).map (·.1) = (specLF sp.verb sp.t ty).map (·.1)

/-- main verb `do`, negated, no auxiliary: "The cat does not." — the main verb is lost -/
theorem verb_group_order_refuted : ¬ verb_group_order := by
  intro h
  have := h .phrase ⟨.np ⟨1, .s, .n⟩, .do_, .p, none, []⟩ { neg := true } _ rfl
  revert this
  decide +kernel

/-- outside the four irregular families (`Irregular`: do+neg, have+neg with `have` first or alone, modal main verb
    questioned) the verb group is the prescribed one — lemma AND form of every element -/
theorem verb_group_order_partial :
    ∀ (nt : Notation) (sp : Spec) (ty : Typ) (out : Out), Irregular sp.verb sp.t ty = false →
      realize nt sp ty = .ok out → vgroupLF out.main = specLF sp.verb sp.t ty := by
  intro nt sp ty out hreg h
  rw [main_vgroupLF nt sp ty out h]
  unfold vgroupLF specLF
  rw [(vgroup_words sp.verb sp.t ty).mp hreg]

/-- **C04.b** only the first element is finite, and it carries the tense of the clause -/
def only_first_finite : Prop :=
  ∀ (nt : Notation) (sp : Spec) (ty : Typ) (out : Out), realize nt sp ty = .ok out →
    firstFiniteOnly sp.t (vgroupLF out.main) = true

theorem only_first_finite_holds : only_first_finite := by
  intro nt sp ty out h
  rw [main_vgroupLF nt sp ty out h]
  exact first_finite_only sp.verb sp.t ty

/-- **C04.b'** every other element carries the affix of its predecessor (b after a modal or `do`, pp after `have`,
    pr after progressive `be`, pp after passive `be`) -/
def affix_chain : Prop :=
  ∀ (nt : Notation) (sp : Spec) (ty : Typ) (out : Out), realize nt sp ty = .ok out →
    vgroupLF out.main = specLF sp.verb sp.t ty

/-- main verb `have`, perfect, negated: "The cat does not have had." -/
theorem affix_chain_refuted : ¬ affix_chain := by
  intro h
  have := h .dep ⟨.np ⟨1, .s, .n⟩, .have, .p, none, []⟩ { neg := true, perf := true } _ rfl
  revert this
  decide +kernel

theorem affix_chain_partial :
    ∀ (nt : Notation) (sp : Spec) (ty : Typ) (out : Out), Irregular sp.verb sp.t ty = false →
      realize nt sp ty = .ok out → vgroupLF out.main = specLF sp.verb sp.t ty :=
  verb_group_order_partial

/-- **C04.c** do-support exactly when a lexical verb (not be, have, modal) without auxiliary is negated or questioned
    (subject questions and tags do not count) -/
def do_support_iff : Prop :=
  ∀ (nt : Notation) (sp : Spec) (ty : Typ) (out : Out), realize nt sp ty = .ok out →
    usesDo (vgroupLF out.main) = doSupport sp.verb sp.t ty

/-- main verb `have`, negated: "The cat does not have." (do-support for a non-lexical verb) -/
theorem do_support_iff_refuted : ¬ do_support_iff := by
  intro h
  have := h .phrase ⟨.np ⟨1, .s, .n⟩, .have, .p, none, []⟩ { neg := true } _ rfl
  revert this
  decide +kernel

/-- the side condition `Irregular = false` is exact: do-support is right there and wrong everywhere else -/
theorem do_support_iff_partial :
    ∀ (nt : Notation) (sp : Spec) (ty : Typ) (out : Out), realize nt sp ty = .ok out →
      (Irregular sp.verb sp.t ty = false ↔ usesDo (vgroupLF out.main) = doSupport sp.verb sp.t ty) := by
  intro nt sp ty out h
  rw [main_vgroupLF nt sp ty out h]
  exact usesDo_words sp.verb sp.t ty

/-- **C04.d** `not` directly after the first element of the verb group (`cannot` for can + present), nowhere else,
    and no `not` without `neg` -/
def not_after_first : Prop :=
  ∀ (nt : Notation) (sp : Spec) (ty : Typ) (out : Out), realize nt sp ty = .ok out →
    notPlaced ty.neg (wordsOf out.main) = true

theorem not_after_first_holds : not_after_first := by
  intro nt sp ty out h
  rw [main_words nt sp ty out h, notPlaced_map_resolve]
  exact words_notPlaced sp.verb sp.t ty

/-! non-vacuity: a clause on which every hypothesis above is met and the verb group has four elements -/
example : ∃ out, realize .phrase ⟨.np ⟨1, .s, .n⟩, .other, .c, some (.np ⟨2, .p, .n⟩), [(s "in", ⟨3, .s, .n⟩)]⟩
      { neg := true, perf := true, pas := true, contr := true } = .ok out ∧
    vgroupLF out.main = [(.will, .ps), (.have, .b), (.be, .pp), (.other, .pp)] := ⟨_, rfl, by decide +kernel⟩
example : Irregular .other .c { neg := true, perf := true, pas := true, contr := true } = false := by decide +kernel

/-! ## interrogatives -/

/-- the subject of the clause: the promoted object in a passive (`it` when there is none to promote) -/
def subjTok (sp : Spec) (pas : Bool) : ArgTok := (midPh sp pas).subj

/-- **C04.e** interrogatives (other than subject questions and tags) realize, and put first the question word (none
    for yes/no), then the first element of the verb group, then the subject, then the rest of the verb group -/
def interrogative_fronting : Prop :=
  ∀ (nt : Notation) (sp : Spec) (ty : Typ) (i : ClauseEn.Int), ty.int = some i → i.fronting = true →
    ∃ out, realize nt sp ty = .ok out ∧
      Fronted i ((clauseWords sp ty).map (Tok.resolve out.agr)) (subjTok sp ty.pas) out.main

/-- dependency notation, passive without object, yes/no question: "It is slept by the cat?" — `move_object` finds the
    `*pre*(it)` it has just added instead of the auxiliary -/
theorem interrogative_fronting_refuted : ¬ interrogative_fronting := by
  intro h
  obtain ⟨out, hout, hf⟩ :=
    h .dep ⟨.np ⟨1, .s, .n⟩, .other, .p, none, []⟩ { pas := true, int := some .yon } .yon rfl rfl
  have e : realize .dep ⟨.np ⟨1, .s, .n⟩, .other, .p, none, []⟩ { pas := true, int := some .yon } = .ok _ := rfl
  rw [e] at hout
  injection hout with hout
  subst hout
  have := Fronted_yon_head _ _ _ hf (by decide +kernel)
  revert this
  decide +kernel

/-- the constituent notation inverts for every specification, verb, tense and flag combination -/
theorem interrogative_fronting_partial_phrase :
    ∀ (sp : Spec) (ty : Typ) (i : ClauseEn.Int), ty.int = some i → i.fronting = true →
      ∃ out, realize .phrase sp ty = .ok out ∧
        Fronted i ((clauseWords sp ty).map (Tok.resolve out.agr)) (subjTok sp ty.pas) out.main := by
  intro sp ty i hi hf
  have hq : ty.questioned = true := by rw [questioned_eq ty i hi]; exact hf
  obtain ⟨out, hout, hmain⟩ := realize_lin .phrase sp ty
  refine ⟨out, hout, ?_⟩
  rw [hmain, hi, linPh_eq]
  exact Fronted_map _ _ _ _ _ (linG_fronted _ _ _ _ _ i _ hf
    fun c => front_eq _ _ c (hasV_of_questioned sp ty hq))

/-- the dependency notation inverts unless the clause is a passive without object (since `preposition_list` is shared
    with the dependency notation, prepositional questions no longer raise) -/
theorem interrogative_fronting_partial_dep :
    ∀ (sp : Spec) (ty : Typ) (i : ClauseEn.Int), ty.int = some i → i.fronting = true →
      ¬ (ty.pas = true ∧ sp.obj = none) →
      ∃ out, realize .dep sp ty = .ok out ∧
        Fronted i ((clauseWords sp ty).map (Tok.resolve out.agr)) (subjTok sp ty.pas) out.main := by
  intro sp ty i hi hf hnd
  have hq : ty.questioned = true := by rw [questioned_eq ty i hi]; exact hf
  have := realize_lin .dep sp ty
  rw [show lin .dep sp ty = some _ from linDep_plain sp ty _ hnd] at this
  obtain ⟨out, hout, hmain⟩ := this
  refine ⟨out, hout, ?_⟩
  rw [hmain, hi]
  exact Fronted_map _ _ _ _ _ (linG_fronted _ _ _ _ _ i _ hf
    fun c => frontD_eq _ (clauseWords sp ty) c (dep_front_cond sp.verb sp.t ty hq))

/-! ## agreement -/

/-- person and number of the subject of the clause: of the promoted object in a passive, of `it` when there is none -/
def subjAgr (sp : Spec) (pas : Bool) : Agr :=
  if pas then (match sp.obj with | some o => agrOfArg o | none => ⟨.p3, .s⟩) else agrOfArg sp.subj

/-- **C04.i** the finite element agrees with the (possibly passive) subject.  `out.agr` is the person/number record
    every `shared` verb token of the output was resolved with.  Subject questions are left out: their subject is the
    question word. -/
def agreement_with_passive_subject : Prop :=
  ∀ (nt : Notation) (sp : Spec) (ty : Typ) (out : Out), realize nt sp ty = .ok out →
    ty.int ≠ some .wos → ty.int ≠ some .was → out.agr = subjAgr sp ty.pas

/-- dependency notation, passive without object, plural subject: "It are slept by the cats." -/
theorem agreement_with_passive_subject_refuted : ¬ agreement_with_passive_subject := by
  intro h
  have := h .dep ⟨.np ⟨1, .p, .n⟩, .other, .p, none, []⟩ { pas := true } _ rfl (by decide +kernel) (by decide +kernel)
  revert this
  decide +kernel

/-- also the constituent notation fails, when a pronoun object is promoted: "It is eaten by the cat." for
    `S(NP, VP(V, Pro("me").pe(1)))` -/
example : ¬ (∀ (sp : Spec) (ty : Typ) (out : Out), realize .phrase sp ty = .ok out →
    ty.int ≠ some .wos → ty.int ≠ some .was → out.agr = subjAgr sp ty.pas) := by
  intro h
  have := h ⟨.np ⟨1, .s, .n⟩, .other, .p, some (.pro ⟨.p1, .s, .n⟩), []⟩ { pas := true } _ rfl (by decide +kernel) (by decide +kernel)
  revert this
  decide +kernel

theorem agreement_with_passive_subject_partial_phrase :
    ∀ (sp : Spec) (ty : Typ) (out : Out), (∀ a, sp.obj ≠ some (.pro a)) → realize .phrase sp ty = .ok out →
      ty.int ≠ some .wos → ty.int ≠ some .was → out.agr = subjAgr sp ty.pas := by
  intro sp ty out hobj h h1 h2
  obtain ⟨out', hout', _, hagr⟩ := phrase_nf sp ty
  have e : realizePhraseW sp ty (clauseWords sp ty) = realize .phrase sp ty := rfl
  rw [e, h] at hout'
  injection hout' with e'
  subst e'
  have hm : (midPh sp ty.pas).pending = none ∧ (midPh sp ty.pas).agr = subjAgr sp ty.pas := by
    unfold midPh subjAgr
    cases ty.pas
    · exact ⟨rfl, rfl⟩
    · cases ho : sp.obj with
      | none => exact ⟨rfl, rfl⟩
      | some o => cases o with
        | np a => exact ⟨rfl, rfl⟩
        | pro a => exact absurd ho (hobj a)
  rw [hagr hm.1, ← hm.2]
  unfold agrPlain
  split
  · exact absurd ‹_› h1
  · exact absurd ‹_› h2
  · rfl

theorem agreement_with_passive_subject_partial_dep :
    ∀ (sp : Spec) (ty : Typ) (out : Out), ¬ (ty.pas = true ∧ sp.obj = none) → realize .dep sp ty = .ok out →
      ty.int ≠ some .wos → ty.int ≠ some .was → out.agr = subjAgr sp ty.pas := by
  intro sp ty out hnd h h1 h2
  obtain ⟨L, out', _, hout', _, hagr⟩ := dep_nf sp ty
  have e : realizeDep sp ty = realize .dep sp ty := rfl
  rw [e, h] at hout'
  injection hout' with e'
  subst e'
  have hp : ∀ agr, agrDepPlain agr ty.int (clauseWords sp ty) = agr := by
    intro agr
    unfold agrDepPlain
    split
    · exact absurd ‹_› h1
    · exact absurd ‹_› h2
    · rfl
  rw [hagr]
  unfold agrDep subjAgr
  cases hpas : ty.pas
  · exact hp _
  · cases ho : sp.obj with
    | none => exact absurd ⟨hpas, ho⟩ hnd
    | some o => cases o <;> exact hp _

/-! ## the questioned constituent -/

/-- the same clause without its interrogative flag -/
def declarative (ty : Typ) : Typ := { ty with int := none }

/-- **C04.f** the questioned constituent is dropped: compared with the same clause without `int`, a subject question
    loses its first argument (the subject), a direct-object question loses the direct object (the promoted subject in a
    passive), a prepositional question loses the first prepositional complement whose preposition fits the question
    (`preposition_list`) and nothing when none fits.  `argsOf` lists the noun phrases and pronouns of a token list in
    order, `ppsOf` its prepositional complements. -/
def questioned_constituent_dropped : Prop :=
  ∀ (nt : Notation) (sp : Spec) (ty : Typ) (out out0 : Out) (i : ClauseEn.Int), ty.int = some i →
    realize nt sp ty = .ok out → realize nt sp (declarative ty) = .ok out0 →
    ((i = .wos ∨ i = .was) → argsOf out.main = (argsOf out0.main).drop 1) ∧
    ((i = .wod ∨ i = .wad) → sp.obj.isSome = true →
        argsOf out.main = removeAt (argsOf out0.main) (if ty.pas then 0 else 1)) ∧
    (i.isPPq = true → ppsOf out.main = (questionPPDep i (ppsOf out0.main)).2)

/-- `wod` on a passive keeps the promoted object: "Who is the mouse eaten by the cat?" -/
theorem questioned_constituent_dropped_refuted : ¬ questioned_constituent_dropped := by
  intro h
  have := (h .phrase ⟨.np ⟨1, .s, .n⟩, .other, .p, some (.np ⟨2, .s, .n⟩), []⟩ { pas := true, int := some .wod } _ _ .wod
    rfl rfl rfl).2.1 (Or.inl rfl) rfl
  revert this
  decide +kernel

/-- a second way the clause fails, in the constituent notation only: `Phrase.processInt` looks at the FIRST prepositional
    phrase only — "Where does the cat eat with the spoon in the house?" keeps the place -/
example : ¬ (∀ (sp : Spec) (ty : Typ) (out out0 : Out) (i : ClauseEn.Int), ty.int = some i →
    realize .phrase sp ty = .ok out → realize .phrase sp (declarative ty) = .ok out0 →
    i.isPPq = true → ppsOf out.main = (questionPPDep i (ppsOf out0.main)).2) := by
  intro h
  have := h ⟨.np ⟨1, .s, .n⟩, .other, .p, none, [(s "with", ⟨2, .s, .n⟩), (s "in", ⟨3, .s, .n⟩)]⟩ { int := some .whe }
    _ _ .whe rfl rfl rfl rfl
  revert this
  decide +kernel

def qppOf : Notation → ClauseEn.Int → List (Str × ArgTok) → Str × List (Str × ArgTok)
  | .phrase => questionPPPh
  | .dep => questionPPDep

def ppsIn (nt : Notation) (sp : Spec) (pas : Bool) : List (Str × ArgTok) :=
  match nt with
  | .phrase => (midPh sp pas).pl
  | .dep => depPPs sp pas

/-- (the objectless passive of the dependency notation has no `subj` dependent) -/
theorem main_parts (nt : Notation) (sp : Spec) (ty : Typ) (out : Out) (h : realize nt sp ty = .ok out) :
    ppsOf out.main = ppsAfter (qppOf nt) ty.int (ppsIn nt sp ty.pas) ∧
    (¬ (nt = .dep ∧ ty.pas = true ∧ sp.obj = none) →
      argsOf out.main = subjAfter (subjTok sp ty.pas) ty.int ++
        ((objAfter (midPh sp ty.pas).obj ty.int).toList ++ (ppsAfter (qppOf nt) ty.int (ppsIn nt sp ty.pas)).map (·.2))) := by
  obtain ⟨L, hL, hmain⟩ := ok_lin nt sp ty out h
  have hw := clauseWords_all sp ty
  rw [hmain, argsOf_map_resolve, ppsOf_map_resolve]
  cases nt with
  | phrase =>
    simp only [lin, linPh_eq] at hL
    injection hL with hL; subst hL
    exact ⟨(linG_parts Body.of_front _ _ _ _ _ _ hw).2.2, fun _ => (linG_parts Body.of_front _ _ _ _ _ _ hw).2.1⟩
  | dep =>
    by_cases hd : ty.pas = true ∧ sp.obj = none
    · rw [show lin .dep sp ty = _ from linDep_dummy sp ty _ hd.1 hd.2] at hL
      refine ⟨?_, fun hn => absurd ⟨rfl, hd⟩ hn⟩
      rw [(linDepDummy_parts _ _ _ hw hL).2.2, ppsIn, depPPs, hd.1]; rfl
    · rw [show lin .dep sp ty = _ from linDep_plain sp ty _ hd] at hL
      injection hL with hL; subst hL
      exact ⟨(linG_parts Body.of_frontD _ _ _ _ _ _ hw).2.2, fun _ => (linG_parts Body.of_frontD _ _ _ _ _ _ hw).2.1⟩

theorem dropped_parts (q : ClauseEn.Int → List (Str × ArgTok) → Str × List (Str × ArgTok)) (sj : ArgTok)
    (obj : Option ArgTok) (pl : List (Str × ArgTok)) (i : ClauseEn.Int) :
    ((i = .wos ∨ i = .was) →
      subjAfter sj (some i) ++ ((objAfter obj (some i)).toList ++ (ppsAfter q (some i) pl).map (·.2))
        = (subjAfter sj none ++ ((objAfter obj none).toList ++ (ppsAfter q none pl).map (·.2))).drop 1) ∧
    ((i = .wod ∨ i = .wad) → obj.isSome = true →
      subjAfter sj (some i) ++ ((objAfter obj (some i)).toList ++ (ppsAfter q (some i) pl).map (·.2))
        = removeAt (subjAfter sj none ++ ((objAfter obj none).toList ++ (ppsAfter q none pl).map (·.2))) 1) ∧
    (i.isPPq = true → ppsAfter q (some i) pl = (q i (ppsAfter q none pl)).2) := by
  refine ⟨?_, ?_, ?_⟩
  · rintro (rfl | rfl) <;> rfl
  · rintro (rfl | rfl) ho <;>
    · obtain ⟨o, rfl⟩ := Option.isSome_iff_exists.mp ho
      rfl
  · intro hq; simp [ppsAfter, hq]

/-- constituent notation: everything but the direct-object question of a passive, and prepositional questions whose
    first prepositional phrase does not fit while a later one does -/
theorem questioned_constituent_dropped_partial_phrase :
    ∀ (sp : Spec) (ty : Typ) (out out0 : Out) (i : ClauseEn.Int), ty.int = some i →
      realize .phrase sp ty = .ok out → realize .phrase sp (declarative ty) = .ok out0 →
      ((i = .wos ∨ i = .was) → argsOf out.main = (argsOf out0.main).drop 1) ∧
      ((i = .wod ∨ i = .wad) → sp.obj.isSome = true → ty.pas = false → argsOf out.main = removeAt (argsOf out0.main) 1) ∧
      (i.isPPq = true →
        (questionPPPh i (midPh sp ty.pas).pl).2 = (questionPPDep i (midPh sp ty.pas).pl).2 →
        ppsOf out.main = (questionPPDep i (ppsOf out0.main)).2) := by
  intro sp ty out out0 i hi h h0
  obtain ⟨b, a⟩ := main_parts .phrase sp ty out h
  obtain ⟨b0, a0⟩ := main_parts .phrase sp (declarative ty) out0 h0
  have hd := dropped_parts questionPPPh (subjTok sp ty.pas) (midPh sp ty.pas).obj (midPh sp ty.pas).pl i
  rw [a (by simp), a0 (by simp), b, b0, hi]
  refine ⟨hd.1, fun hw ho hp => hd.2.1 hw ?_, fun hq heq => (hd.2.2 hq).trans heq⟩
  rw [hp]; simpa [midPh] using ho

/-- dependency notation: everything but subject questions of an objectless passive and direct-object questions of a
    passive; prepositional questions drop the first fitting prepositional dependent, for every clause -/
theorem questioned_constituent_dropped_partial_dep :
    ∀ (sp : Spec) (ty : Typ) (out out0 : Out) (i : ClauseEn.Int), ty.int = some i →
      realize .dep sp ty = .ok out → realize .dep sp (declarative ty) = .ok out0 →
      ((i = .wos ∨ i = .was) → ¬ (ty.pas = true ∧ sp.obj = none) → argsOf out.main = (argsOf out0.main).drop 1) ∧
      ((i = .wod ∨ i = .wad) → sp.obj.isSome = true → ty.pas = false → argsOf out.main = removeAt (argsOf out0.main) 1) ∧
      (i.isPPq = true → ppsOf out.main = (questionPPDep i (ppsOf out0.main)).2) := by
  intro sp ty out out0 i hi h h0
  obtain ⟨b, a⟩ := main_parts .dep sp ty out h
  obtain ⟨b0, a0⟩ := main_parts .dep sp (declarative ty) out0 h0
  have hd := dropped_parts questionPPDep (subjTok sp ty.pas) (midPh sp ty.pas).obj (depPPs sp ty.pas) i
  rw [b, b0, hi]
  refine ⟨fun hw hn => ?_, fun hw ho hp => ?_, hd.2.2⟩
  · rw [a (fun x => hn x.2), a0 (fun x => hn x.2), hi]; exact hd.1 hw
  · have hn : ¬ (Notation.dep = .dep ∧ ty.pas = true ∧ sp.obj = none) := by simp [hp]
    rw [a hn, a0 hn, hi]
    refine hd.2.1 hw ?_
    rw [hp]; simpa [midPh] using ho

/-! ## the passive -/

/-- the object once promoted to subject -/
def promote : Arg → ArgTok
  | .np a => .np a
  | .pro a => .proNom a

/-- the demoted subject: the subject argument itself, or its tonic pronoun -/
def DemotedOf (subj : Arg) (D : ArgTok) : Prop := D = argTokOfSubj subj ∨ D = demote (argTokOfSubj subj)

/-- **C04.g** the passive promotes the object to subject and demotes the subject to a by-phrase: `by` immediately
    followed by the demoted subject, after the promoted object (which is not there in a subject question).
    Prepositional questions, which may question the by-phrase itself, are left out. -/
def passive_swap : Prop :=
  ∀ (nt : Notation) (sp : Spec) (ty : Typ) (out : Out) (o : Arg), ty.pas = true → sp.obj = some o →
    (∀ i, ty.int = some i → i.isPPq = false) → realize nt sp ty = .ok out →
    ∃ l1 l3 D, out.main = l1 ++ .prep (s "by") :: .arg D :: l3 ∧ DemotedOf sp.subj D ∧
      (ty.int ≠ some .wos → ty.int ≠ some .was → Tok.arg (promote o) ∈ l1)

theorem passive_swap_holds : passive_swap := by
  intro nt sp ty out o hpas hobj hi h
  obtain ⟨L, hL, hmain⟩ := ok_lin nt sp ty out h
  have hw := clauseWords_all sp ty
  have hs : (midPh sp ty.pas).subj = promote o := by unfold midPh; rw [hpas, hobj]; cases o <;> rfl
  have key : ∃ X l3 D, L = X ++ .prep (s "by") :: .arg D :: l3 ∧ DemotedOf sp.subj D ∧
      (ty.int ≠ some .wos → ty.int ≠ some .was → Tok.arg (promote o) ∈ X) := by
    cases nt with
    | phrase =>
      simp only [lin, linPh_eq] at hL
      injection hL with hL; subst hL
      obtain ⟨X, hX, hmem⟩ := linG_pps_last Body.of_front Gen.ClauseEn.phraseHumanObjectGetsIntValue questionPPPh
        (midPh sp ty.pas).subj (midPh sp ty.pas).obj (midPh sp ty.pas).pl ty.int hw hi
      have hm : (midPh sp ty.pas).pl = (s "by", demote (argTokOfSubj sp.subj)) :: ppArgs sp := by
        unfold midPh; rw [hpas, hobj]; cases o <;> rfl
      rw [hs] at hmem
      exact ⟨X, ppToks (ppArgs sp), _, hX.trans (by rw [hm]; rfl), Or.inr rfl, hmem⟩
    | dep =>
      have hnd : ¬ (ty.pas = true ∧ sp.obj = none) := by rw [hobj]; simp
      rw [show lin .dep sp ty = _ from linDep_plain sp ty _ hnd] at hL
      injection hL with hL; subst hL
      obtain ⟨X, hX, hmem⟩ := linG_pps_last Body.of_frontD Gen.ClauseEn.depHumanObjectGetsIntValue questionPPDep
        (midPh sp ty.pas).subj (midPh sp ty.pas).obj (depPPs sp ty.pas) ty.int hw hi
      rw [hs] at hmem
      refine ⟨X ++ ppToks (ppArgs sp), [], argTokOfSubj sp.subj, ?_, Or.inl rfl,
        fun h1 h2 => List.mem_append_left _ (hmem h1 h2)⟩
      rw [hX, depPPs, hpas, if_pos rfl, ppToks_append]; simp [ppToks, byArg]
  obtain ⟨X, l3, D, hLX, hD, hmem⟩ := key
  refine ⟨X.map (Tok.resolve out.agr), l3.map (Tok.resolve out.agr), D, ?_, hD, ?_⟩
  · rw [hmain, hLX]; simp [Tok.resolve]
  · intro h1 h2
    exact List.mem_map.mpr ⟨_, hmem h1 h2, rfl⟩

/-- non-vacuity: "Was the mouse not eaten by the cat in the house?" -/
example : ∃ out, realize .phrase ⟨.np ⟨1, .s, .n⟩, .other, .ps, some (.np ⟨2, .s, .n⟩), [(s "in", ⟨3, .s, .n⟩)]⟩
      { pas := true, neg := true, int := some .yon } = .ok out ∧
    out.main = [.verb .be .ps (.fixed ⟨.p3, .s⟩), .arg (.np ⟨2, .s, .n⟩), .not_, .verb .other .pp (.fixed Agr.dflt),
      .prep (s "by"), .arg (.np ⟨1, .s, .n⟩), .prep (s "in"), .arg (.np ⟨3, .s, .n⟩)] := ⟨_, rfl, by decide +kernel⟩

/-! ## contraction -/

/-- the words that occur in the keys of the lifted table -/
def contrLeft : List Str := (genContrTable.map (fun kv => kv.1.takeWhile (· != '+'))).eraseDups
def contrRight : List Str := (genContrTable.map (fun kv => (kv.1.dropWhile (· != '+')).drop 1)).eraseDups

/-- **C04.h** contraction = exactly `contractionEnTable` (lifted from ConstituentEn.doElision on every run): for every
    pair of words of the table's vocabulary, the contraction pass rewrites the pair iff `w1+w2` is a key, and then to
    the table's value followed by an emptied token; `cannot` becomes `can't`; and the keys are pairwise distinct -/
def contraction_exact_tbl : Prop :=
  (∀ w1 ∈ contrLeft, ∀ w2 ∈ contrRight,
      contract genContrTable [w1, w2] =
        (match lookup (w1 ++ s "+" ++ w2) genContrTable with
         | some c => [c, []]
         | none => [w1, w2])) ∧
  (∀ kv ∈ genContrTable, contract genContrTable [kv.1.takeWhile (· != '+'), (kv.1.dropWhile (· != '+')).drop 1] = [kv.2, []]) ∧
  (genContrTable.map (·.1)).Nodup ∧
  contract genContrTable [s "cannot", s "eat"] = [s "can't", s "eat"]

/-- on two plain words the contraction pass is the table lookup -/
theorem contract_pair (tbl : ContrTable) (w1 w2 : Str) (h1 : sepWord w1 = some ([], w1, []))
    (h2 : sepWord w2 = some ([], w2, [])) (hc : w1 ≠ s "cannot") :
    contract tbl [w1, w2] =
      (match lookup (w1 ++ s "+" ++ w2) tbl with
       | some c => [c, []]
       | none => [w1, w2]) := by
  rw [contract, h1, h2]
  simp only [if_neg hc]
  cases lookup (w1 ++ s "+" ++ w2) tbl <;> simp [contract, strip]

theorem contraction_exact_tbl_holds : contraction_exact_tbl := by
  -- one evaluation, so that the string literals of the table are decoded once
  have h : (∀ w ∈ contrLeft, sepWord w = some ([], w, []) ∧ w ≠ s "cannot") ∧
      (∀ w ∈ contrRight, sepWord w = some ([], w, [])) ∧
      (∀ kv ∈ genContrTable, lookup (kv.1.takeWhile (· != '+') ++ s "+" ++ (kv.1.dropWhile (· != '+')).drop 1)
        genContrTable = some kv.2) ∧
      (genContrTable.map (·.1)).Nodup ∧ contract genContrTable [s "cannot", s "eat"] = [s "can't", s "eat"] := by
    decide +kernel
  obtain ⟨hL, hR, hk, hn, hc⟩ := h
  refine ⟨fun w1 h1 w2 h2 => contract_pair _ _ _ (hL w1 h1).1 (hR w2 h2) (hL w1 h1).2, fun kv h => ?_, hn, hc⟩
  have h1 := hL _ (List.mem_eraseDups.mpr (List.mem_map_of_mem (f := fun kv : Str × Str => kv.1.takeWhile (· != '+')) h))
  have h2 := hR _ (List.mem_eraseDups.mpr
    (List.mem_map_of_mem (f := fun kv : Str × Str => (kv.1.dropWhile (· != '+')).drop 1) h))
  rw [contract_pair _ _ _ h1.1 h2 h1.2, hk kv h]

end Pyrealb.C04
