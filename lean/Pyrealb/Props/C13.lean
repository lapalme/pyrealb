import Pyrealb.Lemmas.HeapClone
import Pyrealb.Lemmas.HeapLocal
/-! # C13 — clones and separate expressions are independent; arguments are not captured

Property theorems on the store model of C11 (`Model/Heap*`) extended with `clone` and caller-owned argument objects
(`Model/HeapClone`).  Realization itself is not modelled: "realizes to the same text" rests on `clone_same_abs` and on
the assumption A_realize (realization is a function of the abstraction and writes only inside the connected tree of its
receiver), monitored by the dynamic oracle of harness/props/C13.py.

* `clone_iso`, `clone_disjoint`, `clone_same_abs` — hold, for every store and every closed region.
* `op_frame` — holds: every modelled operation writes only inside a closed set that contains its receiver (its
  connected tree); link runs are those of the fragment (`planLocal`, checked on every state by the correspondence).
* `caller_unchanged`, `no_capture` — hold (the operations read the caller's object and keep values).
* `interleaving_independent` — holds: by induction over any interleaved history on two separate trees, each tree ends with
  the abstraction it has after its own operations alone.  It rests on `runLOp_sim`: the frame (`op_frame`) and
  read-locality at once (`Lemmas/HeapAgree`, `Lemmas/HeapLocal`: the link plan of a node and every operation depend only on
  the content of the connected tree; the record a link run creates for a CP/coord is named after the node, so no
  renaming is needed).
  `interleaving_independent_partial` (no step on one side changes anything of the other side) is kept. -/
namespace Pyrealb.C13
open Pyrealb Pyrealb.Heap

/-! ## clone -/

/-- **C13.a** the cloned region is isomorphic to the region of the receiver: node by node the same fields with the
    references renamed by `ρ`, the same sharing of records (`σ`, `τ` injective) with the same contents, and the copy is
    itself closed under the references -/
def clone_iso : Prop :=
  ∀ (h : Heap) (C : List Nat), Closed h C →
    (∀ x ∈ C,
      (cloneRegion h C).node ((cloneMaps h C).ρ x) = mapNode (cloneMaps h C) (h.node x) ∧
      (cloneRegion h C).peng ((cloneMaps h C).ρ x) = (h.peng x).map (cloneMaps h C).σ ∧
      (cloneRegion h C).taux ((cloneMaps h C).ρ x) = (h.taux x).map (cloneMaps h C).τ ∧
      (cloneRegion h C).cod ((cloneMaps h C).ρ x) = (h.cod x).map (cloneMaps h C).ρ ∧
      (cloneRegion h C).subject ((cloneMaps h C).ρ x) = (h.subject x).map (Option.map (cloneMaps h C).ρ)) ∧
    (∀ x ∈ C, ∀ r, h.peng x = some r → (cloneRegion h C).prec ((cloneMaps h C).σ r) = h.prec r) ∧
    (∀ x ∈ C, ∀ r, h.taux x = some r → (cloneRegion h C).trec ((cloneMaps h C).τ r) = h.trec r) ∧
    (∀ x ∈ C, ∀ y ∈ C, (cloneMaps h C).ρ x = (cloneMaps h C).ρ y → x = y) ∧
    (∀ x ∈ C, ∀ y ∈ C, ∀ r s, h.peng x = some r → h.peng y = some s →
        ((cloneMaps h C).σ r = (cloneMaps h C).σ s ↔ r = s)) ∧
    Closed (cloneRegion h C) (C.map (cloneMaps h C).ρ)

theorem clone_iso_holds : clone_iso := by
  intro h C cl
  refine ⟨fun x hx => clone_new h C hx, ?_, ?_, fun x hx y hy => rho_inj h C hx hy, ?_, ?_⟩
  · intro x hx r hr; exact clone_prec_new h C (mem_recsOf.mpr ⟨x, hx, hr⟩)
  · intro x hx r hr; exact clone_trec_new h C (mem_recsOf.mpr ⟨x, hx, hr⟩)
  · intro x hx y hy r s hr hs
    exact ⟨sigma_inj h C (mem_recsOf.mpr ⟨x, hx, hr⟩) (mem_recsOf.mpr ⟨y, hy, hs⟩), fun e => by rw [e]⟩
  · intro z hz
    obtain ⟨x, hx, rfl⟩ := List.mem_map.mp hz
    refine ⟨rho_lt h C hx, ?_⟩
    rw [nbrs_clone h C hx]
    intro w hw
    obtain ⟨y, hy, rfl⟩ := List.mem_map.mp hw
    exact List.mem_map.mpr ⟨y, (cl x hx).2 y hy, rfl⟩

/-- **C13.b** the copy is disjoint from everything that existed: the old nodes and records are untouched, the copies are
    fresh nodes that reference only copies and point only to fresh records -/
def clone_disjoint : Prop :=
  ∀ (h : Heap) (C : List Nat), Closed h C →
    (∀ i, i < h.n → (cloneRegion h C).node i = h.node i ∧ (cloneRegion h C).peng i = h.peng i ∧
        (cloneRegion h C).taux i = h.taux i ∧ (cloneRegion h C).cod i = h.cod i ∧
        (cloneRegion h C).subject i = h.subject i) ∧
    (∀ r, r < ownRec h.nRec ∨ r % 2 = 1 → (cloneRegion h C).prec r = h.prec r) ∧
    (∀ r, r < h.nTRec → (cloneRegion h C).trec r = h.trec r) ∧
    (∀ x ∈ C, h.n ≤ (cloneMaps h C).ρ x ∧ ∀ y ∈ nbrs (cloneRegion h C) ((cloneMaps h C).ρ x), h.n ≤ y) ∧
    (∀ x ∈ C, ∀ r, (cloneRegion h C).peng ((cloneMaps h C).ρ x) = some r → ownRec h.nRec ≤ r ∧ r % 2 = 0) ∧
    (∀ x ∈ C, ∀ r, (cloneRegion h C).taux ((cloneMaps h C).ρ x) = some r → h.nTRec ≤ r)

theorem clone_disjoint_holds : clone_disjoint := by
  intro h C _
  refine ⟨fun i hi => clone_old h C hi, fun r hr => clone_prec_old h C hr, fun r hr => clone_trec_old h C hr, ?_, ?_, ?_⟩
  · intro x hx
    refine ⟨rho_fresh h C x, ?_⟩
    rw [nbrs_clone h C hx]
    intro y hy
    obtain ⟨z, _, rfl⟩ := List.mem_map.mp hy
    exact rho_fresh h C z
  · intro x hx r hr
    rw [(clone_new h C hx).2.1] at hr
    cases hq : h.peng x with
    | none => simp [hq] at hr
    | some s => simp [hq] at hr; subst hr; exact sigma_fresh h C s
  · intro x hx r hr
    rw [(clone_new h C hx).2.2.1] at hr
    cases hq : h.taux x with
    | none => simp [hq] at hr
    | some s => simp [hq] at hr; subst hr; exact tau_fresh h C s

/-- **C13.c** isomorphic regions have the same abstraction (tree, own props, partition of the nodes by shared record,
    record contents, back references — all relative to the region): what "a clone realizes to the same text" rests on -/
def clone_same_abs : Prop :=
  ∀ (h : Heap) (C : List Nat), Closed h C →
    absRegion (cloneRegion h C) (C.map (cloneMaps h C).ρ) = absRegion h C

theorem clone_same_abs_holds : clone_same_abs := by
  intro h C cl
  unfold absRegion
  rw [List.map_map]
  apply List.map_congr_left
  intro x hx
  exact absNode_clone h C cl hx

/-- `clone` of the model copies exactly the connected tree of its receiver -/
theorem clone_region (h : Heap) (x : Nat) (h' : Heap) (x' : Nat) (hc : clone h x = .ok (h', x')) :
    ∃ C, closure h x = some C ∧ Closed h C ∧ x ∈ C ∧ h' = cloneRegion h C ∧ x' = (cloneMaps h C).ρ x := by
  unfold clone at hc
  cases hq : closure h x with
  | none => simp [hq] at hc
  | some C =>
    simp only [hq, R.ok.injEq, Prod.mk.injEq] at hc
    obtain ⟨cl, hx, _, _⟩ := closure_spec h x C hq
    exact ⟨C, rfl, cl, hx, hc.1.symm, hc.2.symm⟩

/-! ## frames -/

inductive LOp where
  | opt (x : Nat) (name : Str) (val : Val)          -- an option method
  | setProp (x : Nat) (k : Str) (v : Val)
  | typ (x : Nat) (arg : Typ.Arg)
  | add (p e : Nat) (pos : Option Int)              -- `p.add(e, pos)` for a node `e`
  | relink (p : Nat)                                -- `p.linkProperties()`

def LOp.nodes : LOp → List Nat
  | .opt x _ _ => [x]
  | .setProp x _ _ => [x]
  | .typ x _ => [x]
  | .add p e _ => [p, e]
  | .relink p => [p]

def runLOp (h : Heap) : LOp → R Heap
  | .opt x name val => opt h x name val
  | .setProp x k v => .ok (h.setProp x k v)
  | .typ x arg => .ok (typOp h x arg)
  | .add p e pos =>
    if (h.kind p).isPhrase then phraseAdd1 h p e pos
    else if (h.kind p).isDep then depAdd h p pos (.item (.node e))
    else if pos.isSome then .crash .typeError
    else .ok h.warn
  | .relink p => linkR h p

/-- `runLOp` is what the history interpreter `runOp` does for these operations -/
theorem runOp_add_node (h : Heap) (p e : Nat) (pos : Option Int) (hp : p < h.n) (he : e < h.n) :
    runOp h (.add p (.item (.node e)) pos) = runLOp h (.add p e pos) := by
  have h1 : ¬ p ≥ h.n := by omega
  have h2 : ¬ e ≥ h.n := by omega
  simp [runOp, runLOp, argHandles, h1, h2, phraseAdd]

/-- **C13.d** every modelled operation writes only inside a closed set of nodes containing its receiver (and the added
    child): nodes outside keep all their fields and pointers, records that no node of the set pointed to keep their
    content, the nodes of the set point afterwards to records they pointed to before or to fresh ones, and the set is
    still closed -/
def op_frame : Prop :=
  ∀ (h : Heap) (D : List Nat) (o : LOp) (h' : Heap), Closed h D → (∀ y ∈ o.nodes, y ∈ D) → runLOp h o = .ok h' →
    Frame D h h' ∧ Closed h' D

/-- every operation, performed in `h` and in a store `g` that agrees with `h` on a closed set containing its nodes: it
    writes only inside the set, keeps it closed, has the same outcome in `g`, and the results agree on the set again
    (frame and read-locality at once) -/
theorem runLOp_sim {A : List Nat} {h g h' : Heap} (cl : Closed h A) (ag : Agree A h g) {o : LOp}
    (hn : ∀ y ∈ o.nodes, y ∈ A) (hr : runLOp h o = .ok h') : ∃ g', runLOp g o = .ok g' ∧ Sim A h h' g' := by
  cases o with
  | opt x name val =>
    have hx : x ∈ A := hn x (by simp [LOp.nodes])
    simp only [runLOp, opt] at hr ⊢
    cases hf : optSpecs.find? (fun sp => sp.name == name) with
    | none => rw [hf] at hr; cases hr
    | some sp => rw [hf] at hr; cases hr; exact ⟨_, rfl, ag.n ▸ optRun_sim sp val _ cl ag hx⟩
  | setProp x k v => cases hr; exact ⟨_, rfl, setProp_sim cl ag (hn x (by simp [LOp.nodes])) k v⟩
  | typ x arg => cases hr; exact ⟨_, rfl, typOp_sim cl ag (hn x (by simp [LOp.nodes])) arg⟩
  | add p e pos =>
    have hp : p ∈ A := hn p (by simp [LOp.nodes])
    have he : e ∈ A := hn e (by simp [LOp.nodes])
    simp only [runLOp, ag.kind hp] at hr ⊢
    by_cases hph : (h.kind p).isPhrase = true
    · rw [if_pos hph] at hr ⊢; exact phraseAdd1_sim cl ag hp he pos hr
    · rw [if_neg hph] at hr ⊢
      by_cases hdp : (h.kind p).isDep = true
      · rw [if_pos hdp] at hr ⊢; exact depAddNode_sim cl ag hp he pos hr
      · rw [if_neg hdp] at hr ⊢
        cases pos with
        | some i => cases hr
        | none => cases hr; exact ⟨_, rfl, sim_warn cl ag 1⟩
  | relink p => exact linkR_sim cl ag (hn p (by simp [LOp.nodes])) hr

theorem op_frame_holds : op_frame := by
  intro h D o h' cl hn hr
  obtain ⟨_, _, s⟩ := runLOp_sim cl (Agree.refl D h) hn hr
  exact ⟨s.frame, s.closed⟩

/-! ## caller-owned argument objects -/

/-- **C13.e** no operation of the library writes an object of the caller -/
def caller_unchanged : Prop :=
  ∀ (w w' : World) (o : COp), o.isLibrary = true → runCOp w o = .ok w' → w'.cells = w.cells

theorem caller_unchanged_holds : caller_unchanged := by
  intro w w' o hl hr
  cases o with
  | newCell c => cases hl
  | mutCell a c => cases hl
  | _ =>
    -- every successful branch of a library step returns `{ w with heap := _ }`
    simp only [runCOp] at hr
    repeat' split at hr
    all_goals cases hr
    all_goals rfl

/-- **C13.f** the store keeps no reference to an object of the caller: whatever the caller does to its objects
    afterwards leaves the store as it is, and what an operation does depends on the content of its argument at the time
    of the call only -/
def no_capture : Prop :=
  (∀ (w w' : World) (a : Nat) (c : Cell), runCOp w (.mutCell a c) = .ok w' → w'.heap = w.heap) ∧
  (∀ (w : World) (cs : List Cell) (x a : Nat), cs[a]? = w.cells[a]? →
      (match runCOp w (.typC x a), runCOp { w with cells := cs } (.typC x a) with
       | .ok w1, .ok w2 => w1.heap = w2.heap
       | .crash c1, .crash c2 => c1 = c2
       | .outside, .outside => True
       | _, _ => False))

theorem no_capture_holds : no_capture := by
  refine ⟨?_, ?_⟩
  · intro w w' a c hr
    simp only [runCOp] at hr
    split at hr
    · simp only [R.ok.injEq] at hr; subst hr; rfl
    · simp at hr
  · intro w cs x a hc
    simp only [runCOp, hc]
    cases w.cells[a]? with
    | none => simp
    | some cell =>
      cases cell with
      | list l => simp
      | dict d =>
        simp only
        cases runOp w.heap (.typ x (.dict d)) <;> simp

/-! ## interleavings on two separate trees -/

/-- two sets of nodes with nothing in common: no node, no record that both point to, and no record of one side that
    is the record a link run would create for a node of the other side -/
structure Sep (h : Heap) (A B : List Nat) : Prop where
  nodes : ∀ x ∈ A, ¬ x ∈ B
  recs : ∀ r, RecOf h A r → ¬ RecOf h B r
  trecs : ∀ r, TRecOf h A r → ¬ TRecOf h B r
  freshA : ∀ r, RecOf h A r → ∀ y ∈ B, r ≠ freshRec y
  freshB : ∀ r, RecOf h B r → ∀ y ∈ A, r ≠ freshRec y

theorem Sep.symm {h : Heap} {A B : List Nat} (s : Sep h A B) : Sep h B A :=
  ⟨fun x hx hA => s.nodes x hA hx, fun r hB hA => s.recs r hA hB, fun r hB hA => s.trecs r hA hB, s.freshB, s.freshA⟩

/-- the part of the store that belongs to the nodes `A` is the same in `h` and `h'` -/
structure RegionEq (A : List Nat) (h h' : Heap) : Prop where
  node : ∀ x ∈ A, h'.node x = h.node x
  peng : ∀ x ∈ A, h'.peng x = h.peng x
  taux : ∀ x ∈ A, h'.taux x = h.taux x
  cod : ∀ x ∈ A, h'.cod x = h.cod x
  subject : ∀ x ∈ A, h'.subject x = h.subject x
  prec : ∀ r, RecOf h A r → h'.prec r = h.prec r
  trec : ∀ r, TRecOf h A r → h'.trec r = h.trec r

theorem regionEq_of_frame {h h' : Heap} {A B : List Nat} (sep : Sep h A B) (f : Frame B h h') : RegionEq A h h' where
  node x hx := f.node x (sep.nodes x hx)
  peng x hx := f.peng x (sep.nodes x hx)
  taux x hx := f.taux x (sep.nodes x hx)
  cod x hx := f.cod x (sep.nodes x hx)
  subject x hx := f.subject x (sep.nodes x hx)
  prec r hr := f.prec r (sep.recs r hr) (sep.freshA r hr)
  trec r hr := f.trec r (sep.trecs r hr)

theorem RegionEq.recOf {h h' : Heap} {A : List Nat} (e : RegionEq A h h') {r : Nat} : RecOf h' A r → RecOf h A r :=
  fun ⟨x, hx, hr⟩ => ⟨x, hx, e.peng x hx ▸ hr⟩

theorem RegionEq.trecOf {h h' : Heap} {A : List Nat} (e : RegionEq A h h') {r : Nat} : TRecOf h' A r → TRecOf h A r :=
  fun ⟨x, hx, hr⟩ => ⟨x, hx, e.taux x hx ▸ hr⟩

theorem sep_after {h h' : Heap} {A B : List Nat} (sep : Sep h A B) (clA : Closed h A) (f : Frame B h h') :
    Sep h' A B ∧ Closed h' A := by
  have e := regionEq_of_frame sep f
  refine ⟨⟨sep.nodes, ?_, ?_, ?_, ?_⟩, ?_⟩
  · intro r hr hB
    have hrA := e.recOf hr
    rcases f.recOf r hB with q | ⟨y, hy, rfl⟩
    · exact sep.recs r hrA q
    · exact sep.freshA _ hrA y hy rfl
  · intro r hr hB
    exact sep.trecs r (e.trecOf hr) (f.trecOf r hB)
  · intro r hr
    exact sep.freshA r (e.recOf hr)
  · intro r hr y hy
    rcases f.recOf r hr with q | ⟨z, hz, rfl⟩
    · exact sep.freshB r q y hy
    · intro e2
      have : z = y := by simp only [freshRec] at e2; omega
      exact sep.nodes y hy (this ▸ hz)
  · exact closed_of_agree clA ⟨f.n, e.node, e.peng, e.taux, e.cod, e.subject, e.prec, e.trec⟩

def onSide (S : List Nat) (o : LOp) : Prop := ∀ y ∈ o.nodes, y ∈ S

/-- along a history, every step on one side leaves the other side exactly as it was -/
def Stepwise (A B : List Nat) : Heap → List LOp → Prop
  | _, [] => True
  | h, o :: os =>
    ∀ h1, runLOp h o = .ok h1 →
      (onSide B o → RegionEq A h h1) ∧ (onSide A o → RegionEq B h h1) ∧ Stepwise A B h1 os

def runLOps : Heap → List LOp → R Heap
  | h, [] => .ok h
  | h, o :: os =>
    match runLOp h o with
    | .ok h1 => runLOps h1 os
    | .crash c => .crash c
    | .outside => .outside

theorem runLOps_cons_ok {h h' : Heap} {o : LOp} {os : List LOp} :
    runLOps h (o :: os) = .ok h' ↔ ∃ h1, runLOp h o = .ok h1 ∧ runLOps h1 os = .ok h' := by
  simp only [runLOps]
  cases runLOp h o <;> simp

/-- the abstraction of the side `A` (relative to `A` itself) after a history -/
def absAfter (h : Heap) (A : List Nat) (ops : List LOp) : Option (List AbsNode) :=
  match runLOps h ops with
  | .ok h' => some (absRegion h' A)
  | _ => none

instance (S : List Nat) (o : LOp) : Decidable (onSide S o) := by unfold onSide; exact inferInstance

/-- **C13.g** an interleaved history on two separate trees leaves each of them with the abstraction it has after its
    own operations alone (the "alone" run starts from the same store and simply does not perform the other side's
    operations) -/
def interleaving_independent : Prop :=
  ∀ (h : Heap) (A B : List Nat) (ops : List LOp) (h' : Heap), Closed h A → Closed h B → Sep h A B →
    (∀ o ∈ ops, onSide A o ∨ onSide B o) → runLOps h ops = .ok h' →
    absAfter h A (ops.filter (fun o => decide (onSide A o))) = some (absRegion h' A) ∧
    absAfter h B (ops.filter (fun o => decide (onSide B o))) = some (absRegion h' B)

/-- **C13.g partial** for EVERY interleaved history of operations on two separate trees (options, typ, add of a node of
    the same tree, re-linking — in any order, of any length): no step on one side changes anything of the other side
    (its nodes, their pointers, the contents of the records they share) -/
theorem interleaving_independent_partial (A B : List Nat) : ∀ (ops : List LOp) (h : Heap), Closed h A → Closed h B →
    Sep h A B → (∀ o ∈ ops, onSide A o ∨ onSide B o) → Stepwise A B h ops := by
  intro ops
  induction ops with
  | nil => intro h _ _ _ _; trivial
  | cons o os ih =>
    intro h clA clB sep hs h1 hr
    have hso := hs o List.mem_cons_self
    have hrest : ∀ o' ∈ os, onSide A o' ∨ onSide B o' := fun o' ho' => hs o' (List.mem_cons_of_mem _ ho')
    refine ⟨fun hB => ?_, fun hA => ?_, ?_⟩
    · exact regionEq_of_frame sep (op_frame_holds h B o h1 clB hB hr).1
    · exact regionEq_of_frame sep.symm (op_frame_holds h A o h1 clA hA hr).1
    · rcases hso with hA | hB
      · obtain ⟨f, clA1⟩ := op_frame_holds h A o h1 clA hA hr
        obtain ⟨sep1, clB1⟩ := sep_after sep.symm clB f
        exact ih h1 clA1 clB1 sep1.symm hrest
      · obtain ⟨f, clB1⟩ := op_frame_holds h B o h1 clB hB hr
        obtain ⟨sep1, clA1⟩ := sep_after sep clA f
        exact ih h1 clA1 clB1 sep1 hrest

theorem runLOp_agree (h g : Heap) (A : List Nat) (o : LOp) (h' : Heap) (cl : Closed h A) (ag : Agree A h g)
    (hs : onSide A o) (hr : runLOp h o = .ok h') : ∃ g', runLOp g o = .ok g' ∧ Agree A h' g' := by
  obtain ⟨g', hg', s⟩ := runLOp_sim cl ag hs hr
  exact ⟨g', hg', s.agree⟩

theorem absRegion_agree {A : List Nat} {h g : Heap} (ag : Agree A h g) : absRegion g A = absRegion h A := by
  refine List.map_congr_left fun x hx => ?_
  have fp : firstWith g.peng A = firstWith h.peng A := funext fun r =>
    (congrArg _ (List.map_id A).symm).trans (findIdx_map (f := id) fun y hy => by rw [id, ag.peng y hy])
  have ft : firstWith g.taux A = firstWith h.taux A := funext fun r =>
    (congrArg _ (List.map_id A).symm).trans (findIdx_map (f := id) fun y hy => by rw [id, ag.taux y hy])
  simp only [absNode, ag.node x hx, ag.cod x hx, ag.subject x hx, ag.peng x hx, ag.taux x hx, fp, ft]
  rw [Option.map_congr fun r hr => ag.prec r ⟨x, hx, hr⟩, Option.map_congr fun r hr => ag.trec r ⟨x, hx, hr⟩]

theorem agree_after_other {A B : List Nat} {h h1 t : Heap} (sep : Sep h A B) (f : Frame B h h1) (ag : Agree A h t) :
    Agree A h1 t := by
  have e := regionEq_of_frame sep f
  refine ⟨ag.n.trans f.n.symm, fun x hx => (ag.node x hx).trans (e.node x hx).symm,
    fun x hx => (ag.peng x hx).trans (e.peng x hx).symm, fun x hx => (ag.taux x hx).trans (e.taux x hx).symm,
    fun x hx => (ag.cod x hx).trans (e.cod x hx).symm, fun x hx => (ag.subject x hx).trans (e.subject x hx).symm, ?_, ?_⟩
  · intro r hr
    have hr0 := e.recOf hr
    rw [ag.prec r hr0, e.prec r hr0]
  · intro r hr
    have hr0 := e.trecOf hr
    rw [ag.trec r hr0, e.trec r hr0]

/-- one side of the theorem: the run of the `A`-operations alone, started in a store `t` that agrees with `h` on `A`,
    succeeds and ends in a store that agrees on `A` with the end of the interleaved run -/
theorem alone_agrees (A B : List Nat) : ∀ (ops : List LOp) (h t h' : Heap), Closed h A → Closed h B → Sep h A B →
    Agree A h t → (∀ o ∈ ops, onSide A o ∨ onSide B o) → runLOps h ops = .ok h' →
    ∃ t', runLOps t (ops.filter (fun o => decide (onSide A o))) = .ok t' ∧ Agree A h' t'
  | [], h, t, h', _, _, _, ag, _, hr => by cases hr; exact ⟨t, rfl, ag⟩
  | o :: os, h, t, h', clA, clB, sep, ag, hs, hr => by
    obtain ⟨h1, h1r, hr⟩ := runLOps_cons_ok.1 hr
    have hrest : ∀ o' ∈ os, onSide A o' ∨ onSide B o' := fun o' ho' => hs o' (List.mem_cons_of_mem _ ho')
    by_cases hA : onSide A o
    · -- a step on `A`: both runs perform it
      obtain ⟨t1, ht1, s⟩ := runLOp_sim clA ag hA h1r
      obtain ⟨sep1, clB1⟩ := sep_after sep.symm clB s.frame
      obtain ⟨t', ht', ag'⟩ := alone_agrees A B os h1 t1 h' s.closed clB1 sep1.symm s.agree hrest hr
      refine ⟨t', ?_, ag'⟩
      simp only [List.filter_cons, hA, decide_true, if_true]
      exact runLOps_cons_ok.2 ⟨t1, ht1, ht'⟩
    · -- a step on `B`: the alone run does nothing
      obtain ⟨f, clB1⟩ := op_frame_holds h B o h1 clB ((hs o List.mem_cons_self).resolve_left hA) h1r
      obtain ⟨sep1, clA1⟩ := sep_after sep clA f
      obtain ⟨t', ht', ag'⟩ := alone_agrees A B os h1 t h' clA1 clB1 sep1 (agree_after_other sep f ag) hrest hr
      refine ⟨t', ?_, ag'⟩
      simp only [List.filter_cons, hA, decide_false, Bool.false_eq_true, if_false]
      exact ht'

theorem interleaving_independent_holds : interleaving_independent := by
  intro h A B ops h' clA clB sep hs hr
  constructor
  · obtain ⟨t', ht', ag'⟩ := alone_agrees A B ops h h h' clA clB sep (Agree.refl A h) hs hr
    simp only [absAfter, ht', absRegion_agree ag']
  · obtain ⟨t', ht', ag'⟩ := alone_agrees B A ops h h h' clB clA sep.symm (Agree.refl B h)
      (fun o ho => (hs o ho).symm) hr
    simp only [absAfter, ht', absRegion_agree ag']

theorem runLOps_frame (B : List Nat) : ∀ (ops : List LOp) {h h' : Heap}, Closed h B → (∀ o ∈ ops, onSide B o) →
    runLOps h ops = .ok h' → Frame B h h' ∧ Closed h' B
  | [], h, _, cl, _, hr => by cases hr; exact ⟨Frame.refl B h, cl⟩
  | o :: os, h, h', cl, hs, hr => by
    obtain ⟨h1, h1r, hr⟩ := runLOps_cons_ok.1 hr
    obtain ⟨f1, cl1⟩ := op_frame_holds h B o h1 cl (hs o List.mem_cons_self) h1r
    obtain ⟨f2, cl2⟩ := runLOps_frame B os cl1 (fun o' ho' => hs o' (List.mem_cons_of_mem _ ho')) hr
    exact ⟨f1.trans f2, cl2⟩

/-- corollary: whatever is done to one tree, the other keeps its abstraction -/
theorem other_side_unchanged (A B : List Nat) (ops : List LOp) (h h' : Heap) (clA : Closed h A) (clB : Closed h B)
    (sep : Sep h A B) (hs : ∀ o ∈ ops, onSide B o) (hr : runLOps h ops = .ok h') : RegionEq A h h' :=
  regionEq_of_frame sep (runLOps_frame B ops clB hs hr).1

/-- a clone and its original are separate trees: the hypothesis of the interleaving theorems holds right after `clone`
    (for a store whose records in use are counter records below `nRec` or records created for existing nodes) -/
theorem clone_sep (h : Heap) (C : List Nat) (cl : Closed h C)
    (wf : ∀ r, RecOf h C r → (r % 2 = 0 ∧ r < ownRec h.nRec) ∨ (r % 2 = 1 ∧ r / 2 < h.n))
    (wt : ∀ r, TRecOf h C r → r < h.nTRec) :
    Sep (cloneRegion h C) C (C.map (cloneMaps h C).ρ) ∧ Closed (cloneRegion h C) C ∧
    Closed (cloneRegion h C) (C.map (cloneMaps h C).ρ) := by
  have old : ∀ x ∈ C, _ := fun x hx => clone_old h C (cl x hx).1
  have recA : ∀ r, RecOf (cloneRegion h C) C r → RecOf h C r := fun r ⟨x, hx, hr⟩ => ⟨x, hx, (old x hx).2.1 ▸ hr⟩
  have recB : ∀ r, RecOf (cloneRegion h C) (C.map (cloneMaps h C).ρ) r → ownRec h.nRec ≤ r ∧ r % 2 = 0 := by
    rintro r ⟨z, hz, hzr⟩
    obtain ⟨y, hy, rfl⟩ := List.mem_map.mp hz
    exact (clone_disjoint_holds h C cl).2.2.2.2.1 y hy r hzr
  refine ⟨⟨?_, ?_, ?_, ?_, ?_⟩, ?_, (clone_iso_holds h C cl).2.2.2.2.2⟩
  · intro x hx hm
    obtain ⟨y, _, hy⟩ := List.mem_map.mp hm
    have := rho_fresh h C y
    have := (cl x hx).1
    omega
  · intro r hr hB
    have := recB r hB
    rcases wf r (recA r hr) with q | q <;> omega
  · rintro r ⟨x, hx, hr⟩ ⟨z, hz, hzr⟩
    obtain ⟨y, hy, rfl⟩ := List.mem_map.mp hz
    have := (clone_disjoint_holds h C cl).2.2.2.2.2 y hy r hzr
    have := wt r ⟨x, hx, (old x hx).2.2.1 ▸ hr⟩
    omega
  · intro r hr z hz
    obtain ⟨y, hy, rfl⟩ := List.mem_map.mp hz
    have := rho_fresh h C y
    simp only [freshRec]
    rcases wf r (recA r hr) with q | q <;> omega
  · intro r hr y _
    have := recB r hr
    simp only [freshRec]; omega
  · refine cl.of_nbrs (Nat.le_add_right _ _) fun x hx y hy => Or.inl ?_
    have o := old x hx
    simpa only [nbrs, Heap.kids, o.1, o.2.2.2.1, o.2.2.2.2] using hy

/-! ## non-vacuity -/

def ex_spec (k : Kind) (lem : String) (n : String := "s") : TermSpec :=
  { kind := k, lang := .en, lemma := lem.toList, pe := .i 3, n := .s n.toList, g := .s ['n'], t := .s ['p'] }

/-- `S(NP(D("the"),N("cat")),VP(V("sleep")))` : handles 0..5 -/
def ex_h : Heap :=
  match runOps {} [.mkT (ex_spec .D "the"), .mkT (ex_spec .N "cat"), .mkP .NP .en [.item (.node 0), .item (.node 1)],
                   .mkT (ex_spec .V "sleep"), .mkP .VP .en [.item (.node 3)],
                   .mkP .S .en [.item (.node 2), .item (.node 4)]] with
  | .ok h => h
  | _ => {}

/-- test: the connected tree of the NP is the whole sentence (the closure follows `parentConst`), and it is closed -/
example : closure ex_h 2 = some [0, 1, 2, 3, 4, 5] := by decide +kernel
example : Closed ex_h [0, 1, 2, 3, 4, 5] := (closedB_iff _ _).mp (by decide +kernel)

/-- test: after `clone`, the verb of the copy shares the record of the copy's noun and not the original's -/
example : (cloneRegion ex_h [0, 1, 2, 3, 4, 5]).peng 9 = (cloneRegion ex_h [0, 1, 2, 3, 4, 5]).peng 7 ∧
          (cloneRegion ex_h [0, 1, 2, 3, 4, 5]).peng 9 ≠ (cloneRegion ex_h [0, 1, 2, 3, 4, 5]).peng 3 := by decide +kernel

/-- test: an option on the copy's NP (handle 8) changes the copy's record only -/
example : (match runLOp (cloneRegion ex_h [0, 1, 2, 3, 4, 5]) (.opt 8 (s "n") (.s ['p'])) with
           | .ok h' => (h'.getProp 9 Heap.nKey, h'.getProp 3 Heap.nKey)
           | _ => (.none, .none)) = (.s ['p'], .s ['s']) := by decide +kernel

end Pyrealb.C13
