import Pyrealb.Lemmas.ClauseEnAgree
/-! # C08 (English half) — the constituent and the dependency notation of one clause realize identically

Property theorems only.  `realize .phrase` / `realize .dep` are the two halves of `Model/ClauseEn`, each tied to its
half of the library by the correspondence run.  The statement compares the symbolic tokens of the clause proper
(`Out.main`: everything but the tag of a tag question), with the agreement of every verb resolved, and the exception
raised.  Contraction (which is applied level by level and therefore differs between the notations for a pronoun subject)
and the tag itself are compared on the real library by the correspondence run and the direct oracle only. -/
namespace Pyrealb.C08En
open Pyrealb Pyrealb.ClauseEn

/-- **C08-en** same specification, same flags ⇒ same tokens, or the same exception -/
def notations_agree_en : Prop :=
  ∀ (sp : Spec) (ty : Typ),
    (realize .phrase sp ty).map (·.main) = (realize .dep sp ty).map (·.main)

/-- a passive with one more prepositional complement: "… eaten by the cat in the house" (constituents) against
    "… eaten in the house by the cat" (dependencies) -/
theorem notations_agree_en_refuted : ¬ notations_agree_en := by
  intro h
  have := h ⟨.np ⟨1, .s, .n⟩, .other, .p, some (.np ⟨2, .s, .n⟩), [(s "in", ⟨3, .s, .n⟩)]⟩ { pas := true }
  revert this
  decide +kernel

/-- further witnesses (each is a finding of its own): "Who eat?"/"Who eats?", a prepositional question whose first
    prepositional complement does not fit while the second does (constituents only look at the first), "by me"/"by I",
    the objectless passive.  (`whom` and the AttributeError of the dependency side were repaired: 172fd46, 38d9ad6.) -/
example : (realize .phrase ⟨.np ⟨1, .p, .n⟩, .other, .p, none, []⟩ { int := some .wos }).map (·.main)
    ≠ (realize .dep ⟨.np ⟨1, .p, .n⟩, .other, .p, none, []⟩ { int := some .wos }).map (·.main) := by decide +kernel
example : (realize .phrase ⟨.np ⟨1, .s, .n⟩, .other, .p, none, [(s "with", ⟨2, .s, .n⟩), (s "in", ⟨3, .s, .n⟩)]⟩ { int := some .whe }).map (·.main)
    ≠ (realize .dep ⟨.np ⟨1, .s, .n⟩, .other, .p, none, [(s "with", ⟨2, .s, .n⟩), (s "in", ⟨3, .s, .n⟩)]⟩ { int := some .whe }).map (·.main) := by decide +kernel
example : (realize .phrase ⟨.pro ⟨.p1, .s, .m⟩, .other, .p, some (.np ⟨2, .s, .n⟩), []⟩ { pas := true }).map (·.main)
    ≠ (realize .dep ⟨.pro ⟨.p1, .s, .m⟩, .other, .p, some (.np ⟨2, .s, .n⟩), []⟩ { pas := true }).map (·.main) := by decide +kernel
example : (realize .phrase ⟨.np ⟨1, .p, .n⟩, .other, .p, none, []⟩ { pas := true }).map (·.main)
    ≠ (realize .dep ⟨.np ⟨1, .p, .n⟩, .other, .p, none, []⟩ { pas := true }).map (·.main) := by decide +kernel

theorem agr_agree (sp : Spec) (ty : Typ) (hc : C08Cond sp ty = true) :
    (midPh sp ty.pas).pending = none ∧
    agrPlain (midPh sp ty.pas) ty.int = agrDep sp ty (clauseWords sp ty) := by
  unfold C08Cond at hc
  simp only [Bool.and_eq_true, Bool.or_eq_true, Bool.not_eq_true'] at hc
  obtain ⟨hpas, hint⟩ := hc
  obtain ⟨subj, verb, t, obj, pps⟩ := sp
  obtain ⟨neg, pas, perf, prog, contr, exc, md, i⟩ := ty
  cases pas
  · refine ⟨rfl, ?_⟩
    cases i with
    | none => rfl
    | some i =>
      simp only [Bool.and_eq_true, Bool.or_eq_true, Bool.not_eq_true'] at hint
      obtain ⟨_, hwos⟩ := hint
      cases i
      case wos | was =>
        have ha : agrOfArg subj = ⟨.p3, .s⟩ := by simpa [subjAgrOf] using hwos
        simp [agrPlain, agrDep, agrDepPlain, midPh, ha]
      all_goals rfl
  · simp only [Bool.true_eq_false, false_or, List.isEmpty_iff] at hpas
    obtain ⟨⟨hpp, hobj⟩, hsubj⟩ := hpas
    cases obj with
    | none => simp at hobj
    | some o =>
      cases o with
      | pro a => simp at hobj
      | np a =>
        refine ⟨rfl, ?_⟩
        cases i with
        | none => rfl
        | some i =>
          simp only [Bool.and_eq_true, Bool.or_eq_true, Bool.not_eq_true'] at hint
          obtain ⟨_, hwos⟩ := hint
          cases i
          case wos | was =>
            have ha : (⟨.p3, a.n⟩ : Agr) = ⟨.p3, .s⟩ := by simpa [subjAgrOf, agrOfArg] using hwos
            simp [agrPlain, agrDep, agrDepPlain, midPh, ha]
          all_goals rfl

/-- under the side conditions of `C08Cond` (each excluded region is a finding) both notations give the same tokens -/
theorem notations_agree_en_partial :
    ∀ (sp : Spec) (ty : Typ), C08Cond sp ty = true →
      (realize .phrase sp ty).map (·.main) = (realize .dep sp ty).map (·.main) := by
  intro sp ty hc
  have hl : some _ = linDep sp ty (clauseWords sp ty) := lin_agree sp ty hc
  obtain ⟨hpend, hagr⟩ := agr_agree sp ty hc
  obtain ⟨outp, houtp, hmainp, hagrp⟩ := phrase_nf sp ty
  obtain ⟨L, outd, hL, houtd, hmaind, hagrd⟩ := dep_nf sp ty
  rw [hL] at hl
  injection hl with hl
  have e1 : realize .phrase sp ty = .ok outp := houtp
  have e2 : realize .dep sp ty = .ok outd := houtd
  rw [e1, e2]
  simp only [Except.map]
  rw [hmainp, hmaind, hagrp hpend, hagrd, hagr, hl]

/-! non-vacuity: a negated perfect `why` question, and a passive, satisfy the side conditions -/
example : C08Cond ⟨.pro ⟨.p1, .p, .m⟩, .other, .ps, some (.np ⟨2, .p, .n⟩), [(s "with", ⟨3, .s, .n⟩)]⟩
    { neg := true, perf := true, contr := true, int := some .why } = true := by decide +kernel
example : C08Cond ⟨.np ⟨1, .s, .n⟩, .have, .f, some (.np ⟨2, .p, .f⟩), []⟩ { pas := true, prog := true, int := some .yon } = true := by
  decide +kernel

end Pyrealb.C08En
