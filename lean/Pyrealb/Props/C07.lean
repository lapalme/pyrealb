import Pyrealb.Model.Total
/-! # C07 — realization is total: warnings and [[lemma]], never an exception

Property theorems only. What is proved here is the DISCIPLINE: (a) for any computation whose individual steps
either are quiet, warn or crash, and that never reads the flag except inside `warn`, the run with
`exceptionOnWarning` raises `PyrealbException` exactly when the run without it warns, and nothing else can escape
unless a step crashes; (b) the generic option setter is total and warns exactly on illegal values/receivers, for
every option of the table regenerated from the source. That the individual steps of construction and
realization never crash is the conjunction of the `…_total` theorems of the component models (C01, C02, C16,
C17, C06, C10, C09, C11, C12 — see their Props files) and, outside the modelled components, is EXPLORED by the
malformed-input generator only: C07 is claimed as partial. -/
namespace Pyrealb.C07
open Pyrealb.Total Pyrealb.Gen.OptionTable

/-- the steps of a computation from state `s` never crash within `fuel` steps -/
def NoCrash {σ} (m : Machine σ) : Nat → σ → Prop
  | 0, _ => True
  | fuel + 1, s =>
    match m.step s with
    | none => True
    | some (.crash, _) => False
    | some (_, s') => NoCrash m fuel s'

theorem run_flag_aux {σ} (m : Machine σ) (fuel : Nat) (s : σ) (w : Nat) (h : NoCrash m fuel s) :
    (∃ k, run m false fuel s w = .returned (w + k) ∧
      (k = 0 → run m true fuel s w = .returned w) ∧ (k ≠ 0 → run m true fuel s w = .pyrealbException)) := by
  induction fuel generalizing s w with
  | zero => exact ⟨0, by simp [run], by simp [run], by simp⟩
  | succ n ih =>
    unfold NoCrash at h
    cases hs : m.step s with
    | none => exact ⟨0, by simp [run, hs], by simp [run, hs], by simp⟩
    | some p =>
      obtain ⟨ev, s'⟩ := p
      rw [hs] at h
      cases ev with
      | crash => exact absurd h (by simp)
      | quiet =>
        obtain ⟨k, h1, h2, h3⟩ := ih s' w h
        exact ⟨k, by simp [run, hs, h1], by intro hk; simp [run, hs, h2 hk], by intro hk; simp [run, hs, h3 hk]⟩
      | warn =>
        obtain ⟨k, h1, _, _⟩ := ih s' (w + 1) h
        refine ⟨k + 1, ?_, by simp, ?_⟩
        · simp [run, hs, h1]; omega
        · intro _; simp [run, hs]

/-- **C07.a** with `exceptionOnWarning` set, `PyrealbException` is raised in exactly the situations that otherwise
    warn, and it is the only exception that can escape (as long as no step crashes) -/
def exception_iff_warning : Prop :=
  ∀ (σ : Type) (m : Machine σ) (fuel : Nat) (s : σ), NoCrash m fuel s →
    ∃ k, run m false fuel s 0 = .returned k ∧
      (k = 0 → run m true fuel s 0 = .returned 0) ∧
      (k ≠ 0 → run m true fuel s 0 = .pyrealbException)

theorem exception_iff_warning_holds : exception_iff_warning := by
  intro σ m fuel s h
  obtain ⟨k, h1, h2, h3⟩ := run_flag_aux m fuel s 0 h
  exact ⟨k, by simpa using h1, h2, h3⟩

/-- **C07.b** a crash of a step is the only way another exception escapes -/
def only_pyrealb_exception : Prop :=
  ∀ (σ : Type) (m : Machine σ) (flag : Bool) (fuel : Nat) (s : σ) (w : Nat),
    NoCrash m fuel s → run m flag fuel s w ≠ .otherException

theorem only_pyrealb_exception_holds : only_pyrealb_exception := by
  intro σ m flag fuel s w h
  obtain ⟨k, h1, h2, h3⟩ := run_flag_aux m fuel s w h
  cases flag with
  | false => simp [h1]
  | true =>
    by_cases hk : k = 0
    · simp [h2 hk]
    · simp [h3 hk]

/-- **C07.c** the generic option setter, for EVERY option of the generated table, every receiver type and every
    value: it sets the property iff the receiver is legal and the value valid, and otherwise warns (never
    raises); an illegal value never overwrites the property except by `False` where `False` is a legal value. -/
def option_decision : Prop :=
  ∀ o ∈ options, ∀ (ct : String) (v : Lit),
    (applyOption o ct (some v) = .set v ↔ (¬ propagates ct o = true ∧ receiverOK ct o = true ∧ o.valid.contains v = true)) ∧
    ((applyOption o ct (some v)).warns = true ↔
        (¬ propagates ct o = true ∧ (receiverOK ct o = false ∨ o.valid.contains v = false)))

theorem option_decision_holds : option_decision := by
  intro o _ ct v
  unfold applyOption
  simp only [reduceCtorEq, false_and, if_false]
  by_cases hp : propagates ct o = true
  · simp [hp, OptOutcome.warns]
  · by_cases hr : receiverOK ct o = true
    · by_cases hv : v ∈ o.valid
      · simp [hp, hr, hv, OptOutcome.warns]
      · by_cases hf : Lit.bool false ∈ o.valid <;> simp [hp, hr, hv, hf, OptOutcome.warns]
    · simp [hp, hr, OptOutcome.warns]

/-- the table the theorem quantifies over is the real one: 14 options, `t` accepts the 21 tense codes -/
example : options.length = 14 := by decide +kernel
example : (options.find? (·.name = "t")).map (·.valid.length) = some 21 := by decide +kernel
-- non-vacuity of `NoCrash`: a three-step machine that warns once
example : NoCrash ⟨fun (n : Nat) => if n = 0 then none else some (if n = 2 then .warn else .quiet, n - 1)⟩ 5 3 := by
  simp [NoCrash]

end Pyrealb.C07
