import Pyrealb.Model.Decl
import Pyrealb.Lemmas.DeclBestMatch
import Pyrealb.Lemmas.Decl
import Pyrealb.Gen.DeclEn
import Pyrealb.Gen.DeclFr
import Pyrealb.Gen.DocCells
/-! # C02 — declension of nouns, adjectives, adverbs, determiners and pronouns follows the tables

Property theorems only. The model (`Model/BestMatch`, `Model/Decl`) mirrors `Terminal.bestMatch`, `Terminal.decline`
and the language-specific helpers; the declarative side (`score`, `FirstMax`, `Compatible`, `Exact`) is stated in
`Model/BestMatch` without reference to the loops.

The clauses named `…_tbl` are finite: `decide +kernel` over the complete generated data (the shipped tables, the
documented paradigm cells of docs/documentation.html), re-proved whenever `/repo` changes; the others hold for all
tables, lexicons and requests. -/
namespace Pyrealb.C02
open Pyrealb Pyrealb.Decl

/-- **C02.a** for all row lists and requests: the result is the `val` of the first row with maximal positive score;
    `None` when every row scores 0 -/
def bestMatch_spec : Prop :=
  ∀ (rows : List Row) (kv : KeyVals),
    (∃ r, FirstMax (fun d => score d kv) rows r ∧ bestMatch rows kv = some r.val) ∨
    ((∀ d ∈ rows, score d kv = 0) ∧ bestMatch rows kv = none)

theorem bestMatch_spec_holds : bestMatch_spec := by
  intro rows kv
  unfold bestMatch
  rcases bestLoop_spec kv rows 0 none with ⟨heq, hall⟩ | ⟨pre, r, post, hds, hlt, hpre, hpost, heq⟩
  · right
    refine ⟨fun d hd => Nat.le_zero.mp (hall d hd), ?_⟩
    simp [heq]
  · left
    refine ⟨r, ⟨pre, post, hds, hlt, hpre, hpost⟩, ?_⟩
    have : score r kv ≠ 0 := by omega
    simp [heq, this]

/-- **C02.b** `None` iff no row scores more than 0 -/
def bestMatch_none_iff : Prop :=
  ∀ (rows : List Row) (kv : KeyVals), bestMatch rows kv = none ↔ ∀ d ∈ rows, score d kv = 0

theorem bestMatch_none_iff_holds : bestMatch_none_iff := by
  intro rows kv
  rcases bestMatch_spec_holds rows kv with ⟨r, hfm, hb⟩ | ⟨hall, hb⟩
  · refine ⟨fun h => (by rw [hb] at h; cases h), fun hall => ?_⟩
    have := hall r hfm.mem
    have := hfm.pos
    omega
  · exact ⟨fun _ => hall, fun _ => hb⟩

/-- **C02.c** "the first row with maximal positive score" designates at most one position of the table -/
def first_max_unique : Prop :=
  ∀ (sc : Row → Nat) (rows pre₁ post₁ pre₂ post₂ : List Row) (r₁ r₂ : Row),
    rows = pre₁ ++ r₁ :: post₁ → (∀ p ∈ pre₁, sc p < sc r₁) → (∀ q ∈ post₁, sc q ≤ sc r₁) →
    rows = pre₂ ++ r₂ :: post₂ → (∀ p ∈ pre₂, sc p < sc r₂) → (∀ q ∈ post₂, sc q ≤ sc r₂) →
    pre₁ = pre₂ ∧ r₁ = r₂ ∧ post₁ = post₂

theorem first_max_unique_holds : first_max_unique := by
  intro sc rows pre₁ post₁ pre₂ post₂ r₁ r₂ e1 h1 h1' e2 h2 h2'
  -- if the second split is strictly to the right, `r₁` is before `r₂` and `r₂` after `r₁`
  have right : ∀ {pre₁ pre₂ post₁ post₂ : List Row} {r₁ r₂ : Row} (a : List Row), pre₂ = pre₁ ++ a →
      r₁ :: post₁ = a ++ r₂ :: post₂ → (∀ q ∈ post₁, sc q ≤ sc r₁) → (∀ p ∈ pre₂, sc p < sc r₂) →
      pre₁ = pre₂ ∧ r₁ = r₂ ∧ post₁ = post₂ := by
    intro pre₁ pre₂ post₁ post₂ r₁ r₂ a ha hb hpost hpre
    cases a with
    | nil =>
      cases hb
      exact ⟨by simp [ha], rfl, rfl⟩
    | cons x a =>
      cases hb
      have := hpre r₁ (by simp [ha])
      have := hpost r₂ (by simp)
      omega
  rcases List.append_eq_append_iff.mp (e1.symm.trans e2) with ⟨a, ha, hb⟩ | ⟨a, ha, hb⟩
  · exact right a ha hb h1' h2
  · obtain ⟨e1, e2, e3⟩ := right a ha hb h2' h1
    exact ⟨e1.symm, e2.symm, e3.symm⟩

/-- **C02.d** a compatible row exists ⇒ a form is found (`Compatible` does not mention scores) -/
def compatible_row_selected : Prop :=
  ∀ (rows : List Row) (kv : KeyVals), (∃ r ∈ rows, Compatible r kv) → bestMatch rows kv ≠ none

theorem compatible_row_selected_holds : compatible_row_selected := by
  intro rows kv ⟨r, hr, ⟨p, hp, w, hw, hag⟩, hall⟩ hnone
  have h0 := (bestMatch_none_iff_holds rows kv).mp hnone r hr
  rw [score, if_neg (not_peClash hall)] at h0
  -- the feature on which the row agrees contributes 2, or 1 for the wildcard
  have : 0 < (kv.map (entryScore r)).sum := by
    refine List.sum_pos_iff_exists_pos_nat.mpr ⟨entryScore r p, List.mem_map.mpr ⟨p, hp, rfl⟩, ?_⟩
    unfold entryScore
    rw [hw]
    rcases hag with h1 | ⟨h2, _⟩
    · simp [h1]
    · dsimp only
      split <;> omega
  omega

/-- **C02.e** when some row carries every requested feature with exactly the requested value, the selected row is
    such a row (the first one) -/
def exact_row_first : Prop :=
  ∀ (rows : List Row) (kv : KeyVals), kv ≠ [] → (∃ r ∈ rows, Exact r kv) →
    ∃ r, FirstMax (fun d => score d kv) rows r ∧ Exact r kv ∧ bestMatch rows kv = some r.val

theorem exact_row_first_holds : exact_row_first := by
  intro rows kv hne ⟨r0, hr0, hex⟩
  have h0 := (score_eq_max hne).mpr hex
  rcases bestMatch_spec_holds rows kv with ⟨r, hfm, hb⟩ | ⟨hall, _⟩
  · have := hfm.le r0 hr0
    have := score_le r kv
    exact ⟨r, hfm, (score_eq_max hne).mp (by omega), hb⟩
  · have := hall r0 hr0
    have : 0 < kv.length := List.length_pos_iff.mpr hne
    omega

/-! ### non-vacuity and tests of the bestMatch clauses (examples, not property theorems) -/

section Examples
private def rA : Row := ⟨"a".toList, [(.g, .str "m".toList), (.n, FV.x)]⟩
private def rB : Row := ⟨"b".toList, [(.g, .str "m".toList), (.n, .str "p".toList)]⟩
private def rC : Row := ⟨"c".toList, [(.g, .str "f".toList), (.n, .str "p".toList), (.pe, .int 2)]⟩
private def kv1 : KeyVals := [(.pe, .int 3), (.g, .str "m".toList), (.n, .str "p".toList)]
-- wildcard scores 1, exact 2; rC clashes on the person; the tie-free maximum is rB
example : score rA kv1 = 3 ∧ score rB kv1 = 4 ∧ score rC kv1 = 0 := by decide +kernel
example : bestMatch [rA, rB, rC] kv1 = some "b".toList := by decide +kernel
-- ties: the FIRST maximal row wins
example : bestMatch [rB, ⟨"b2".toList, rB.feats⟩] kv1 = some "b".toList := by decide +kernel
example : bestMatch [rC] kv1 = none := by decide +kernel
example : Compatible rA kv1 := by
  refine ⟨⟨(.g, .str "m".toList), by decide, .str "m".toList, by decide, Or.inl rfl⟩, ?_⟩
  decide
example : Exact rB [(.g, .str "m".toList), (.n, .str "p".toList)] := by decide +kernel
end Examples

/-- the values of `g` and `n` that `decline` computes for N, D, Pro -/
def reqG (t : Term) : FV := if (t.pos = .D ∨ t.pos = .N) ∧ t.getG = .none then FV.str ['m'] else t.getG
def reqN (t : Term) : FV := if (t.pos = .D ∨ t.pos = .N) ∧ t.getN = .none then FV.str ['s'] else t.getN

/-- **C02.f** for N, D, Pro: whenever `decline` returns, it returns either the bracketed lemma with at least one
    warning, or — one-row table — stem ++ that row's val, or stem ++ val of the FIRST row of MAXIMAL positive score
    for the request derived from the terminal (after a majestic substitution: the new lemma's stem and table) -/
def decline_stem_row : Prop :=
  ∀ (rules : Rules) (lex : Lex) (t : Term) (table : Table) (stem : Str) (setPerson : Bool) (out : Out),
    declineNDP rules lex t table stem setPerson = .ok out →
    (∃ t1 : Term, out.toks = [bracket t1.lemma] ∧ 0 < out.warns) ∨
    (∃ d, table.rows = [d] ∧ out.toks = [stem ++ d.val]) ∨
    (∃ t1 rows kv r st, prepareNDP rules lex t table (reqG t) (reqN t) setPerson = .ok (t1, rows, kv) ∧
        FirstMax (fun d => score d kv) rows r ∧ t1.stem = some st ∧ out.toks = [st ++ r.val])

theorem nounChecks_shape {lex : Lex} {t : Term} {g n : FV} {form : Str} {out : Out}
    (h : nounChecks lex t g n form = .ok out) :
    (out.toks = [bracket t.lemma] ∧ 0 < out.warns) ∨ out.toks = [form] := by
  unfold nounChecks at h
  repeat' split at h
  all_goals first
    | (simp only [Except.ok.injEq, pure, Except.pure] at h; subst h; simp [morphoOut])
    | cases h

/-- Terminal.py:271-276: the form found goes through the lexicon's checks when the terminal is a noun -/
def finish (lex : Lex) (t : Term) (g n : FV) (form : Str) : Except Crash Out :=
  if t.pos = .N then nounChecks lex t g n form else pure ⟨[form], t.warns⟩

theorem finish_shape {lex : Lex} {t : Term} {g n : FV} {form : Str} {out : Out} (h : finish lex t g n form = .ok out) :
    (out.toks = [bracket t.lemma] ∧ 0 < out.warns) ∨ out.toks = [form] := by
  unfold finish at h
  split at h
  · exact nounChecks_shape h
  · cases h; exact Or.inr rfl

/-- `declineNDP` read as a relation: a one-row table gives its row; otherwise the request is prepared, and the
    form is the stem of the prepared terminal followed by what `bestMatch` finds -/
theorem declineNDP_cases {rules : Rules} {lex : Lex} {t : Term} {table : Table} {stem : Str} {setPerson : Bool}
    {out : Out} (h : declineNDP rules lex t table stem setPerson = .ok out) :
    (∃ d, table.rows = [d] ∧ finish lex t (reqG t) (reqN t) (stem ++ d.val) = .ok out) ∨
    (∃ t1 rows kv, prepareNDP rules lex t table (reqG t) (reqN t) setPerson = .ok (t1, rows, kv) ∧
      match bestMatch rows kv with
      | none => out = ⟨[bracket t1.lemma], t1.warns + 2⟩
      | some e => ∃ st, t1.stem = some st ∧ finish lex t1 (reqG t) (reqN t) (st ++ e) = .ok out) := by
  unfold declineNDP at h
  dsimp only at h
  split at h
  · rename_i d hd
    exact Or.inl ⟨d, hd, h⟩
  · obtain ⟨⟨t1, rows, kv⟩, hprep, h⟩ := bind_eq_ok h
    refine Or.inr ⟨t1, rows, kv, hprep, ?_⟩
    dsimp only at h
    cases hb : bestMatch rows kv with
    | none => rw [hb] at h; cases h; rfl
    | some e =>
      rw [hb] at h
      dsimp only at h
      split at h
      · cases h
      · rename_i st hst
        exact ⟨st, hst, h⟩

theorem decline_stem_row_holds : decline_stem_row := by
  intro rules lex t table stem setPerson out h
  rcases declineNDP_cases h with ⟨d, hd, hf⟩ | ⟨t1, rows, kv, hp, hm⟩
  · rcases finish_shape hf with h1 | h1
    · exact Or.inl ⟨t, h1⟩
    · exact Or.inr (Or.inl ⟨d, hd, h1⟩)
  · rcases bestMatch_spec_holds rows kv with ⟨r, hfm, hb⟩ | ⟨_, hb⟩
    · rw [hb] at hm
      obtain ⟨st, hst, hf⟩ := hm
      rcases finish_shape hf with h1 | h1
      · exact Or.inl ⟨t1, h1⟩
      · exact Or.inr (Or.inr ⟨t1, rows, kv, r, st, hp, hfm, hst, h1⟩)
    · rw [hb] at hm
      exact Or.inl ⟨t1, by rw [hm], by rw [hm]; exact Nat.succ_pos _⟩

/-- **C02.g** English adjectives of table `a1`: `more` / `most` followed by the lemma -/
def adj_periphrase_en : Prop :=
  ∀ (rules : Rules) (lex : Lex) (t : Term) (table : Table) (stem : Str) (out : Out),
    declineAdjEn rules lex t "a1".toList table stem = .ok out →
    (t.pF = some (.str "co".toList) → out.toks = ["more".toList, t.lemma]) ∧
    (t.pF = some (.str "su".toList) → out.toks = ["most".toList, t.lemma])

theorem adj_periphrase_en_holds : adj_periphrase_en := by
  intro rules lex t table stem out h
  have key : ∀ f w, t.pF = some (.str f) → (if FV.str f = .str "co".toList then wMore else wMost) = w →
      out.toks = [normLemma w, t.lemma] := by
    intro f w hf hw
    unfold declineAdjEn at h
    rw [hf] at h
    simp only [if_true, hw] at h
    obtain ⟨comp, hcomp, h⟩ := bind_eq_ok h
    cases h
    rw [((mkTerm_returns rules lex .en .Adv w).1 comp hcomp).1.lemma]
  exact ⟨fun hf => key _ wMore hf rfl, fun hf => key _ wMost hf rfl⟩

/-- **C02.g'** English adverb "without comparative" (table `b1`) that is also an adjective: the comparative is looked
    up in the adjective's table, and the ending found is attached to the ADJECTIVE's stem (the adverb's stem — its
    lemma, `b1` having an empty ending — minus the ending of the adjective's table).
    (Refuted until /repo commit 0efe565: the ending was attached to the adverb's own stem, "earlyier".) -/
def comparative_stem_en : Prop :=
  ∀ (rules : Rules) (lex : Lex) (t : Term) (table : Table) (stem : Str) (out : Out)
    (info : LexEntry) (aentry : PosEntry) (atab : Str) (atable : Table) (f : Str) (e : Str),
    lookup t.lemma lex = some info → lookup "A".toList info = some aentry →
    lookup "tab".toList aentry = some (LV.str atab) → lookup atab rules = some atable →
    t.pF = some (.str f) → bestMatch atable.rows [(Feat.f, .str f)] = some e → stem = t.lemma →
    declineAdjEn rules lex t "b1".toList table stem = .ok out →
    out.toks = [dropRight t.lemma atable.ending.length ++ e]

theorem comparative_stem_en_holds : comparative_stem_en := by
  intro rules lex t table stem out info aentry atab atable f e h1 h2 h3 h4 hf hb hstem hd
  have hne : ("b1".toList = "a1".toList) = False := by decide
  simp only [declineAdjEn, hf, hne, if_false, adjRowsEn, if_true, h1, h2, h3, h4, bind, Except.bind, hb, pure,
    Except.pure, Except.ok.injEq] at hd
  subst hd hstem
  by_cases hlen : atable.ending.length > 0
  · simp [hlen]
  · have : atable.ending.length = 0 := by omega
    simp [this, dropRight]

/-- **C02.h** French adjectives: when a form exists, `.f("co")` yields the comparative proper — the realization of
    `A("meilleur")` / `A("pire")` in the same gender and number for `bon` / `mauvais`, else the realization of
    `Adv("plus")` followed by that of the adjective itself — and `.f("su")` the realization of `D("le")` in the same
    gender and number followed by the comparative -/
def adj_periphrase_fr : Prop :=
  (∀ (sub : Pos → Str → FV → FV → Except Crash (Str × Nat)) (t : Term) (table : Table) (stem : Str) (out : Out),
    declineAdjFr sub t table stem = .ok out →
    bestMatch table.rows [(Feat.g, t.getG), (Feat.n, t.getN)] ≠ none →
    (t.pF = some (.str "co".toList) → ∃ rs w, frComp sub t.lemma t.getG t.getN = .ok (rs, w) ∧ out.toks = rs) ∧
    (t.pF = some (.str "su".toList) →
      ∃ le w0 rs w, sub .D "le".toList t.getG t.getN = .ok (le, w0) ∧
        frComp sub t.lemma t.getG t.getN = .ok (rs, w) ∧ out.toks = le :: rs)) ∧
  (∀ (sub : Pos → Str → FV → FV → Except Crash (Str × Nat)) (lemma : Str) (g n : FV),
    (∀ r w, lemma = "bon".toList → sub .A "meilleur".toList g n = .ok (r, w) → frComp sub lemma g n = .ok ([r], w)) ∧
    (∀ r w, lemma = "mauvais".toList → sub .A "pire".toList g n = .ok (r, w) → frComp sub lemma g n = .ok ([r], w)) ∧
    (∀ r1 w1 r2 w2, lemma ≠ "bon".toList → lemma ≠ "mauvais".toList →
      sub .Adv "plus".toList g n = .ok (r1, w1) → sub .A lemma g n = .ok (r2, w2) →
      frComp sub lemma g n = .ok ([r1, r2], w1 + w2)))

theorem adj_periphrase_fr_holds : adj_periphrase_fr := by
  constructor
  · intro sub t table stem out h hbm
    unfold declineAdjFr at h
    cases hb : bestMatch table.rows [(Feat.g, t.getG), (Feat.n, t.getN)] with
    | none => exact absurd hb hbm
    | some e =>
      rw [hb] at h
      dsimp only at h
      constructor
      · intro hf
        simp only [hf, if_true] at h
        obtain ⟨⟨rs, w⟩, hc, h⟩ := bind_eq_ok h
        cases h
        exact ⟨rs, w, hc, rfl⟩
      · intro hf
        have hne : (FV.str "su".toList = FV.str "co".toList) = False := by decide
        simp only [hf, hne, if_false, if_true] at h
        obtain ⟨⟨le, w0⟩, h0, h⟩ := bind_eq_ok h
        obtain ⟨⟨rs, w⟩, hc, h⟩ := bind_eq_ok h
        cases h
        exact ⟨le, w0, rs, w, h0, hc, rfl⟩
  · intro sub lemma g n
    have special : ∀ sp r w, specialFrComp lemma = some sp → sub .A sp g n = .ok (r, w) →
        frComp sub lemma g n = .ok ([r], w) := by
      intro sp r w hsp hs
      simp only [frComp, hsp, bind, Except.bind, hs]
      rfl
    refine ⟨fun r w hl => special _ r w (by subst hl; decide), fun r w hl => special _ r w (by subst hl; decide), ?_⟩
    intro r1 w1 r2 w2 h1 h2 hs1 hs2
    have hs1' : sub .Adv wPlus g n = .ok (r1, w1) := hs1
    simp only [frComp, specialFrComp, if_neg h1, if_neg h2, bind, Except.bind, hs1', hs2]
    rfl

/-- `lexicon[lemma]["N"][key]` -/
def lexN (lex : Lex) (lemma key : Str) : Option LV :=
  match lexPos lex lemma "N".toList with
  | none => none
  | some e => lookup key e

theorem lexN_eq_some {lex : Lex} {l key : Str} {v : LV} (h : lexN lex l key = some v) :
    ∃ info e, lookup l lex = some info ∧ lookup "N".toList info = some e ∧ lookup key e = some v := by
  unfold lexN at h
  split at h
  · cases h
  · rename_i e he
    obtain ⟨info, h1, h2⟩ := lexPos_eq_some he
    exact ⟨info, e, h1, h2, h⟩

theorem prepareNDP_noun (rules : Rules) (lex : Lex) (t : Term) (table : Table) (g n : FV) (hN : t.pos = .N) :
    ∃ kv, prepareNDP rules lex t table g n false = .ok (t, table.rows, kv) := by
  unfold prepareNDP
  have h1 : reqPerson t false = .ok 3 := rfl
  have h2 : ∀ pe, majesticStep rules lex t table pe n = .ok (t, table.rows) := by
    intro pe; unfold majesticStep; simp [hN, pure, Except.pure]
  simp only [bind, Except.bind, h1, h2, hN]
  exact ⟨_, rfl⟩

/-- for a noun, `decline` ends in the lexicon's checks (on the noun itself: nothing is majestic about a noun)
    unless no row matched -/
theorem declineNDP_noun {rules : Rules} {lex : Lex} {t : Term} {table : Table} {stem : Str} {out : Out}
    (hN : t.pos = .N) (h : declineNDP rules lex t table stem false = .ok out) :
    out = ⟨[bracket t.lemma], t.warns + 2⟩ ∨ ∃ form, nounChecks lex t (reqG t) (reqN t) form = .ok out := by
  rcases declineNDP_cases h with ⟨d, _, hf⟩ | ⟨t1, rows, kv, hp, hm⟩
  · rw [finish, if_pos hN] at hf
    exact Or.inr ⟨_, hf⟩
  · obtain ⟨_, hp'⟩ := prepareNDP_noun rules lex t table (reqG t) (reqN t) hN
    rw [hp'] at hp
    cases hp
    cases hb : bestMatch table.rows _ with
    | none => rw [hb] at hm; exact Or.inl hm
    | some e =>
      rw [hb] at hm
      obtain ⟨st, _, hf⟩ := hm
      rw [finish, if_pos hN] at hf
      exact Or.inr ⟨_, hf⟩

/-- **C02.i** English: the plural of a noun the lexicon marks uncountable (`cnt = "no"`) is the bracketed lemma with
    a warning, whatever the table says -/
def veto_uncountable : Prop :=
  ∀ (rules : Rules) (lex : Lex) (t : Term) (table : Table) (stem : Str) (out : Out),
    t.lang = .en → t.pos = .N → t.getN = .str ['p'] → lexN lex t.lemma "cnt".toList = some (.str "no".toList) →
    declineNDP rules lex t table stem false = .ok out →
    out.toks = [bracket t.lemma] ∧ 0 < out.warns

theorem nounChecks_uncountable (lex : Lex) (t : Term) (g : FV) (form : Str) (out : Out)
    (hen : t.lang = .en) (hc : lexN lex t.lemma "cnt".toList = some (.str "no".toList))
    (h : nounChecks lex t g (.str ['p']) form = .ok out) : out = morphoOut t := by
  obtain ⟨info, e, h1, h2, h3⟩ := lexN_eq_some hc
  simp only [nounChecks, hen, h1, h2, h3, if_true, pure, Except.pure, Except.ok.injEq] at h
  exact h.symm

theorem veto_uncountable_holds : veto_uncountable := by
  intro rules lex t table stem out hen hN hn hc h
  have hreqN : reqN t = .str ['p'] := by unfold reqN; rw [hn]; simp
  rcases declineNDP_noun hN h with rfl | ⟨form, hf⟩
  · exact ⟨rfl, Nat.succ_pos _⟩
  · rw [hreqN] at hf
    rw [nounChecks_uncountable lex t _ _ out hen hc hf]
    exact ⟨rfl, Nat.succ_pos _⟩

/-- **C02.j** French: a noun asked in a gender that contradicts the lexicon (which does not say `x`), or whose entry
    has no gender, is the bracketed lemma with a warning -/
def veto_gender : Prop :=
  ∀ (rules : Rules) (lex : Lex) (t : Term) (table : Table) (stem : Str) (out : Out),
    t.lang = .fr → t.pos = .N →
    ((∃ e, lexPos lex t.lemma "N".toList = some e ∧ lookup "g".toList e = none) ∨
     (∃ lg, lexN lex t.lemma "g".toList = some lg ∧ lg.toFV ≠ FV.x ∧ lg.toFV ≠ reqG t)) →
    declineNDP rules lex t table stem false = .ok out →
    out.toks = [bracket t.lemma] ∧ 0 < out.warns

theorem nounChecks_gender (lex : Lex) (t : Term) (g n : FV) (form : Str) (out : Out)
    (hfr : t.lang = .fr)
    (hc : (∃ e, lexPos lex t.lemma "N".toList = some e ∧ lookup "g".toList e = none) ∨
          (∃ lg, lexN lex t.lemma "g".toList = some lg ∧ lg.toFV ≠ FV.x ∧ lg.toFV ≠ g))
    (h : nounChecks lex t g n form = .ok out) : out = morphoOut t := by
  rcases hc with ⟨e, he, hg⟩ | ⟨lg, hlg, hx, hgne⟩
  · obtain ⟨info, h1, h2⟩ := lexPos_eq_some he
    simp only [nounChecks, hfr, h1, h2, hg, pure, Except.pure, Except.ok.injEq] at h
    exact h.symm
  · obtain ⟨info, e, h1, h2, h3⟩ := lexN_eq_some hlg
    simp only [nounChecks, hfr, h1, h2, h3, hx, hgne, ne_eq, not_false_eq_true, and_self, if_true, pure, Except.pure,
      Except.ok.injEq] at h
    exact h.symm
theorem veto_gender_holds : veto_gender := by
  intro rules lex t table stem out hfr hN hc h
  rcases declineNDP_noun hN h with rfl | ⟨form, hf⟩
  · exact ⟨rfl, Nat.succ_pos _⟩
  · rw [nounChecks_gender lex t _ _ _ out hfr hc hf]
    exact ⟨rfl, Nat.succ_pos _⟩

def rulesOf : Lang → Rules
  | .en => Gen.DeclEn.tables
  | .fr => Gen.DeclFr.tables

def lexOf : Lang → Lex
  | .en => Gen.DocCells.lexEn
  | .fr => Gen.DocCells.lexFr

/-- **C02.k** every cell of the pronoun / possessive tables of docs/documentation.html: realizing the documented
    expression on the shipped rule tables yields the documented form -/
def doc_cells_tbl : Prop :=
  ∀ c ∈ Gen.DocCells.docCells,
    realizeText (rulesOf c.spec.lang) (lexOf c.spec.lang) c.spec = .ok c.form

/-- form of `pos(lemma)` with the given options on the shipped tables, with the generated panel of lexicon entries -/
def shipped (lang : Lang) (pos : Pos) (lemma : String) (opts : List (String × String)) : Except Crash Str :=
  realizeText (rulesOf lang) (lexOf lang) ⟨lang, pos, lemma.toList, opts.map (fun o => (o.1.toList, OV.str o.2.toList))⟩

/-- **C02.l** the documented periphrases and vetoes on the shipped tables and lexicon entries -/
def periphrase_tbl : Prop :=
  shipped .en .A "beautiful" [("f", "co")] = .ok "more beautiful".toList ∧
  shipped .en .A "beautiful" [("f", "su")] = .ok "most beautiful".toList ∧
  shipped .en .A "good" [("f", "co")] = .ok "better".toList ∧
  shipped .en .A "bad" [("f", "su")] = .ok "worst".toList ∧
  shipped .en .A "big" [("f", "co")] = .ok "bigger".toList ∧
  shipped .en .Adv "well" [("f", "su")] = .ok "best".toList ∧
  shipped .en .Adv "fast" [("f", "co")] = .ok "faster".toList ∧
  shipped .en .Adv "early" [("f", "co")] = .ok "earlier".toList ∧
  shipped .en .Adv "early" [("f", "su")] = .ok "earliest".toList ∧
  shipped .en .N "information" [("n", "p")] = .ok "[[information]]".toList ∧
  shipped .en .N "ox" [("n", "p")] = .ok "oxen".toList ∧
  shipped .fr .A "grand" [("f", "co")] = .ok "plus grand".toList ∧
  shipped .fr .A "grand" [("f", "su"), ("g", "f"), ("n", "p")] = .ok "les plus grandes".toList ∧
  shipped .fr .A "bon" [("f", "co"), ("g", "f")] = .ok "meilleure".toList ∧
  shipped .fr .A "bon" [("f", "su"), ("g", "f")] = .ok "la meilleure".toList ∧
  shipped .fr .A "mauvais" [("f", "co")] = .ok "pire".toList ∧
  shipped .fr .A "mauvais" [("f", "su"), ("n", "p")] = .ok "les pires".toList ∧
  shipped .fr .N "table" [("g", "m")] = .ok "[[table]]".toList ∧
  shipped .fr .N "cheval" [("n", "p")] = .ok "chevaux".toList ∧
  shipped .fr .N "élève" [("g", "f"), ("n", "p")] = .ok "élèves".toList

/-- **C02.m** the shipped declension tables are well formed (non-empty; `pe` in every row when in the first) -/
def wf_rules_tbl : Prop := WFRules Gen.DeclEn.tables ∧ WFRules Gen.DeclFr.tables

instance : Decidable doc_cells_tbl := by unfold doc_cells_tbl; infer_instance
instance : Decidable periphrase_tbl := by unfold periphrase_tbl; infer_instance
instance : Decidable wf_rules_tbl := by unfold wf_rules_tbl; infer_instance

/-- Everything that is a finite fact about the shipped tables and the generated panel of lexicon entries, evaluated
    together: the kernel then decodes every table id and walks to every table only once. The last five conjuncts
    are the tests and non-vacuity witnesses stated as examples at the end of the file. -/
theorem shipped_facts :
    doc_cells_tbl ∧ periphrase_tbl ∧ wf_rules_tbl ∧
    (match mkTerm (rulesOf .fr) (lexOf .fr) .fr .Pro "moi".toList with
     | .ok t0 => usableB (rulesOf .fr) (lexOf .fr) t0
     | .error _ => false) = true ∧
    lexN (lexOf .en) "information".toList "cnt".toList = some (.str "no".toList) ∧
    lexN (lexOf .fr) "table".toList "g".toList = some (.str "f".toList) ∧
    shipped .fr .Pro "moi" [("c", "nom")] = .ok "je".toList ∧
    shipped .en .Pro "me" [("tn", "refl")] = .ok "itself".toList := by
  decide +kernel

theorem doc_cells_tbl_holds : doc_cells_tbl := shipped_facts.1

theorem periphrase_tbl_holds : periphrase_tbl := shipped_facts.2.1

theorem wf_rules_tbl_holds : wf_rules_tbl := shipped_facts.2.2.1

/-- **C02.n** on well-formed tables the constructor of a declinable terminal never raises, whatever the lemma and
    the lexicon -/
def ctor_total : Prop :=
  ∀ (rules : Rules) (lex : Lex) (lang : Lang) (pos : Pos) (lemma : Str), WFRules rules →
    ∀ c, mkTerm rules lex lang pos lemma ≠ .error c

theorem ctor_total_holds : ctor_total :=
  fun rules lex lang pos l hw => ((mkTerm_returns rules lex lang pos l).ok hw).ne_error

/-- **C02.o'** the executable check swept by the driver over every real lexicon entry implies `Usable` -/
def usable_sound : Prop :=
  ∀ (rules : Rules) (lex : Lex) (t : Term), usableB rules lex t = true → Usable rules lex t

theorem usable_sound_holds : usable_sound := by
  intro rules lex t h
  unfold usableB at h
  simp only [Bool.and_eq_true, Bool.or_eq_true, decide_eq_true_eq, Bool.not_eq_true'] at h
  obtain ⟨⟨⟨h1, h2⟩, h3⟩, h4⟩ := h
  refine ⟨?_, peVal_of_peValB h2, ?_, ?_⟩
  · intro htab hpos hreal
    simp [htab, hpos, hreal] at h1
  · intro hen hN e he hn
    rcases h3 with h3 | h3
    · simp [hen, hN] at h3
    · rw [he] at h3
      dsimp only at h3
      rw [hn] at h3
      cases h3
  · intro hen hA e he
    rcases h4 with h4 | h4
    · simp [hen, hA] at h4
    · simp only [he] at h4
      split at h4
      · rename_i atab hatab
        cases hl : lookup atab rules with
        | none => rw [hl] at h4; cases h4
        | some atable => exact ⟨atab, atable, hatab, hl⟩
      · cases h4

/-- **C02.o** realization never raises: well-formed tables; a usable lexicon entry (`Usable`, evaluated on every real
    entry by the driver); option calls in the value domain of the model (no `.maje()`); and — French comparative — the
    auxiliary terminals `A(meilleur|pire|lemma)`, `Adv("plus")`, `D("le")` themselves realizable -/
def decl_total : Prop :=
  ∀ (rules : Rules) (lex : Lex) (sp : Spec) (t0 : Term),
    WFRules rules → mkTerm rules lex sp.lang sp.pos sp.lemma = .ok t0 → Usable rules lex t0 → ValidOpts sp.opts →
    (sp.lang = .fr → ∀ p l g n c, subFr rules lex p l g n ≠ .error c) →
    ∀ c, realize rules lex sp ≠ .error c

theorem decl_total_holds : decl_total := by
  intro rules lex sp t0 hw hmk hus hvo hsub
  obtain ⟨hsame, hinv, hlink⟩ := (mkTerm_returns rules lex sp.lang sp.pos sp.lemma).1 t0 hmk
  refine Ok.ne_error (Q := fun _ => True) (.bind (Q := (t0 = ·)) ⟨t0, hmk, rfl⟩ ?_)
  rintro _ rfl
  refine .bind (applyOpts_spec sp.opts t0 hvo hus.2.1) ?_
  rintro t1 ⟨hk, hpe⟩
  have hus1 : Usable rules lex t1 := by
    refine ⟨?_, hpe, ?_, ?_⟩
    · rw [hk.tab, hk.pos, hk.real]; exact hus.1
    · rw [hk.lang, hk.pos, hk.lemma]; exact hus.2.2.1
    · rw [hk.lang, hk.pos, hk.lemma]; exact hus.2.2.2
  have hlink1 : Linked lex t1 := by
    unfold Linked; rw [hk.tab, hk.lemma, hk.pos]; exact hlink
  exact realGen_total (subFr rules lex) rules lex t1 hw (tabInv_of_eq hinv hk.tab hk.stem) hus1
    (hk.maje.trans hsame.maje) hlink1 (fun hfr p l g n => .of_ne_error (hsub ((hk.lang.trans hsame.lang).symm.trans hfr) p l g n))

/-! ### non-vacuity of the hypotheses of the declension clauses (examples) -/

section Examples2
-- a well-formed, usable request exists: the shipped tables, `Pro("moi")`, valid options
example : WFRules (rulesOf .fr) := wf_rules_tbl_holds.2
example : (match mkTerm (rulesOf .fr) (lexOf .fr) .fr .Pro "moi".toList with
           | .ok t0 => usableB (rulesOf .fr) (lexOf .fr) t0
           | .error _ => false) = true := shipped_facts.2.2.2.1
example : ValidOpts [("c".toList, OV.str "nom".toList), ("pe".toList, OV.int 2)] := by
  intro o ho
  simp only [List.mem_cons, List.not_mem_nil, or_false] at ho
  rcases ho with rfl | rfl <;> exact ⟨by decide, by intro b h; cases h⟩
-- the vetoes' hypotheses are satisfiable on the shipped data
example : lexN (lexOf .en) "information".toList "cnt".toList = some (.str "no".toList) := shipped_facts.2.2.2.2.1
example : lexN (lexOf .fr) "table".toList "g".toList = some (.str "f".toList) := shipped_facts.2.2.2.2.2.1
-- tests (not property theorems): the moi/me special case and a wildcard row
example : shipped .fr .Pro "moi" [("c", "nom")] = .ok "je".toList := shipped_facts.2.2.2.2.2.2.1
example : shipped .en .Pro "me" [("tn", "refl")] = .ok "itself".toList := shipped_facts.2.2.2.2.2.2.2
end Examples2

end Pyrealb.C02
