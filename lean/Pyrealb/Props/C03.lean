import Pyrealb.Lemmas.AgreeS
import Pyrealb.Lemmas.AgreeDep
/-! # C03 — agreement: dependents take the forms the controller's features dictate

Property theorems only.  Model: the store of `Model/Heap*` (shared person-number-gender records with identity),
`plan`/`exec` = one `linkProperties` run, mirrored branch for branch from Phrase.py / PhraseEn.py / PhraseFr.py /
Dependent.py.  Specification: `Model/AgreeSpec` — WHICH nodes must share WHOSE record, as functions of the tree only.

Every theorem quantifies over ALL stores `h` (hence over all child lists, of any length, and all contents of the
records) — nothing is bounded.  `plan h p = some acts` restricts to the modelled fragment (`none` = a Dependent inside a Phrase, and
`setPengRecursive`). -/
namespace Pyrealb.C03
open Pyrealb Pyrealb.Heap Pyrealb.Agree Pyrealb.GetElems

/-! ## (i) link structure -/

/-- **np_link.**  After `linkProperties` of a noun phrase whose head (the first N/NP child, skipping a possessive N:
    `npHeadIndex`) holds the record `r`: the phrase, the head and every node of the declarative agreement class
    `npDeps` (determiners, adjectives, French participles, adjective coordinations and phrases, the verb of a subject
    relative clause and its French attributes, `lequel/auquel/duquel`) hold `r`; every other slot is unchanged or holds
    `r` (nothing is linked to anything else). -/
def np_link : Prop :=
  ∀ (h h' : Heap) (p : Nat) (acts : List Act) (hd r : Nat),
    h.kind p = .NP → plan h p = some acts → exec h acts = .ok h' →
    (h.kids p)[npHeadIndex h p]? = some hd → h.peng hd = some r →
    h'.peng p = some r ∧ h'.peng hd = some r ∧ (∀ d ∈ npDeps h p, h'.peng d = some r) ∧
    (∀ x, x ≠ p → h'.peng x = h.peng x ∨ h'.peng x = some r)

theorem plan_phrase (h : Heap) (p : Nat) (acts : List Act) (hp : plan h p = some acts)
    (hph : (h.kind p).isPhrase = true) (hne : h.kids p ≠ []) :
    (h.kind p = .NP → planNP h p = some acts) ∧ (h.kind p = .S ∨ h.kind p = .SP → planS h p = some acts) := by
  unfold plan at hp
  rw [if_pos hph] at hp
  unfold planPhrase at hp
  dsimp only at hp
  rw [if_neg (by simpa using hne)] at hp
  have := (ite_none_eq_some hp).2
  exact ⟨fun hk => by rwa [hk] at this, fun hk => by rcases hk with hk | hk <;> rwa [hk] at this⟩

theorem plan_NP (h : Heap) (p : Nat) (acts : List Act) (hk : h.kind p = .NP) (hp : plan h p = some acts)
    {i hd : Nat} (hhd : (h.kids p)[i]? = some hd) : planNP h p = some acts :=
  (plan_phrase h p acts hp (by rw [hk]; rfl) (by intro he; rw [he] at hhd; cases hhd)).1 hk

theorem link_of_map {h h' : Heap} {p c r : Nat} {D : List Nat} (hr : h.peng c = some r)
    (hl : ∀ x, h'.peng x = if x = p ∨ x ∈ D then some r else h.peng x) :
    h'.peng p = some r ∧ h'.peng c = some r ∧ (∀ d ∈ D, h'.peng d = some r) ∧
    (∀ x, h'.peng x = h.peng x ∨ h'.peng x = some r) := by
  refine ⟨?_, ?_, fun d hd => ?_, fun x => ?_⟩
  · rw [hl p, if_pos (.inl rfl)]
  · rw [hl c]; split <;> first | rfl | exact hr
  · rw [hl d, if_pos (.inr hd)]
  · rw [hl x]; split <;> first | exact .inr rfl | exact .inl rfl

theorem np_link_holds : np_link := by
  intro h h' p acts hd r hk hp hex hhd hr
  obtain ⟨a, b, c, d⟩ := link_of_map hr (planNP_link h p acts h' hd r (plan_NP h p acts hk hp hhd) hex hhd hr).1
  exact ⟨a, b, c, fun x _ => d x⟩

/-- the head of a noun phrase without possessive noun is its FIRST N/NP child (sanity of `npHeadIndex`) -/
theorem np_head_first (h : Heap) (p i : Nat) (hi : h.getIndex p [.NP, .N] = some i)
    (hnp : ∀ e, (h.kids p)[i]? = some e → ¬ (h.kind e = .N ∧ (h.getProp e possKey).truthy = true)) :
    npHeadIndex h p = i := by
  unfold npHeadIndex
  simp only [hi, Option.getD_some]
  cases he : (h.kids p)[i]? with
  | none => rfl
  | some e0 =>
    simp only []
    have := hnp e0 he
    split
    · next hc =>
      exfalso; apply this
      simp only [Bool.and_eq_true, decide_eq_true_eq] at hc
      exact hc
    · rfl

/-- **s_link.**  After `linkProperties` of a clause (S/SP) whose subject (`sSubject`: first NP/N/CP/Pro child, with
    the relative-pronoun exceptions; none for an imperative) holds the record `r`: the clause and every node of `sDeps`
    (the verb and its VP, or the verbs of coordinated VPs; in French the attributes and past participles after
    être/paraître/sembler/devenir/rester) hold `r`; every other slot is unchanged or holds `r`. -/
def s_link : Prop :=
  ∀ (h h' : Heap) (p : Nat) (acts : List Act) (subj r : Nat),
    (h.kind p = .S ∨ h.kind p = .SP) → plan h p = some acts → exec h acts = .ok h' →
    sSubject h p = some subj → h.peng subj = some r →
    h'.peng p = some r ∧ h'.peng subj = some r ∧ (∀ d ∈ sDeps h p subj, h'.peng d = some r) ∧
    (∀ x, h'.peng x = h.peng x ∨ h'.peng x = some r)

theorem sSubject_kids_ne (h : Heap) (p subj : Nat) (hs : sSubject h p = some subj) : h.kids p ≠ [] := by
  intro he
  have hgi : h.getIndex p subjKinds = none := by
    unfold Heap.getIndex
    rw [he]
    rfl
  unfold sSubject at hs
  rw [hgi] at hs
  cases (ite_none_eq_some hs).2

theorem s_link_holds : s_link := by
  intro h h' p acts subj r hk hp hex hs hr
  have hplan := (plan_phrase h p acts hp (by rcases hk with hk | hk <;> rw [hk] <;> rfl)
    (sSubject_kids_ne h p subj hs)).2 hk
  exact link_of_map hr (planS_link h p acts h' subj r hplan hex hs hr)

theorem linked_of {h : Heap} {c d r : Nat} (hc : h.peng c = some r) (hd : h.peng d = some r) : Linked h c d :=
  ⟨hd.trans hc.symm, by rw [hc]; rfl⟩

/-- after the link run every node of the agreement class of a noun phrase is `Linked` to the head (the hypothesis of
    `controller_update_propagates`) -/
theorem np_link_linked (h h' : Heap) (p : Nat) (acts : List Act) (hd r : Nat)
    (hk : h.kind p = .NP) (hp : plan h p = some acts) (hex : exec h acts = .ok h')
    (hhd : (h.kids p)[npHeadIndex h p]? = some hd) (hr : h.peng hd = some r) :
    Linked h' hd p ∧ ∀ d ∈ npDeps h p, Linked h' hd d := by
  obtain ⟨a, b, c, _⟩ := np_link_holds h h' p acts hd r hk hp hex hhd hr
  exact ⟨linked_of b a, fun d hd' => linked_of b (c d hd')⟩

theorem s_link_linked (h h' : Heap) (p : Nat) (acts : List Act) (subj r : Nat)
    (hk : h.kind p = .S ∨ h.kind p = .SP) (hp : plan h p = some acts) (hex : exec h acts = .ok h')
    (hs : sSubject h p = some subj) (hr : h.peng subj = some r) :
    ∀ d ∈ sDeps h p subj, Linked h' subj d := by
  obtain ⟨_, b, c, _⟩ := s_link_holds h h' p acts subj r hk hp hex hs hr
  exact fun d hd' => linked_of b (c d hd')

/-- **dep_link.**  After `linkProperties` of a dependency node (root, subj, det, mod, comp) whose dependents form a tree
    (`DepTree`: distinct dependents, disjoint sub-trees), for every list of dependents: each goal of the declarative
    specification `depGoals` holds — a determiner, an adjective, a participle, the verb of a subject relative and a
    coordination of subjects hold the record of the node; a French attribute of a copula holds the record of the subject
    dependent; the verb holds the record of the LAST subject dependent.  ("the record of `src`" = the one `src` held
    before the run: a source is never re-pointed by the run.) -/
def dep_link : Prop :=
  ∀ (h h' : Heap) (p ht : Nat) (acts : List Act),
    (h.kind p).isDep = true → h.kind p ≠ .coord → (h.node p).term = some ht →
    plan h p = some acts → exec h acts = .ok h' → DepTree h p ht →
    ∀ g ∈ depGoals h p, ∀ r, h.peng g.src = some r → h'.peng g.node = some r

theorem Kind.not_dep_and_phrase (k : Kind) : (k.isDep && k.isPhrase) = false := by cases k <;> rfl

theorem plan_Dep (h : Heap) (p : Nat) (acts : List Act) (hk : (h.kind p).isDep = true)
    (hp : plan h p = some acts) : planDep h p = some acts := by
  unfold plan at hp
  have hnp : ¬ (h.kind p).isPhrase = true := fun hph => by
    have := Kind.not_dep_and_phrase (h.kind p)
    rw [hk, hph] at this
    cases this
  rwa [if_neg hnp, if_pos hk] at hp

theorem dep_link_holds : dep_link := by
  intro h h' p ht acts hk hnc hterm hp hex tree
  exact planDep_link h p ht acts h' hterm hnc (plan_Dep h p acts hk hp) hex tree

/-! ## (ii) the read rule -/

/-- **getProp_local_wins.**  A feature set explicitly on a word (`setProp`, i.e. any option `.n() .g() .pe()`) is what
    `getProp` returns for it, whatever is written afterwards — through ANY other node — into the record it shares. -/
def getProp_local_wins : Prop :=
  ∀ (h : Heap) (x c : Nat) (k k' : Str) (v v' : Val), x ≠ c →
    (h.setProp x k v).getProp x k = v ∧ ((h.setProp x k v).setProp c k' v').getProp x k = v

theorem getProp_of_local (h : Heap) (x : Nat) (k : Str) (v : Val) (hl : lookup k (h.node x).props = some v) :
    h.getProp x k = v := by
  simp [Heap.getProp, hl]

theorem lookup_set_same (d : Dict) (k : Str) (v : Val) : lookup k (Dict.set d k v) = some v := by
  induction d with
  | nil => simp [Dict.set, lookup]
  | cons kv r ih =>
    obtain ⟨k', v'⟩ := kv
    simp only [Dict.set]
    split
    · simp [lookup]
    · next hne => simp [lookup, hne, ih]

theorem lookup_set_other (d : Dict) (k k' : Str) (v : Val) (hk : k' ≠ k) :
    lookup k' (Dict.set d k v) = lookup k' d := by
  induction d with
  | nil => simp [Dict.set, lookup, Ne.symm hk]
  | cons kv r ih =>
    obtain ⟨k1, v1⟩ := kv
    simp only [Dict.set]
    split
    · next he => subst he; simp [lookup, Ne.symm hk]
    · simp [lookup, ih]

theorem writePeng_frame (h : Heap) (x : Nat) (k : Str) (v : Val) :
    (h.writePeng x k v).node = h.node ∧ (h.writePeng x k v).peng = h.peng := by
  unfold Heap.writePeng
  split
  · split <;> exact ⟨rfl, rfl⟩
  · exact ⟨rfl, rfl⟩

theorem writeTaux_frame (h : Heap) (x : Nat) (k : Str) (v : Val) :
    (h.writeTaux x k v).node = h.node ∧ (h.writeTaux x k v).peng = h.peng ∧ (h.writeTaux x k v).prec = h.prec := by
  unfold Heap.writeTaux
  split
  · split <;> exact ⟨rfl, rfl, rfl⟩
  · exact ⟨rfl, rfl, rfl⟩

theorem setProp_node_self (h : Heap) (x : Nat) (k : Str) (v : Val) :
    ((h.setProp x k v).node x).props = Dict.set (h.node x).props k v := by
  unfold Heap.setProp
  simp only [Heap.setNode, upd_same, (writeTaux_frame ..).1, (writePeng_frame ..).1]

theorem setProp_node_other (h : Heap) (x y : Nat) (k : Str) (v : Val) (hy : y ≠ x) :
    (h.setProp x k v).node y = h.node y := by
  unfold Heap.setProp
  simp only [Heap.setNode, upd_other _ _ _ _ hy, (writeTaux_frame ..).1, (writePeng_frame ..).1]

theorem setProp_peng (h : Heap) (x : Nat) (k : Str) (v : Val) : (h.setProp x k v).peng = h.peng := by
  unfold Heap.setProp
  simp only [Heap.setNode, (writeTaux_frame ..).2.1, (writePeng_frame ..).2]

theorem getProp_local_wins_holds : getProp_local_wins := by
  intro h x c k k' v v' hxc
  constructor
  · apply getProp_of_local
    rw [setProp_node_self]
    exact lookup_set_same _ _ _
  · apply getProp_of_local
    rw [setProp_node_other _ _ _ _ _ hxc, setProp_node_self]
    exact lookup_set_same _ _ _

/-! ## (iii) a change of the controller reaches every dependent -/

/-- **controller_update_propagates.**  If `d` shares the record of `c` and has no own value for the feature `k`
    (person, number or gender), then after `c.setProp(k, v)` the dependent reads `v` — and is still linked. -/
def controller_update_propagates : Prop :=
  ∀ (h : Heap) (c d : Nat) (k : Str) (v : Val), Linked h c d → isPengKey k = true → d ≠ c →
    lookup k (h.node d).props = none →
    (h.setProp c k v).getProp d k = v ∧ (h.setProp c k v).getProp c k = v ∧ Linked (h.setProp c k v) c d

theorem isPengKey_iff (k : Str) : isPengKey k = true ↔ k = Heap.peKey ∨ k = Heap.nKey ∨ k = Heap.gKey := by
  simp [isPengKey, or_assoc]

theorem setProp_prec (h : Heap) (c r : Nat) (k : Str) (v : Val) (hk : isPengKey k = true) (hc : h.peng c = some r) :
    ((h.setProp c k v).prec r) =
      (if k = Heap.peKey then { h.prec r with pe := some v } else if k = Heap.nKey then { h.prec r with n := some v }
       else { h.prec r with g := some v }) := by
  have hk' := (isPengKey_iff k).mp hk
  unfold Heap.setProp
  simp only [Heap.setNode, (writeTaux_frame ..).2.2]
  unfold Heap.writePeng
  simp only [hk', if_true, hc, upd_same]

theorem controller_update_propagates_holds : controller_update_propagates := by
  intro h c d k v ⟨hl, hs⟩ hk hdc hloc
  obtain ⟨r, hr⟩ := Option.isSome_iff_exists.mp hs
  have hk' := (isPengKey_iff k).mp hk
  refine ⟨?_, ?_, ?_⟩
  · unfold Heap.getProp
    rw [setProp_node_other _ _ _ _ _ hdc, hloc]
    simp only [hk', if_true, setProp_peng, hl, hr]
    rw [setProp_prec h c r k v hk hr]
    rcases hk' with rfl | rfl | rfl
    · simp
    · have : Heap.nKey ≠ Heap.peKey := by decide
      simp [this]
    · have h1 : Heap.gKey ≠ Heap.peKey := by decide
      have h2 : Heap.gKey ≠ Heap.nKey := by decide
      simp [h1, h2]
  · apply getProp_of_local
    rw [setProp_node_self]
    exact lookup_set_same _ _ _
  · constructor
    · rw [setProp_peng]; exact hl
    · rw [setProp_peng]; exact hs

/-- **dependents_read_controller** (full strength): a linked dependent without own value reads the SAME value as its
    controller.  False of the code: the controller's own value and the shared record can disagree. -/
def dependents_read_controller : Prop :=
  ∀ (h : Heap) (c d : Nat) (k : Str), Linked h c d → isPengKey k = true →
    lookup k (h.node d).props = none → h.getProp d k = h.getProp c k

/-- witness: `NP(D("le"), N("chat").n("s")).n("p")` — handles D=0, N=1, NP=2; the record 0 is shared by the three; the
    noun keeps its own `n = "s"`, the later `.n("p")` on the phrase is written into the shared record -/
def witnessDesync : Heap :=
  { n := 3
    node := fun i =>
      if i = 0 then { kind := .D, lang := .fr, lemma := s "le" }
      else if i = 1 then { kind := .N, lang := .fr, lemma := s "chat", props := [(Heap.nKey, .s ['s'])] }
      else { kind := .NP, lang := .fr, kids := [0, 1], props := [(Heap.nKey, .s ['p'])] }
    peng := fun _ => some 0
    prec := fun _ => { pe := some (.i 3), n := some (.s ['p']), g := some (.s ['m']) }
    nRec := 1 }

theorem dependents_read_controller_refuted : ¬ dependents_read_controller := by
  intro hp
  have := hp witnessDesync 1 0 Heap.nKey ⟨rfl, rfl⟩ (by decide) (by decide)
  revert this
  decide

/-- the same clause for REACHABLE stores only (histories of constructor / add / option calls from the empty store) -/
def dependents_read_controller_reachable : Prop :=
  ∀ (ops : List Op) (h : Heap), runOps {} ops = .ok h →
    ∀ (c d : Nat) (k : Str), Linked h c d → isPengKey k = true →
      lookup k (h.node d).props = none → h.getProp d k = h.getProp c k

/-- the history `NP(D("le"), N("chat").n("s")).n("p")` (replayed on the real code by the harness: "les chat") -/
def witnessOps : List Op := [
  .mkT { kind := .D, lang := .fr, lemma := s "le", pe := .i 3, n := .s ['s'], g := .s ['m'] },
  .mkT { kind := .N, lang := .fr, lemma := s "chat", pe := .i 3, n := .s ['s'], g := .s ['m'] },
  .opt 1 (s "n") (.s ['s']),
  .mkP .NP .fr [.item (.node 0), .item (.node 1)],
  .opt 2 (s "n") (.s ['p'])]

def witnessRun : Option (Val × Val × Bool × Bool × Bool) :=
  match runOps {} witnessOps with
  | .ok h => some (h.getProp 0 Heap.nKey, h.getProp 1 Heap.nKey, h.peng 0 == h.peng 1, (h.peng 1).isSome,
                   (lookup Heap.nKey (h.node 0).props).isNone)
  | _ => none

theorem witnessRun_eq : witnessRun = some (.s ['p'], .s ['s'], true, true, true) := by decide +kernel

theorem dependents_read_controller_reachable_refuted : ¬ dependents_read_controller_reachable := by
  intro hp
  have hw := witnessRun_eq
  unfold witnessRun at hw
  cases hrun : runOps {} witnessOps with
  | ok h =>
    rw [hrun] at hw
    simp only [Option.some.injEq, Prod.mk.injEq] at hw
    obtain ⟨h0, h1, hpe, hsome, hnone⟩ := hw
    have hlink : Linked h 1 0 := ⟨by simpa using hpe, hsome⟩
    have := hp witnessOps h hrun 1 0 Heap.nKey hlink (by decide) (by simpa using hnone)
    rw [h0, h1] at this
    exact absurd this (by decide)
  | crash c => rw [hrun] at hw; simp at hw
  | outside => rw [hrun] at hw; simp at hw

/-- what is true: the dependent reads the controller's value whenever the controller has no own value that differs
    from the shared record (in particular when all features were set through the controller LAST, or never) -/
theorem dependents_read_controller_partial (h : Heap) (c d : Nat) (k : Str) (hl : Linked h c d)
    (hk : isPengKey k = true) (hloc : lookup k (h.node d).props = none)
    (hc : lookup k (h.node c).props = none ∨
          ∃ r, h.peng c = some r ∧ lookup k (h.node c).props =
            some ((if k = Heap.peKey then (h.prec r).pe else if k = Heap.nKey then (h.prec r).n else (h.prec r).g).getD .none)) :
    h.getProp d k = h.getProp c k := by
  obtain ⟨hl, hs⟩ := hl
  have hk' := (isPengKey_iff k).mp hk
  rcases hc with hc | ⟨r, hr, hc⟩
  · unfold Heap.getProp
    simp only [hloc, hc, hk', if_true, hl]
  · unfold Heap.getProp
    simp only [hloc, hc, hk', if_true, hl, hr]

/-- the controller's own value agrees with the record right after it is set: `setProp` on the controller re-synchronises -/
theorem setProp_resynchronises (h : Heap) (c d : Nat) (k : Str) (v : Val) (hl : Linked h c d)
    (hk : isPengKey k = true) (hdc : d ≠ c) (hloc : lookup k (h.node d).props = none) :
    (h.setProp c k v).getProp d k = (h.setProp c k v).getProp c k := by
  obtain ⟨a, b, _⟩ := controller_update_propagates_holds h c d k v hl hk hdc hloc
  rw [a, b]

/-! ## (iv) the noun takes the number of a preceding numeral -/

/-- **numeral_number.**  After `linkProperties` of a noun phrase, the number in the head's record is the one imposed
    by the LAST number-giving child (a numeral BEFORE the head: its grammatical number; English `no`: plural); without
    such a child it is unchanged.  So `NP(D, NO(2), N)` makes every word that reads the record plural. -/
def numeral_number : Prop :=
  ∀ (h h' : Heap) (p : Nat) (acts : List Act) (hd r : Nat),
    h.kind p = .NP → plan h p = some acts → exec h acts = .ok h' →
    (h.kids p)[npHeadIndex h p]? = some hd → h.peng hd = some r →
    (h'.prec r).n = (match (npNumberWriters h p).getLast? with | some v => some v | none => (h.prec r).n)

theorem numeral_number_holds : numeral_number := by
  intro h h' p acts hd r hk hp hex hhd hr
  exact (planNP_link h p acts h' hd r (plan_NP h p acts hk hp hhd) hex hhd hr).2

/-! ## non-vacuity: concrete instances of the hypotheses -/

/-- `NP(D("le"), NO("2"), A("petit"), N("chat"))` before its link run: handles D=0, NO=1, A=2, N=3, NP=4 -/
def exNP : Heap :=
  { n := 5
    node := fun i =>
      if i = 0 then { kind := .D, lang := .fr, lemma := s "le", parent := some 4 }
      else if i = 1 then { kind := .NO, lang := .fr, lemma := s "2", gram0 := .s ['p'], parent := some 4 }
      else if i = 2 then { kind := .A, lang := .fr, lemma := s "petit", parent := some 4 }
      else if i = 3 then { kind := .N, lang := .fr, lemma := s "chat", parent := some 4 }
      else { kind := .NP, lang := .fr, kids := [0, 1, 2, 3] }
    peng := fun i => if i < 4 then some i else none
    prec := fun i => if i = 3 then { pe := some (.i 3), n := some (.s ['s']), g := some (.s ['m']) }
                     else { pe := some (.i 3), n := some (.s ['s']), g := some (.s ['m']) }
    nRec := 4 }

/-- the store after the link run of `exNP` -/
def exRun : Option Heap :=
  match plan exNP 4 with
  | some acts => (match exec exNP acts with | .ok h' => some h' | .error _ => none)
  | none => none

/-- test (a single instance): the hypotheses of `np_link` / `numeral_number` hold of `exNP`, the class is {D, A}, and
    the number becomes plural -/
example : exNP.kind 4 = .NP ∧ npHeadIndex exNP 4 = 3 ∧ npDeps exNP 4 = [0, 2] ∧
    npNumberWriters exNP 4 = [.s ['p']] ∧
    exRun.map (fun h' => (h'.peng 0, h'.peng 2, h'.peng 4, (h'.prec 3).n)) =
      some (some 3, some 3, some 3, some (.s ['p'])) := by decide +kernel

/-- `root(V("être"), subj(N("fille"), det(D("le"))), comp(A("content")))` just before the link run of the root:
    terminals V=0, N=1, D=2, A=3; dependents det=4 (of D), subj=5 (of N, with det), comp=6 (of A), root=7 -/
def exDep : Heap :=
  { n := 8
    node := fun i =>
      if i = 0 then { kind := .V, lang := .fr, lemma := s "être", parent := some 7 }
      else if i = 1 then { kind := .N, lang := .fr, lemma := s "fille", parent := some 5 }
      else if i = 2 then { kind := .D, lang := .fr, lemma := s "le", parent := some 4 }
      else if i = 3 then { kind := .A, lang := .fr, lemma := s "content", parent := some 6 }
      else if i = 4 then { kind := .det, lang := .fr, term := some 2, parent := some 5 }
      else if i = 5 then { kind := .subj, lang := .fr, term := some 1, kids := [4], parent := some 7 }
      else if i = 6 then { kind := .comp, lang := .fr, term := some 3, parent := some 7 }
      else { kind := .root, lang := .fr, term := some 0, kids := [5, 6] }
    peng := fun i => if i = 0 ∨ i = 7 then some 0 else if i = 1 ∨ i = 2 ∨ i = 4 ∨ i = 5 then some 1 else if i = 3 ∨ i = 6 then some 3 else none
    prec := fun i => if i = 1 then { pe := some (.i 3), n := some (.s ['s']), g := some (.s ['f']) }
                     else { pe := some (.i 3), n := some (.s ['s']), g := some (.s ['m']) }
    nRec := 4 }

/-- test (a single instance): the goals of `exDep`'s root are "the attribute takes the subject's record" and "the verb
    takes the subject's record"; the tree hypothesis holds -/
example : depGoals exDep 7 = [⟨3, 5⟩, ⟨0, 5⟩] := by decide +kernel

example : DepTree exDep 7 0 := by
  constructor <;> decide +kernel

end Pyrealb.C03
