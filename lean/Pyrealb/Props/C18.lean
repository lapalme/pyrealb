import Pyrealb.Lemmas.ConjTables
import Pyrealb.Lemmas.DeclTables
import Pyrealb.Lemmas.LemmatizeDecl
/-! # C18 — the lemmatization map is sound and complete with respect to realization

Property theorems only.  `Model/Lemmatize` mirrors `lemmatize.py` (`genExp`, `expandConjugation`,
`expandDeclension`, the per-entry body of `buildLemmataMap`); an expression is realized by the models of C01
(`ConjEn/ConjFr.realize`) and C02 (`Decl.realize`).

* unbounded (every table, lemma, lexicon entry satisfying the stated decidable hypotheses, which the driver
  evaluates on every real lexicon entry on every run): `expandConj_sound_en`, `expandConj_sound_fr`,
  `expandConj_sound_refl`, `expandConj_refl_text`, `expandConj_complete_cells`, `intr_veto`, `expandConj_complete`,
  `expandDecl_sound` (nouns, adjectives, adverbs), `expandDecl_complete`;
* finite, `decide +kernel` over the complete generated tables (one evaluation per language, in `Lemmas/ConjTables` and
  `Lemmas/DeclTables`), re-proved whenever /repo changes: `conj_wf_tbl`, `distinct_rows_tbl` (+ `distinct_rows_all`:
  its reading as a ∀), `closed_class_tbl`. -/
namespace Pyrealb.C18
open Pyrealb Pyrealb.Lemmatize

/-- **C18.a** English: for every table, lemma and verb entry whose table is well formed (`wfConjEn`: rows `b pp pr`
    strings, `p ps` a string or six cells, distinct tense keys, no ending starting with a blank), whose lemma ends
    with the table's ending: every (form, expression) pair of `expandConjugation` realizes to exactly that form,
    without a warning -/
def expandConj_sound_en : Prop :=
  ∀ (env : Env) (lex : Decl.Lex) (v : Conj.Verb) (tb : Conj.Table) (frV : Option Conj.Verb) (l : List Pair),
    env.lang = .en → VerbOK wfConjEn env.conj v tb →
    expandConjugation .en env.conj v.lemma v.tab frV = .ok l →
    ∀ p ∈ l, realizeExp env lex (some v) p.2 = .ok (p.1, 0)

theorem expandConj_sound_en_holds : expandConj_sound_en := by
  intro env lex v tb frV l hlang h hl
  exact expandConj_en lex hlang h hl

/-- **C18.b** French, verb not essentially reflexive: the same (`wfConjFr`: eight six-cell rows, a four-cell
    participle, `pr` string or null, `b` string, distinct keys, no imperative cell for the persons 1s 3s 3p) -/
def expandConj_sound_fr : Prop :=
  ∀ (env : Env) (lex : Decl.Lex) (v : Conj.Verb) (tb : Conj.Table) (l : List Pair),
    env.lang = .fr → VerbOK wfConjFr env.conj v tb → v.pat ≠ some ConjFr.reflPat →
    expandConjugation .fr env.conj v.lemma v.tab (some v) = .ok l →
    ∀ p ∈ l, realizeExp env lex (some v) p.2 = .ok (p.1, 0)

/-- **C18.b'** French, every verb, stated on the token list `conjugate` returns — this is the exact form of the
    "reflexive pronoun" exception: an essentially reflexive verb (`pat == ["réfl"]`) gives
    `[reflexive pronoun, FORM]` (finite tenses, infinitive, present participle), `[FORM-lier, tonic pronoun]`
    (imperative) or `[FORM]` (past participle); any other verb gives `[FORM]`; never a warning -/
def expandConj_sound_refl : Prop :=
  ∀ (env : Env) (v : Conj.Verb) (tb : Conj.Table) (l : List Pair),
    VerbOK wfConjFr env.conj v tb →
    expandConjugation .fr env.conj v.lemma v.tab (some v) = .ok l →
    ∀ p ∈ l, ∃ o : VOpts, vOpts {} p.2.opts = some o ∧
      ConjFr.conjugate env.conj env.fr v.lemma (some v) none o.pe o.n o.g o.t = .ok ⟨cellToks env.fr v o p.1, 0⟩

theorem expandConj_sound_refl_holds : expandConj_sound_refl := by
  intro env v tb l h hl p hp
  obtain ⟨_, _, _, o, ho, hc⟩ := expandConj_fr_toks h hl p hp
  exact ⟨o, ho, hc⟩

/-- the realized text of an essentially reflexive verb is the surface form of that token list -/
def expandConj_refl_text : Prop :=
  ∀ (env : Env) (lex : Decl.Lex) (v : Conj.Verb) (tb : Conj.Table) (l : List Pair),
    env.lang = .fr → VerbOK wfConjFr env.conj v tb →
    expandConjugation .fr env.conj v.lemma v.tab (some v) = .ok l →
    ∀ p ∈ l, ∃ o : VOpts, vOpts {} p.2.opts = some o ∧
      realizeExp env lex (some v) p.2 =
        (match Conj.surfaceFr (cellToks env.fr v o p.1) with
         | .ok txt => .ok (txt, 0)
         | .error c => .error c)

theorem expandConj_refl_text_holds : expandConj_refl_text := by
  intro env lex v tb l hlang h hl p hp
  obtain ⟨_, hpos, hlem, o, ho, hc⟩ := expandConj_fr_toks h hl p hp
  refine ⟨o, ho, ?_⟩
  unfold realizeExp
  simp only [hpos, if_true]
  unfold realizeV
  rw [hlem, ho]
  simp only [hlang]
  unfold ConjFr.realize
  rw [hc]
  cases hs : Conj.surfaceFr (cellToks env.fr v o p.1) <;> simp [hs]

/-- a verb that is not essentially reflexive has one token, which is its own surface form -/
theorem expandConj_sound_fr_holds : expandConj_sound_fr := by
  intro env lex v tb l hlang h hnr hl p hp
  obtain ⟨hsp, _⟩ := expandConj_fr_toks h hl p hp
  obtain ⟨o, _, hreal⟩ := expandConj_refl_text_holds env lex v tb l hlang h hl p hp
  rw [hreal]
  simp only [cellToks, hnr, if_false]
  rw [surfaceFr_single _ (by simpa [meTok] using hsp)]
  rfl

/-- **C18.c** every conjugation table of rules-en.json / rules-fr.json that a lexicon entry uses is well formed -/
def conj_wf_tbl : Prop :=
  (∀ p ∈ Gen.ConjEn.tables, p.1 ∈ Gen.ConjEn.used → wfConjEn p.2 = true) ∧
  (∀ p ∈ Gen.ConjFr.tables, p.1 ∈ Gen.ConjFr.used → wfConjFr p.2 = true)

theorem conj_wf_tbl_holds : conj_wf_tbl :=
  ⟨fun p hp _ => wfConjEn_tables p hp, wfConjFr_tables⟩

/-- **C18.d** every non-null cell of every row of the verb's table is listed for the verb, except cells 1–3
    (feminine, plural) of the participle of a verb whose lexicon entry says `pat == ["intr"]` and whose auxiliary is
    avoir (lemmatize.py as repaired by /repo commit 73767de: before it the exception ignored the auxiliary and
    `allée`, `arrivés`, `nées` … were missing) -/
def expandConj_complete_cells : Prop :=
  ∀ (lang : Decl.Lang) (rules : Conj.Rules) (v : Conj.Verb) (tb : Conj.Table) (l : List Pair),
    VerbOK (match lang with | .en => wfConjEn | .fr => wfConjFr) rules v tb →
    expandConjugation lang rules v.lemma v.tab (some v) = .ok l →
    ∀ t row, (t, row) ∈ tb.rows → ∀ i c, (i, c) ∈ icells row →
      ((∃ cells, row = .list cells ∧ cells.length = 4) → v.pat = some ["intr".toList] →
        v.aux.getD "av".toList = "av".toList → i = 0) →
      ∃ e, (Pyrealb.dropRight v.lemma tb.ending.length ++ c, e) ∈ l

theorem expandConj_complete_cells_holds : expandConj_complete_cells := by
  intro lang rules v tb l h hl t row hm i c hic hx
  cases lang with
  | en =>
    obtain ⟨hwf, _, _⟩ := wfConjEn_elim h.wf
    refine expand_complete h (Conj.wfTableEn_elim hwf).hasT (fun kr hkr l hl => ?_) hl hm hic hx
    obtain ⟨_, _, h6⟩ := wfTableEn_rows hwf hkr
    exact Or.inl (h6 l hl)
  | fr =>
    obtain ⟨hwf, _, _, _⟩ := wfConjFr_elim h.wf
    refine expand_complete h (Conj.wfTableFr_elim hwf).hasT (fun kr hkr l hl => ?_) hl hm hic hx
    obtain ⟨_, _, h64⟩ := wfTableFr_rows hwf hkr
    exact h64 l hl

/-- **C18.e** the cells the expansion leaves out are exactly those the realizer refuses: for `pat == ["intr"]` and
    auxiliary `av`, asking for the feminine or the plural of the participle gives the bracketed lemma and one warning -/
def intr_veto : Prop :=
  ∀ (rules : Conj.Rules) (env : ConjFr.FrEnv) (v : Conj.Verb) (tb : Conj.Table) (pe : Conj.Person) (n : Conj.Num)
    (g : Conj.Gender),
    VerbOK wfConjFr rules v tb → v.pat = some ["intr".toList] → v.aux.getD "av".toList = "av".toList →
    ConjFr.idx4 n g > 0 → (∃ c, (ConjFr.idx4 n g, c) ∈
        icells (match tb.row? "pp".toList with | some r => r | none => .null)) →
    ConjFr.conjugate rules env v.lemma (some v) none pe n g .pp = .ok (Conj.morphoError v.lemma 0)

theorem intr_veto_holds : intr_veto := by
  intro rules env v tb pe n g h hintr haux hidx _
  have hintr' : v.pat = some ConjFr.intrPat := hintr
  have haux' : v.aux.getD (Pyrealb.s "av") = Pyrealb.s "av" := haux
  rw [fr_simple h pe n g rfl]
  simp [C01.specSimple, C01.kindFr, occOf, hintr', haux', Nat.ne_of_gt hidx]
  rfl

/-- **C18.d'** (full strength, over the cells the entry can realize) French: every non-null cell of every row of the
    verb's table is listed for the verb, or it is a participle cell (gender `g`, number `n`) that the realizer
    refuses for this verb at every person: the bracketed lemma and one warning -/
def expandConj_complete : Prop :=
  ∀ (rules : Conj.Rules) (env : ConjFr.FrEnv) (v : Conj.Verb) (tb : Conj.Table) (l : List Pair),
    VerbOK wfConjFr rules v tb →
    expandConjugation .fr rules v.lemma v.tab (some v) = .ok l →
    ∀ t row, (t, row) ∈ tb.rows → ∀ i c, (i, c) ∈ icells row →
      (∃ e, (Pyrealb.dropRight v.lemma tb.ending.length ++ c, e) ∈ l) ∨
      (t = "pp".toList ∧ ∃ n g, ConjFr.idx4 n g = i ∧ ∀ pe,
        ConjFr.conjugate rules env v.lemma (some v) none pe n g .pp = .ok (Conj.morphoError v.lemma 0))

theorem expandConj_complete_holds : expandConj_complete := by
  intro rules env v tb l h hl t row hm i c hic
  by_cases hcond : (∃ cells, row = .list cells ∧ cells.length = 4) ∧ v.pat = some ["intr".toList] ∧
      v.aux.getD "av".toList = "av".toList ∧ i ≠ 0
  · right
    obtain ⟨⟨cells, rfl, hlen⟩, hintr, haux, hi0⟩ := hcond
    obtain ⟨hwf, _, hnd, _⟩ := wfConjFr_elim h.wf
    obtain ⟨tt, hoc, _⟩ := wfTableFr_rows hwf hm
    have hrow : tb.row? tt.code = some (.list cells) := by
      rw [Conj.ofCode_some hoc]
      exact Conj.lookup_of_mem_nodup hm hnd
    -- a row of four cells is the participle's
    have htt : tt = .pp := by
      rcases (Conj.wfTableFr_elim hwf).row tt _ hrow with ⟨_, l', hl', h6⟩ | ⟨h1, _⟩ | ⟨_, ⟨x, hx⟩ | hx⟩ | ⟨_, x, hx⟩
      · cases hl'; omega
      · exact h1
      all_goals cases hx
    subst htt
    obtain ⟨hil, _⟩ := icells_list hic
    refine ⟨(Conj.ofCode_some hoc).symm, ?_⟩
    have key : ∀ n g, ConjFr.idx4 n g = i → ∀ pe,
        ConjFr.conjugate rules env v.lemma (some v) none pe n g .pp = .ok (Conj.morphoError v.lemma 0) := by
      intro n g hidx pe
      refine intr_veto_holds rules env v tb pe n g h hintr haux (by omega) ⟨c, ?_⟩
      rw [show tb.row? "pp".toList = some (.list cells) from hrow, hidx]
      exact hic
    have hcases : i = 1 ∨ i = 2 ∨ i = 3 := by omega
    rcases hcases with rfl | rfl | rfl
    · exact ⟨.s, .f, rfl, key .s .f rfl⟩
    · exact ⟨.p, .m, rfl, key .p .m rfl⟩
    · exact ⟨.p, .f, rfl, key .p .f rfl⟩
  · left
    refine expandConj_complete_cells_holds .fr rules v tb l h hl t row hm i c hic ?_
    intro h4 hintr haux
    exact Classical.byContradiction (fun hne => hcond ⟨h4, hintr, haux, hne⟩)

/-- `aller` (table v137, auxiliary être, `pat == ["intr"]`) on the shipped tables -/
def allerV : Conj.Verb :=
  { lemma := "aller".toList, tab := "v137".toList, aux := some "êt".toList, pat := some ["intr".toList] }

/-- **C18.f** for every declension table, lemma and lexicon entry of a noun, adjective or adverb: when the lemma
    ends with the table's ending, the freshly constructed terminal is as `ctorOK` says (table, stem, `g`/`n` it
    carries = `c`; evaluated by the driver on every real entry) and the table's rows are distinguishable by the
    options `genExp` infers (`DistinctRows`: for each listed row, `bestMatch` on the request built from those options
    selects that row's `val`, and no veto of the realizer applies), every (form, expression) pair of
    `expandDeclension` realizes to exactly that form, without a warning -/
def expandDecl_sound : Prop :=
  ∀ (env : Env) (lex : Decl.Lex) (verb : Option Conj.Verb) (pos : Decl.Pos) (lemma name : Str) (tb : Decl.Table)
    (entry : Decl.PosEntry) (c : Ctor) (l : List Pair),
    (pos = .N ∨ pos = .A ∨ pos = .Adv) →
    Pyrealb.lookup name env.decl = some tb → Pyrealb.endsWith lemma tb.ending = true → noLeadSpace lemma = true →
    ctorOK env.decl lex env.lang pos lemma name (Pyrealb.dropRight lemma tb.ending.length) entry c = true →
    DistinctRows env.lang pos name tb c = true →
    expandDeclension env.lang env.decl lemma pos.name (.str name) entry = .ok l →
    ∀ p ∈ l, realizeExp env lex verb p.2 = .ok (p.1, 0)

theorem expandDecl_sound_holds : expandDecl_sound := by
  intro env lex verb pos lemma name tb entry c l hcls htb hend hsp hctor hd hl
  exact expandDecl_core hcls htb hend hsp hctor hd hl

/-- **C18.g** `DistinctRows` holds of EVERY generated declension table of rules-en.json and rules-fr.json in its
    part-of-speech class (`classOf`: `n…` nouns and French adjectives, `a…` English adjectives, `b…` English
    adverbs) for every standard constructor state (`stdCtors`: French nouns of gender `x` or of a gender in which
    every form of the table exists; English nouns of every lexicon gender, countable / uncountable / both;
    adjectives and adverbs with the defaults) — with exactly the four French exceptions `distinctExceptionsFr`.
    (The `d…`/`pn…` tables belong to determiners and pronouns: closed classes, enumerated completely by the
    correspondence check.) -/
def distinct_rows_tbl : Prop :=
  distinctFailures .en Gen.DeclEn.tables = [] ∧
  (distinctFailures .fr Gen.DeclFr.tables).map (fun x => (x.1, x.2.1, x.2.2.lexG)) = distinctExceptionsFr

theorem distinct_rows_tbl_holds : distinct_rows_tbl := ⟨declTables_en.1, declTables_fr.1⟩

/-- what the computed failure list means: `DistinctRows` for every table of the class and every standard state
    that is not in the list -/
theorem distinct_of_failures (lang : Decl.Lang) (rules : Decl.Rules) :
    ∀ p ∈ rules, ∀ pos ∈ [Decl.Pos.N, .A, .Adv], classOf lang pos p.1 = true → ∀ c ∈ stdCtors lang pos p.1 p.2,
      (p.1, pos, c) ∉ distinctFailures lang rules → DistinctRows lang pos p.1 p.2 c = true := by
  intro p hp pos hpos hcls c hc hnot
  cases hdr : DistinctRows lang pos p.1 p.2 c with
  | true => rfl
  | false =>
    exfalso
    apply hnot
    unfold distinctFailures
    refine List.mem_flatMap.mpr ⟨p, hp, List.mem_flatMap.mpr ⟨pos, hpos, ?_⟩⟩
    simp only [hcls, if_true]
    exact List.mem_filterMap.mpr ⟨c, hc, by simp [hdr]⟩

def distinct_rows_all : Prop :=
  (∀ p ∈ Gen.DeclEn.tables, ∀ pos ∈ [Decl.Pos.N, .A, .Adv], classOf .en pos p.1 = true →
    ∀ c ∈ stdCtors .en pos p.1 p.2, DistinctRows .en pos p.1 p.2 c = true) ∧
  (∀ p ∈ Gen.DeclFr.tables, ∀ pos ∈ [Decl.Pos.N, .A, .Adv], classOf .fr pos p.1 = true →
    ∀ c ∈ stdCtors .fr pos p.1 p.2, (p.1, pos, c.lexG) ∉ distinctExceptionsFr →
    DistinctRows .fr pos p.1 p.2 c = true)

theorem distinct_rows_all_holds : distinct_rows_all := by
  refine ⟨?_, ?_⟩
  · intro p hp pos hpos hcls c hc
    exact distinct_of_failures .en _ p hp pos hpos hcls c hc (by rw [distinct_rows_tbl_holds.1]; exact List.not_mem_nil)
  · intro p hp pos hpos hcls c hc hex
    refine distinct_of_failures .fr _ p hp pos hpos hcls c hc ?_
    intro hmem
    apply hex
    rw [← distinct_rows_tbl_holds.2]
    exact List.mem_map.mpr ⟨(p.1, pos, c), hmem, rfl⟩

/-- **C18.i** determiners and pronouns: for EVERY `d…` / `pn…` table of rules-en.json and rules-fr.json, the word whose
    lemma is the table's own ending (`the`, `my`, `me`, `le`, `mon`, `moi`, `on`, `mien`, … — the closed-class words
    are the endings of their tables; this includes `moi`/`me`, for which `genExp` and `Terminal.decline` have special
    rules) with an entry that says only `tab`: every (form, expression) pair of `expandDeclension` realizes (C02
    model) to exactly that form, without a warning.  (Entries with `pe`/`g`/`n` of their own — 8 French pronouns,
    the English numeral determiners — are covered by the enumeration of the correspondence check only.) -/
def closed_class_tbl : Prop := closedBadAll .en = [] ∧ closedBadAll .fr = []

theorem closed_class_tbl_holds : closed_class_tbl := ⟨declTables_en.2, declTables_fr.2⟩

/-- **C18.h** every form of the entry's declension table (`stem ++ val` of every row) is listed for the entry —
    except, for an English noun that the lexicon marks uncountable (`cnt == "no"`), a form carried by a plural row
    (the realizer refuses the plural of an uncountable noun: `check_countable`).  For every table, every part of
    speech, every entry. -/
def expandDecl_complete : Prop :=
  ∀ (lang : Decl.Lang) (rules : Decl.Rules) (lemma pos name : Str) (tb : Decl.Table) (entry : Decl.PosEntry)
    (l : List Pair),
    Pyrealb.lookup name rules = some tb → Pyrealb.endsWith lemma tb.ending = true →
    expandDeclension lang rules lemma pos (.str name) entry = .ok l →
    ∀ d ∈ tb.rows,
      ((lang = .en ∧ pos = "N".toList ∧ Pyrealb.lookup "cnt".toList entry = some (Decl.LV.str "no".toList)) →
        ∀ d' ∈ tb.rows, d'.val = d.val → d'.get .n ≠ some (fvStr "p")) →
      ∃ e, (Pyrealb.dropRight lemma tb.ending.length ++ d.val, e) ∈ l

theorem expandDecl_complete_holds : expandDecl_complete := by
  intro lang rules lemma pos name tb entry l htb hend hl d hd hx
  unfold expandDeclension at hl
  simp only [htb, hend, if_true] at hl
  refine declLoop_complete hl hd (by simp) ?_
  intro d' hd' hv hnone
  obtain ⟨h1, h2, h3, h4⟩ := genExp_none hnone
  exact hx ⟨h1, h2, h4⟩ d' hd' hv h3

/-! ### non-vacuity: the hypotheses are satisfiable by concrete, non-trivial instances -/

def eatV : Conj.Verb := { lemma := "eat".toList, tab := "v70".toList }
set_option maxRecDepth 100000 in
example : VerbOK wfConjEn Gen.ConjEn.tables eatV Gen.ConjEn.t_v70 :=
  ⟨by decide +kernel, by decide +kernel, by decide +kernel, by decide +kernel⟩
-- test (not a property theorem): the expansion of `eat` lists `ate` as the simple past, `eaten` as participle
set_option maxRecDepth 100000 in
example : (match expandConjugation .en Gen.ConjEn.tables eatV.lemma eatV.tab none with
           | .ok l => l.contains ("ate".toList, { pos := "V".toList, lemma := "eat".toList, opts := [("t".toList, .str "ps".toList)] })
                      && l.contains ("eaten".toList, { pos := "V".toList, lemma := "eat".toList, opts := [("t".toList, .str "pp".toList)] })
           | .error _ => false) = true := by decide +kernel
-- test: an essentially reflexive verb realizes with its pronoun (the token list of `expandConj_sound_refl`)
def enfuirV : Conj.Verb :=
  { lemma := "enfuir".toList, tab := "v54".toList, aux := some "êt".toList, pat := some ["réfl".toList] }
set_option maxRecDepth 100000 in
example : realizeExp (genEnv .fr) [] (some enfuirV)
    { pos := "V".toList, lemma := "enfuir".toList, opts := [("t".toList, .str "i".toList), ("pe".toList, .int 1)] }
    = .ok ("m'enfuyais".toList, 0) := by decide +kernel

-- the hypotheses of `expandDecl_sound` on a real entry: French `cheval` (N, gender m, table n5: -al / -aux)
def chevalEntry : Decl.PosEntry := [("g".toList, .str "m".toList), ("tab".toList, .str "n5".toList)]
def chevalLex : Decl.Lex := [("cheval".toList, [("N".toList, chevalEntry)])]
def chevalCtor : Ctor := { g := .str "m".toList, n := .str "s".toList, lexG := some (.str "m".toList) }
set_option maxRecDepth 100000 in
example : ctorOK Gen.DeclFr.tables chevalLex .fr .N "cheval".toList "n5".toList "chev".toList chevalEntry chevalCtor = true
    ∧ DistinctRows .fr .N "n5".toList Gen.DeclFr.t_n5 chevalCtor = true
    ∧ chevalCtor ∈ stdCtors .fr .N "n5".toList Gen.DeclFr.t_n5 := by decide +kernel
-- test (not a property theorem): its expansion lists `chevaux` as N("cheval").n("p"), which the model realizes so
set_option maxRecDepth 100000 in
example : expandDeclension .fr Gen.DeclFr.tables "cheval".toList "N".toList (.str "n5".toList) chevalEntry
    = .ok [("cheval".toList, { pos := "N".toList, lemma := "cheval".toList }),
           ("chevaux".toList, { pos := "N".toList, lemma := "cheval".toList, opts := [("n".toList, .str "p".toList)] })] := by
  decide +kernel
set_option maxRecDepth 100000 in
example : realizeExp (genEnv .fr) chevalLex none
    { pos := "N".toList, lemma := "cheval".toList, opts := [("n".toList, .str "p".toList)] }
    = .ok ("chevaux".toList, 0) := by decide +kernel
-- an English adjective with synthetic comparison (`good`, table a15: better / best)
def goodLex : Decl.Lex := [("good".toList, [("A".toList, [("tab".toList, .str "a15".toList)])])]
set_option maxRecDepth 100000 in
example : ctorOK Gen.DeclEn.tables goodLex .en .A "good".toList "a15".toList [] [("tab".toList, .str "a15".toList)]
      { g := .str "n".toList, n := .str "s".toList } = true
    ∧ DistinctRows .en .A "a15".toList Gen.DeclEn.t_a15 { g := .str "n".toList, n := .str "s".toList } = true := by
  decide +kernel

-- test (not a property theorem): since commit 73767de the expansion of `aller` lists `allée` as V("aller").t("pp").g("f")
def alleeExp : Exp :=
  { pos := "V".toList, lemma := "aller".toList, opts := [("t".toList, .str "pp".toList), ("g".toList, .str "f".toList)] }
set_option maxRecDepth 100000 in
example : (match expandConjugation .fr Gen.ConjFr.tables allerV.lemma allerV.tab (some allerV) with
           | .ok l => l.contains ("allée".toList, alleeExp)
           | .error _ => false) = true := by decide +kernel

end Pyrealb.C18
