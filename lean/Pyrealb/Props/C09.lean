import Pyrealb.Model.CoordSpec
import Pyrealb.Lemmas.Coord
/-! # C09 — coordination: list punctuation, number / person / gender resolution, option propagation,
    agreement of the verb with a coordinated subject.

Property theorems only.  The model (`Model/Coord`) mirrors `Phrase.cpReal`, `Dependent.coordReal`, the two
`findGenderNumberPerson`, the CP/coord branches of `makeOptionMethod` and the order in which `Phrase.real` /
`Dependent.real` realize a coordination and the verb that reads its record.  Every theorem is for member lists of
EVERY length (induction on the list), for every punctuation table `pt`, every token content.
Suffix `_dep` = dependency notation (`coord`), no suffix = constituent notation (`CP`). -/
namespace Pyrealb.C09
open Pyrealb Pyrealb.Coord Pyrealb.Gen.CoordConsts

def CleanMs (ms : List Member) : Prop := ∀ m ∈ ms, Clean m.toks ∧ m.toks ≠ []

instance (ms : List Member) : Decidable (CleanMs ms) := by unfold CleanMs; infer_instance

def ctoksOf : Option Conj → Option (List Str)
  | none => none
  | some c => some c.toks

/-- coord notation: the conjunction is absent when the terminal's lemma is empty (`Q("")`) -/
def ctoksOfTerm (t : Term) : Option (List Str) := if t.lemma = [] then none else some t.toks

def TermOK (t : Term) : Prop := (t.lemma = [] → ∀ x ∈ t.toks, x = []) ∧ (t.lemma ≠ [] → Clean t.toks)

instance (t : Term) : Decidable (TermOK t) := by unfold TermOK; infer_instance

/-- all members use the relation of the first one, or are nested coords (anything else is a warned misuse) -/
def Consistent : List Member → Prop
  | [] => True
  | f :: r => ∀ m ∈ f :: r, m.rel = coordStr ∨ m.rel = f.rel ∨ f.rel = coordStr

instance (ms : List Member) : Decidable (Consistent ms) := by
  cases ms <;> unfold Consistent <;> infer_instance

/-- **C09.zero** a coordination without members realizes as nothing (and resolves nothing) -/
def coord_zero : Prop :=
  ∀ (pt : Str → Str) (andC : Str) (conj : Option Conj) (t : Term) (r0 : Rec),
    cpReal pt andC conj [] r0 = .ok { toks := [], peng := r0 } ∧
    coordReal pt andC t [] r0 = .ok { toks := [], peng := r0 }

theorem coord_zero_holds : coord_zero := by
  intro pt andC conj t r0
  exact ⟨rfl, rfl⟩

/-- **C09.one** a coordination of one member realizes as that member (no comma, no conjunction) -/
def coord_one : Prop :=
  ∀ (pt : Str → Str) (andC : Str) (conj : Option Conj) (m : Member) (r0 : Rec), Clean m.toks →
    ∃ o, cpReal pt andC conj [m] r0 = .ok o ∧ o.toks = alone pt m

theorem coord_one_holds : coord_one := by
  intro pt andC conj m r0 hc
  exact ⟨_, rfl, removeEmpty_clean (clean_appendLast _ hc)⟩

def coord_one_dep : Prop :=
  ∀ (pt : Str → Str) (andC : Str) (t : Term) (m : Member) (r0 : Rec), Clean m.toks → Clean m.alt →
    ∃ o, coordReal pt andC t [m] r0 = .ok o ∧ o.toks = alone pt m

/-- witness: the single member is itself a coord, “the cat or the dog”; `Dependent.real` (not `coordReal`)
    realizes it: “the cat the dog or” -/
def nestedCoordMember : Member :=
  { toks := [s "the", s "cat", s "or", s "the", s "dog"], alt := [s "the", s "cat", s "the", s "dog", s "or"],
    kind := s "C", rel := s "coord", pe := none, n := some (s "s"), g := none, a := none }

theorem coord_one_dep_refuted : ¬ coord_one_dep := by
  intro h
  obtain ⟨o, ho, ht⟩ := h (fun x => x) (s "and") { kind := s "C", lemma := s "and", toks := [s "and"] }
    nestedCoordMember {} (by decide) (by decide)
  cases ho
  revert ht
  decide

theorem coord_one_dep_partial :
    ∀ (pt : Str → Str) (andC : Str) (t : Term) (m : Member) (r0 : Rec), Clean m.toks → m.rel ≠ coordStr →
      ∃ o, coordReal pt andC t [m] r0 = .ok o ∧ o.toks = alone pt m := by
  intro pt andC t m r0 hc hr
  refine ⟨_, rfl, ?_⟩
  simp only [hr, if_false]
  exact removeEmpty_clean (clean_appendLast _ hc)

/-- **C09.punctuation** the members in order, a comma appended to the last token of each member but the last
    (no conjunction) / but the last two (conjunction), the conjunction only before the last member -/
def coord_punctuation : Prop :=
  ∀ (pt : Str → Str) (andC : Str) (conj : Option Conj) (ms : List Member) (r0 : Rec) (o : Out),
    2 ≤ ms.length → CleanMs ms → (∀ c, conj = some c → Clean c.toks) →
    cpReal pt andC conj ms r0 = .ok o → o.toks = specToks pt (ctoksOf conj) ms

def mkNP (toks : List Str) (a : Option (List Str)) : Member :=
  { toks := toks, alt := toks, kind := s "NP", rel := [], pe := some (.int 3), n := some (s "s"), g := some (s "n"), a := a }

def ptEn : Str → Str := fun m => m ++ s " "

theorem cpReal_ok_iff (pt : Str → Str) (andC : Str) (conj : Option Conj) (m m' : Member) (r : List Member) (r0 : Rec)
    (o : Out) :
    cpReal pt andC conj (m :: m' :: r) r0 = .ok o ↔
      ∃ gn, findGNP cpCounted (isAndCP andC conj) (m :: m' :: r) = .ok gn ∧
        o = { toks := removeEmpty (loopWith appendComma pt (ctoksOf conj).isNone (m :: m' :: r)
                ++ (ctoksOf conj).getD [] ++ lastToks pt (m :: m' :: r)), peng := writeGNP r0 gn } := by
  cases conj <;>
    (simp only [cpReal, cpLoop, isAndCP, ctoksOf]
     cases findGNP cpCounted _ (m :: m' :: r) <;> simp [eq_comm])

theorem coord_punctuation_holds : coord_punctuation := by
  intro pt andC conj ms r0 o hlen hcl hcc h
  match ms, hlen with
  | m :: m' :: r, _ =>
    obtain ⟨gn, _, rfl⟩ := (cpReal_ok_iff pt andC conj m m' r r0 o).mp h
    apply removeEmpty_loop pt (ctoksOf conj) _ _ (by simp) hcl
    cases conj with
    | none => rfl
    | some c => exact filter_clean (hcc c rfl)

def coord_punctuation_dep : Prop :=
  ∀ (pt : Str → Str) (andC : Str) (t : Term) (ms : List Member) (r0 : Rec) (o : Out),
    2 ≤ ms.length → CleanMs ms → TermOK t → Consistent ms →
    coordReal pt andC t ms r0 = .ok o → o.toks = specToks pt (ctoksOfTerm t) ms

def mkSubj (toks : List Str) (a : Option (List Str)) : Member :=
  { toks := toks, alt := toks, kind := s "N", rel := s "subj", pe := some (.int 3), n := some (s "s"), g := some (s "n"), a := a }

def andTerm : Term := { kind := s "C", lemma := s "and", toks := [s "and"] }

theorem coordReal_inv {pt : Str → Str} {andC : Str} {t : Term} {m m' : Member} {r : List Member} {r0 : Rec} {o : Out}
    (h : coordReal pt andC t (m :: m' :: r) r0 = .ok o) :
    ∃ lastD ∈ m :: m' :: r,
      o.toks = removeEmpty ((depLoop pt m.rel (t.lemma == []) (m :: m' :: r)).1 ++ t.toks ++ lastToks pt (m :: m' :: r)) ∧
      if lastD.rel ≠ coordStr ∧ (t.kind = ['C'] ∨ t.kind = ['Q']) then
        ∃ gn, findGNP coordCounted (t.kind == ['C'] && t.lemma == andC) (m :: m' :: r) = .ok gn ∧
          o.peng = writeGNPdep r0 gn
      else o.peng = r0 := by
  obtain ⟨lastD, hl1, hl2, hl3⟩ := lastMember_some (pt := pt) (m :: m' :: r) (by simp)
  refine ⟨lastD, hl2, ?_⟩
  unfold coordReal at h
  simp only [hl1] at h
  rw [hl3]
  by_cases hlc : lastD.rel = coordStr
  · simp only [hlc, if_true, Except.ok.injEq] at h
    subst h; simp [hlc]
  · by_cases hk : t.kind = ['C'] ∨ t.kind = ['Q']
    · simp only [hlc, hk, if_true, if_false] at h
      cases hg : findGNP coordCounted (t.kind == ['C'] && t.lemma == andC) (m :: m' :: r) with
      | error e => rw [hg] at h; cases h
      | ok gn =>
        simp only [hg, Except.ok.injEq] at h
        subst h; simp [hlc, hk]
    · simp only [hlc, hk, if_false, Except.ok.injEq] at h
      subst h; simp [hlc, hk]

theorem coord_punctuation_dep_holds : coord_punctuation_dep := by
  intro pt andC t ms r0 o hlen hcl ht hcons h
  match ms, hlen with
  | m :: m' :: r, _ =>
    obtain ⟨_, _, htoks, _⟩ := coordReal_inv h
    rw [htoks, depLoop_consistent pt m.rel (t.lemma == []) (m :: m' :: r) hcons]
    have hisNone : (t.lemma == []) = (ctoksOfTerm t).isNone := by
      by_cases hl : t.lemma = [] <;> simp [ctoksOfTerm, hl]
    rw [hisNone]
    apply removeEmpty_loop pt (ctoksOfTerm t) _ _ (by simp) hcl
    unfold ctoksOfTerm
    split
    · next hl => exact List.filter_eq_nil_iff.mpr fun x hx => by simp [ht.1 hl x hx]
    · next hl => exact filter_clean (ht.2 hl)

/-- **C09.number** plural ⇔ (two or more members joined by and/et) ∨ some member is plural -/
def coord_number_iff : Prop :=
  ∀ (pt : Str → Str) (andC : Str) (conj : Option Conj) (ms : List Member) (o : Out),
    cpReal pt andC conj ms {} = .ok o → (o.peng.n = some plural ↔ SpecPlural (isAndCP andC conj) ms)

/-- **C09.person** the lowest person among the members -/
def coord_person_min : Prop :=
  ∀ (pt : Str → Str) (andC : Str) (conj : Option Conj) (ms : List Member) (o : Out), ms ≠ [] → ValidPe ms →
    cpReal pt andC conj ms {} = .ok o → ∃ p, o.peng.peN = some p ∧ IsMinPerson p ms

/-- **C09.gender** masculine as soon as one member is masculine -/
def coord_gender_masc_iff : Prop :=
  ∀ (pt : Str → Str) (andC : Str) (conj : Option Conj) (ms : List Member) (o : Out),
    cpReal pt andC conj ms {} = .ok o → (o.peng.g = some masc ↔ SpecMasc ms)

def mkPro (tok : Str) (pe : Nat) (n g : Str) : Member :=
  { toks := [tok], alt := [tok], kind := s "Pro", rel := [], pe := some (.int pe), n := some n, g := some g, a := none }

/-- a nested coordination “you and the dogs” (already realized and resolved: second person, plural, masculine) -/
def nestedCP : Member :=
  { toks := [s "you", s "and", s "the", s "dogs"], alt := [], kind := s "CP", rel := [], pe := some (.int 2),
    n := some (s "p"), g := some (s "m"), a := none }

def orConj : Conj := { lemma := s "or", toks := [s "or"] }

/-- witness: `CP(C("or"), NP(the cat), CP(C("and"), …))`: the nested CP is not looked at by
    `findGenderNumberPerson` (“The cat or the dog and the bird sleeps”) -/
theorem coord_number_iff_refuted : ¬ coord_number_iff := by
  intro h
  have := h ptEn (s "and") (some orConj) [mkNP [s "the", s "cat"] none, nestedCP] _ rfl
  revert this
  decide

theorem coord_person_min_refuted : ¬ coord_person_min := by
  intro h
  obtain ⟨p, hp, hmin⟩ := h ptEn (s "and") (some orConj) [mkNP [s "the", s "cat"] none, nestedCP] _
    (by decide) (by decide) rfl
  obtain rfl : 3 = p := Option.some.inj hp
  have := hmin.2.1 nestedCP (by simp) 2 rfl
  omega

theorem coord_gender_masc_iff_refuted : ¬ coord_gender_masc_iff := by
  intro h
  have := h ptEn (s "et") (some orConj) [mkNP [s "la", s "fille"] none, nestedCP] _ rfl
  revert this
  decide

/-- every member has a type that `findGenderNumberPerson` looks at (NP, N, Pro, Q, NO — not a nested CP) -/
def Resolvable (ms : List Member) : Prop := ∀ m ∈ ms, m.kind ∈ cpCounted

instance (ms : List Member) : Decidable (Resolvable ms) := by
  unfold Resolvable; infer_instance

theorem cp_rec {pt : Str → Str} {andC : Str} {conj : Option Conj} {ms : List Member} {r0 : Rec} {o : Out}
    (h : cpReal pt andC conj ms r0 = .ok o) : Resolved cpCounted (isAndCP andC conj) r0 ms o.peng := by
  match ms with
  | [] => cases h; exact .nil
  | [m] => cases h; exact .one m
  | m :: m' :: r =>
    obtain ⟨gn, hg, rfl⟩ := (cpReal_ok_iff pt andC conj m m' r r0 o).mp h
    exact .many (by simp) hg

theorem coord_number_iff_partial :
    ∀ (pt : Str → Str) (andC : Str) (conj : Option Conj) (ms : List Member) (o : Out), Resolvable ms →
      cpReal pt andC conj ms {} = .ok o → (o.peng.n = some plural ↔ SpecPlural (isAndCP andC conj) ms) :=
  fun _ _ _ _ _ hr h => (cp_rec h).plural hr (by simp)

theorem coord_gender_masc_iff_partial :
    ∀ (pt : Str → Str) (andC : Str) (conj : Option Conj) (ms : List Member) (o : Out), Resolvable ms →
      cpReal pt andC conj ms {} = .ok o → (o.peng.g = some masc ↔ SpecMasc ms) :=
  fun _ _ _ _ _ hr h => (cp_rec h).masc hr (by simp)

theorem coord_person_min_partial :
    ∀ (pt : Str → Str) (andC : Str) (conj : Option Conj) (ms : List Member) (o : Out), ms ≠ [] → ValidPe ms →
      Resolvable ms →
      cpReal pt andC conj ms {} = .ok o → ∃ p, o.peng.peN = some p ∧ IsMinPerson p ms :=
  fun _ _ _ _ _ hne hv hr h => (cp_rec h).person hr hne hv

def isAndTerm (andC : Str) (t : Term) : Bool := t.kind == ['C'] && t.lemma == andC

def coord_number_iff_dep : Prop :=
  ∀ (pt : Str → Str) (andC : Str) (t : Term) (ms : List Member) (o : Out),
    coordReal pt andC t ms {} = .ok o → (o.peng.n = some plural ↔ SpecPlural (isAndTerm andC t) ms)

def coord_person_min_dep : Prop :=
  ∀ (pt : Str → Str) (andC : Str) (t : Term) (ms : List Member) (o : Out), ms ≠ [] → ValidPe ms →
    coordReal pt andC t ms {} = .ok o → ∃ p, o.peng.peN = some p ∧ IsMinPerson p ms

def coord_gender_masc_iff_dep : Prop :=
  ∀ (pt : Str → Str) (andC : Str) (t : Term) (ms : List Member) (o : Out),
    coordReal pt andC t ms {} = .ok o → (o.peng.g = some masc ↔ SpecMasc ms)

/-- witness: `coord(C("and"), subj(the cat), coord(C("or"), subj(the dog), subj(the bird)))`: the last member is a
    coord, `coordReal` returns before any resolution (“The cat and the dog or the bird sleeps”) -/
def nestedLast : List Member :=
  [mkSubj [s "the", s "cat"] none,
   { nestedCoordMember with toks := [s "the", s "dog", s "or", s "the", s "bird"], pe := some (.int 1), g := some (s "m") }]

theorem coord_number_iff_dep_refuted : ¬ coord_number_iff_dep := by
  intro h
  have := h ptEn (s "and") andTerm nestedLast _ rfl
  revert this
  decide

theorem coord_person_min_dep_refuted : ¬ coord_person_min_dep := by
  intro h
  obtain ⟨p, hp, _⟩ := h ptEn (s "and") andTerm nestedLast _ (by decide) (by decide) rfl
  cases hp

theorem coord_gender_masc_iff_dep_refuted : ¬ coord_gender_masc_iff_dep := by
  intro h
  have := h ptEn (s "and") andTerm nestedLast _ rfl
  revert this
  decide

def ResolvableDep (t : Term) (ms : List Member) : Prop :=
  (t.kind = ['C'] ∨ t.kind = ['Q'] ∨ ms.length ≤ 1) ∧ (∀ m ∈ ms, m.kind ∈ coordCounted) ∧ ∀ m ∈ ms, m.rel ≠ coordStr

instance (t : Term) (ms : List Member) : Decidable (ResolvableDep t ms) := by
  unfold ResolvableDep; infer_instance

theorem dep_rec {pt : Str → Str} {andC : Str} {t : Term} {ms : List Member} {r0 : Rec} {o : Out}
    (hr : ResolvableDep t ms) (h : coordReal pt andC t ms r0 = .ok o) :
    Resolved coordCounted (isAndTerm andC t) r0 ms o.peng := by
  match ms with
  | [] => cases h; exact .nil
  | [m] => cases h; exact .one m
  | m :: m' :: r =>
    obtain ⟨lastD, hl, _, hp⟩ := coordReal_inv h
    have hk : t.kind = ['C'] ∨ t.kind = ['Q'] := by
      rcases hr.1 with h1 | h1 | h1
      · exact Or.inl h1
      · exact Or.inr h1
      · simp at h1
    rw [if_pos ⟨hr.2.2 lastD hl, hk⟩] at hp
    obtain ⟨gn, hg, hp⟩ := hp
    -- some member was looked at, so the person is written like in the other notation
    have hnb : gn.nb ≠ 0 := by rw [(findGNP_spec coordCounted _ _ hr.2.1 gn hg).2.2.2]; simp
    have : writeGNPdep r0 gn = writeGNP r0 gn := by simp [writeGNPdep, writeGNP, hnb]
    rw [hp, this]
    exact .many (by simp) hg

theorem coord_number_iff_dep_partial :
    ∀ (pt : Str → Str) (andC : Str) (t : Term) (ms : List Member) (o : Out), ResolvableDep t ms →
      coordReal pt andC t ms {} = .ok o → (o.peng.n = some plural ↔ SpecPlural (isAndTerm andC t) ms) :=
  fun _ _ _ _ _ hr h => (dep_rec hr h).plural hr.2.1 (by simp)

theorem coord_gender_masc_iff_dep_partial :
    ∀ (pt : Str → Str) (andC : Str) (t : Term) (ms : List Member) (o : Out), ResolvableDep t ms →
      coordReal pt andC t ms {} = .ok o → (o.peng.g = some masc ↔ SpecMasc ms) :=
  fun _ _ _ _ _ hr h => (dep_rec hr h).masc hr.2.1 (by simp)

theorem coord_person_min_dep_partial :
    ∀ (pt : Str → Str) (andC : Str) (t : Term) (ms : List Member) (o : Out), ms ≠ [] → ValidPe ms →
      ResolvableDep t ms →
      coordReal pt andC t ms {} = .ok o → ∃ p, o.peng.peN = some p ∧ IsMinPerson p ms :=
  fun _ _ _ _ _ hne hv hr h => (dep_rec hr h).person hr.2.1 hne hv

/-- **C09.total** realizing a coordination whose members state valid persons (1, 2, 3 — numbers or digit strings)
    never raises -/
def coord_no_exception : Prop :=
  ∀ (pt : Str → Str) (andC : Str) (conj : Option Conj) (t : Term) (ms : List Member) (r0 : Rec), ValidPe ms →
    (∃ o, cpReal pt andC conj ms r0 = .ok o) ∧ (∃ o, coordReal pt andC t ms r0 = .ok o)

theorem coordReal_ok (pt : Str → Str) (andC : Str) (t : Term) (ms : List Member) (r0 : Rec)
    (hg : ∃ gn, findGNP coordCounted (isAndTerm andC t) ms = .ok gn) : ∃ o, coordReal pt andC t ms r0 = .ok o := by
  match ms with
  | [] => exact ⟨_, rfl⟩
  | [m] => exact ⟨_, rfl⟩
  | m :: m' :: r =>
    obtain ⟨lastD, hl1, _, _⟩ := lastMember_some (pt := pt) (m :: m' :: r) (by simp)
    obtain ⟨gn, hg⟩ := hg
    unfold coordReal
    simp only [hl1, show findGNP coordCounted (t.kind == ['C'] && t.lemma == andC) (m :: m' :: r) = .ok gn from hg]
    split
    · exact ⟨_, rfl⟩
    · split <;> exact ⟨_, rfl⟩

theorem coord_no_exception_holds : coord_no_exception := by
  intro pt andC conj t ms r0 hv
  refine ⟨?_, coordReal_ok pt andC t ms r0 (findGNP_ok _ _ ms hv)⟩
  match ms with
  | [] => exact ⟨_, rfl⟩
  | [m] => exact ⟨_, rfl⟩
  | m :: m' :: r =>
    obtain ⟨gn, hg⟩ := findGNP_ok cpCounted (isAndCP andC conj) (m :: m' :: r) hv
    exact ⟨_, (cpReal_ok_iff pt andC conj m m' r r0 _).mpr ⟨gn, hg, rfl⟩⟩

/-- **C09.option** an option (other than the excluded `cap`, `lier`, `pos`) applied to the coordination is applied
    to exactly the members it is legal for — each once, in order, nobody else.  For every option table. -/
def coord_option_propagation : Prop :=
  ∀ (noProp : List Str) (table : List (Str × List Str)) (name : Str) (allowed : List Str) (kinds : List Str),
    noProp.contains name = false → lookup name table = some allowed →
    ∃ recv, propagate noProp table name kinds = some recv ∧ recv.Pairwise (· < ·) ∧
      ∀ i, i ∈ recv ↔ ∃ k, kinds[i]? = some k ∧ legal allowed k = true

theorem coord_option_propagation_holds : coord_option_propagation := by
  intro noProp table name allowed kinds hn hl
  exact ⟨propagateFrom allowed 0 kinds, by simp only [propagate, hn, Bool.false_eq_true, if_false, hl],
    propagateFrom_spec allowed kinds⟩

/-- the generated table (lifted from Constituent.py on every run) has one entry per option name, so `lookup`
    returns THE `allowedConsts` of each `makeOptionMethod` call; the excluded names are the same in both branches -/
theorem coord_option_table_tbl :
    (∀ p ∈ optionTable, lookup p.1 optionTable = some p.2) ∧ cpNoPropagate = coordNoPropagate := by
  decide +kernel

/-- **C09.agreement** `S(CP(…), VP(V))` (the verb's own record holds its defaults: third person singular): the verb
    is conjugated with the lowest person of the members and is plural exactly when the property says so -/
def coord_subject_agreement : Prop :=
  ∀ (pt : Str → Str) (andC : Str) (conj : Option Conj) (ms : List Member) (g0 : Option Str), ValidPe ms →
    ∃ o, sCP pt andC conj ms { pe := some (.int 3), n := some sing, g := g0 } = .ok o ∧
      IsMinPerson o.pe ms ∧ (o.pl = true ↔ SpecPlural (isAndCP andC conj) ms)

/-- witness: `S(CP(C("or"), NP(the cat), CP(C("and"), …)), VP(V))`: the nested CP is not counted,
    “The cat or you and the dogs sleeps” -/
theorem coord_subject_agreement_refuted : ¬ coord_subject_agreement := by
  intro h
  obtain ⟨o, ho, _, hpl⟩ := h ptEn (s "and") (some orConj) [mkNP [s "the", s "cat"] none, nestedCP] none (by decide)
  cases ho
  revert hpl
  decide

theorem coord_subject_agreement_partial :
    ∀ (pt : Str → Str) (andC : Str) (conj : Option Conj) (ms : List Member) (g0 : Option Str), ValidPe ms →
      Resolvable ms →
      ∃ o, sCP pt andC conj ms { pe := some (.int 3), n := some sing, g := g0 } = .ok o ∧
        IsMinPerson o.pe ms ∧ (o.pl = true ↔ SpecPlural (isAndCP andC conj) ms) := by
  intro pt andC conj ms g0 hv hr
  by_cases he : conj.isNone ∧ ms.isEmpty
  · obtain rfl : ms = [] := List.isEmpty_iff.mp he.2
    exact ⟨_, by simp [sCP, he], Resolved.verb (r0 := { pe := some (.int 3), n := some sing, g := g0 })
      (o := { toks := [], peng := _ }) .nil hr hv (by simp [sing, plural]) rfl⟩
  · obtain ⟨o, ho⟩ := (coord_no_exception_holds pt andC conj andTerm ms {} hv).1
    exact ⟨afterCoord o, by simp only [sCP, he, if_false, ho], (cp_rec ho).verb hr hv (by simp) rfl⟩

def coord_subject_agreement_dep : Prop :=
  ∀ (pt : Str → Str) (andC : Str) (t : Term) (ms : List Member) (g0 : Option Str), ValidPe ms →
    ∃ o, sDep pt andC t ms { pe := some (.int 3), n := some sing, g := g0 } = .ok o ∧
      IsMinPerson o.pe ms ∧ (o.pl = true ↔ SpecPlural (isAndTerm andC t) ms)

/-- witness: `root(V, coord(C("and"), subj(the cat), coord(C("or"), …)))`: two members joined by “and”, singular verb -/
theorem coord_subject_agreement_dep_refuted : ¬ coord_subject_agreement_dep := by
  intro h
  obtain ⟨o, ho, _, hpl⟩ := h ptEn (s "and") andTerm nestedLast (some (s "n")) (by decide)
  cases ho
  revert hpl
  decide

theorem coord_subject_agreement_dep_partial :
    ∀ (pt : Str → Str) (andC : Str) (t : Term) (ms : List Member) (g0 : Option Str), ValidPe ms →
      (t.kind = ['C'] ∨ t.kind = ['Q'] ∨ ms.length ≤ 1) → (∀ m ∈ ms, m.kind ∈ coordCounted) →
      (∀ m ∈ ms, m.rel = ['s','u','b','j']) →
      ∃ o, sDep pt andC t ms { pe := some (.int 3), n := some sing, g := g0 } = .ok o ∧
        IsMinPerson o.pe ms ∧ (o.pl = true ↔ SpecPlural (isAndTerm andC t) ms) := by
  intro pt andC t ms g0 hv hC hk hsubj
  have hr : ResolvableDep t ms := ⟨hC, hk, fun m hm => by rw [hsubj m hm]; decide⟩
  match ms with
  | [] => exact ⟨_, rfl, Resolved.verb (r0 := { pe := some (.int 3), n := some sing, g := g0 })
      (o := { toks := [], peng := _ }) .nil hk hv (by simp [sing, plural]) rfl⟩
  | f :: rest =>
    have hsh : depShares (f :: rest) = true := by simp [depShares, hsubj f (by simp)]
    obtain ⟨o, ho⟩ := (coord_no_exception_holds pt andC none t (f :: rest)
      { pe := some (.int 3), n := some sing, g := g0 } hv).2
    exact ⟨afterCoord o, by simp [sDep, hsh, ho], (dep_rec hr ho).verb hk hv (by simp [sing, plural]) rfl⟩

def compStr : Str := ['c','o','m','p']

/-- **C09.attribute** `root(V, subj(Pro), coord(C, comp(A)…))`: the coord of adjectives shares the record of the
    subject (Dependent.linkProperties); realizing it must not change the person the verb agrees with -/
def coord_attribute_keeps_person_dep : Prop :=
  ∀ (pt : Str → Str) (andC : Str) (t : Term) (ms : List Member) (r0 : Rec) (p : Nat) (o : SOut),
    r0.pe = some (.int p) → (∀ m ∈ ms, m.kind = ['A'] ∧ m.rel = compStr ∧ m.pe = r0.pe) →
    sDep pt andC t ms r0 = .ok o → o.pe = p

theorem coord_attribute_keeps_person_dep_holds : coord_attribute_keeps_person_dep := by
  intro pt andC t ms r0 p o hp hm h
  have hpn : r0.peN = some p := by simp [Rec.peN, hp, PeVal.nat?]
  have hunc : ∀ m ∈ ms, m.kind ∉ coordCounted := by
    intro m hmm
    rw [(hm m hmm).1]
    decide
  -- whatever `coordReal` does to the shared record, its person stays
  have key : ∀ o', coordReal pt andC t ms r0 = .ok o' → o'.peng.peN = some p := by
    intro o' ho
    match ms with
    | [] => cases ho; exact hpn
    | [m] => cases ho; simp [writeSingle, Rec.peN, (hm m (by simp)).2.2, hp, PeVal.nat?]
    | m :: m' :: r =>
      obtain ⟨_, _, _, hpg⟩ := coordReal_inv ho
      split at hpg
      · obtain ⟨gn, hg, hpg⟩ := hpg
        rw [findGNP_uncounted coordCounted _ _ hunc] at hg
        cases hg
        rw [hpg]; simpa [writeGNPdep] using hpn
      · rw [hpg]; exact hpn
  unfold sDep at h
  split at h
  · split at h
    · cases h
    · next o' ho =>
      cases h
      rw [afterCoord_pe, key o' ho]
      rfl
  · split at h
    · cases h
    · cases h
      rw [afterCoord_pe]
      exact congrArg (·.getD 3) hpn

/-- **C09.pronoun-data** for every `Pro` entry of both lexicons: the person / number / gender a bare pronoun starts
    with agree with its declension table whenever the whole table has one person / number / gender -/
def pronoun_entry_features_consistent_tbl : Prop :=
  ∀ e ∈ proEntries, consistentPe e = true ∧ consistentN e = true ∧ consistentG e = true

/-- the inconsistencies of the shipped data (language, lemma, feature) -/
def knownProInconsistencies : List (Str × Str × Str) :=
  [(s "en", s "them", s "n"), (s "en", s "us", s "n"), (s "en", s "him", s "g"), (s "en", s "her", s "g"),
   (s "fr", s "ça", s "g"), (s "fr", s "ce", s "g"), (s "fr", s "ceci", s "g"), (s "fr", s "cela", s "g")]

theorem pronoun_entry_features_consistent_tbl_partial :
    ∀ e ∈ proEntries,
      ((e.lang, e.lemma, s "pe") ∉ knownProInconsistencies → consistentPe e = true) ∧
      ((e.lang, e.lemma, s "n") ∉ knownProInconsistencies → consistentN e = true) ∧
      ((e.lang, e.lemma, s "g") ∉ knownProInconsistencies → consistentG e = true) := by
  -- "consistent or listed": the list is consulted only for the few entries that are not consistent
  have h : ∀ e ∈ proEntries,
      (consistentPe e = true ∨ (e.lang, e.lemma, s "pe") ∈ knownProInconsistencies) ∧
      (consistentN e = true ∨ (e.lang, e.lemma, s "n") ∈ knownProInconsistencies) ∧
      (consistentG e = true ∨ (e.lang, e.lemma, s "g") ∈ knownProInconsistencies) := by decide +kernel
  intro e he
  obtain ⟨h1, h2, h3⟩ := h e he
  exact ⟨h1.resolve_right, h2.resolve_right, h3.resolve_right⟩

/-- the exception list is tight: each listed triple IS inconsistent in the shipped data -/
theorem pronoun_known_inconsistencies_tbl :
    ∀ t ∈ knownProInconsistencies, ∃ e ∈ proEntries, e.lang = t.1 ∧ e.lemma = t.2.1 ∧
      ((t.2.2 = s "n" ∧ consistentN e = false) ∨ (t.2.2 = s "g" ∧ consistentG e = false)) := by
  decide +kernel

/-- witness: English `them` (table pn2-3p, all rows plural) carries no `n`: a bare `Pro("them")` is singular,
    “The girl or them comes” -/
theorem pronoun_entry_features_consistent_tbl_refuted : ¬ pronoun_entry_features_consistent_tbl := by
  intro h
  obtain ⟨e, he, _, _, hc⟩ := pronoun_known_inconsistencies_tbl (s "en", s "them", s "n") (by decide)
  have hcons := (h e he).2.1
  rcases hc with ⟨_, hc⟩ | ⟨hg, _⟩
  · rw [hc] at hcons; cases hcons
  · revert hg; decide

/-! ## non-vacuity: concrete instances of the hypotheses, and the model run on them (tests, not theorems) -/

def theCat : Member := mkNP [s "the", s "cat"] none
def theDog : Member := mkNP [s "the", s "dog"] none
def theBirds : Member := { mkNP [s "the", s "birds"] none with n := some (s "p") }
def andConj : Conj := { lemma := s "and", toks := [s "and"] }
example : CleanMs [theCat, theDog, theBirds] ∧ Resolvable [theCat, theDog, theBirds]
    ∧ ValidPe [theCat, theDog, theBirds] ∧ (∀ m ∈ [theCat, theDog, theBirds], m.a = none) := by decide +kernel
example : (cpReal ptEn (s "and") (some andConj) [theCat, theDog, theBirds] {}).toOption.map (·.toks)
    = some [s "the", s "cat, ", s "the", s "dog", s "and", s "the", s "birds"] := by decide +kernel
example : (cpReal ptEn (s "and") none [theCat, theDog, theBirds] {}).toOption.map (·.toks)
    = some [s "the", s "cat, ", s "the", s "dog, ", s "the", s "birds"] := by decide +kernel
-- a member with its own “!” keeps it and gets the comma after it; a member with its own comma gets no second one
example : (cpReal ptEn (s "and") (some andConj) [mkNP [s "the", s "cat"] (some [s "!"]), mkNP [s "the", s "dog"] (some [s ","]),
      theDog, theBirds] {}).toOption.map (·.toks)
    = some [s "the", s "cat! , ", s "the", s "dog, ", s "the", s "dog", s "and", s "the", s "birds"] := by decide +kernel
example : specToks ptEn (some [s "and"]) [theCat, theDog, theBirds]
    = [s "the", s "cat, ", s "the", s "dog", s "and", s "the", s "birds"] := by decide +kernel
-- “me or you”: first person, singular ; “me and you”: first person, plural
example : (sCP ptEn (s "and") (some orConj) [mkPro (s "me") 1 (s "s") (s "m"), mkPro (s "you") 2 (s "s") (s "m")] {}).toOption.map
    (fun o => (o.pe, o.pl)) = some (1, false) := by decide +kernel
example : (sCP ptEn (s "and") (some andConj) [mkPro (s "me") 1 (s "s") (s "m"), mkPro (s "you") 2 (s "s") (s "m")] {}).toOption.map
    (fun o => (o.pe, o.pl)) = some (1, true) := by decide +kernel
example : ResolvableDep andTerm [mkSubj [s "the", s "cat"] none, mkSubj [s "the", s "dog"] none]
    ∧ Consistent [mkSubj [s "the", s "cat"] none, mkSubj [s "the", s "dog"] none] ∧ TermOK andTerm
    ∧ TermOK { kind := s "Q", lemma := [], toks := [[]] } := by decide +kernel
example : propagate cpNoPropagate optionTable (s "n") [s "C", s "NP", s "A", s "CP", s "Adv", s "Pro"] = some [1, 2, 3, 5] := by decide +kernel
example : propagate cpNoPropagate optionTable (s "tn") [s "C", s "NP", s "A", s "CP", s "Adv", s "Pro"] = some [5] := by decide +kernel
example : propagate cpNoPropagate optionTable (s "cap") [s "C", s "NP"] = none := by decide +kernel

end Pyrealb.C09
