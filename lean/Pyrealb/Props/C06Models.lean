import Pyrealb.Props.C06
import Pyrealb.Lemmas.ElisionFormatOK
import Pyrealb.Lemmas.ElisionPlaceOK
/-! # C06 — the tree-level theorem instantiated with the models that exist in this repository

`tree_settled_partial` (Props/C06) holds for ANY `place`, `format` satisfying `PlaceOK`, `FormatOK`.  Here the
hypothesis `FormatOK` is discharged for C10's model of `Constituent.doFormat` (`Format.formatCore`, via
`Lemmas/ElisionFormatOK.formatOK_c10`): what remains assumed about formatting is only that each node's options are
`SafeOpts` (no `poss`, no `cap`; tag names / attributes without `>` or newline; signs of the generated French `Pc`
table other than `-` — `fact_safe_signs_fr`).

The hypothesis `PlaceOK` is discharged for C05's model of `NonTerminalFr.doPronounPlacement`
(`ClauseFr.placePronouns`, via `Lemmas/ElisionPlaceOK.placeOKAt_c05`) at the VP nodes that satisfy `NodeOK`: the
placement is in its closed form (first non-auxiliary verb, `ClauseFr.place_first_verb`) and `PlaceCond` holds — it is
FALSE in general (a stale elided token directly before a popped clitic or before the insertion point); the `elided`
guard of the code is what makes the popped pronouns fresh (`ClauseFr.isCliticPro_elided`). -/
namespace Pyrealb.C06
open Pyrealb Pyrealb.Elision

/-- the tree theorem with the real formatting model: every node `id` is formatted by C10's `formatCore` with its
    own options `opts id` -/
theorem tree_settled_format_model
    (place : Nat → List Tok → List Tok) (cm : Format.CaseMap) (opts : Nat → Format.Opts)
    (t : Tree) (out : List Tok) (ins lvs : List (List Tok)) (cats : List (Nat × List Tok)) :
    PlaceOK place → (∀ id, SafeOpts Format.tablesFr (opts id)) →
    Real place (fun id l => fmtC10 Format.tablesFr cm (opts id) l) t out ins lvs cats →
    (∀ ts ∈ lvs, InvOut ts) → (∀ inp ∈ ins, NodeTame inp) → Settled .fr out := by
  intro hp ho hr hl ht
  exact tree_settled_partial place _ t out ins lvs cats hp (formatOK_c10 Format.tablesFr cm opts ho) hr hl ht

/-- non-vacuity: `PP(P("de"), NP(D("le"), N("arbre").tag("i").tag("b")).a(","))` — the noun is wrapped in two tags,
    the inner node gets a comma: the options are `SafeOpts`, the article is elided across the tags -/
example : SafeOpts Format.tablesFr { tags := some [(['i'], []), (['b'], [])] } ∧
    SafeOpts Format.tablesFr { a := some [[',']] } ∧
    fmtC10 Format.tablesFr Format.pyCase { tags := some [(['i'], []), (['b'], [])] } [tk "arbre"] =
      [tk "<b><i>arbre</i></b>"] ∧
    doElision .fr false [tk "le" "D", tk "<b><i>arbre</i></b>"] = .ok [tk "l'" "D", tk "<b><i>arbre</i></b>"] ∧
    fmtC10 Format.tablesFr Format.pyCase { a := some [[',']] } [tk "l'" "D", tk "<b><i>arbre</i></b>"] =
      [tk "l'" "D", tk "<b><i>arbre</i></b>, "] := by
  simp -index only [tk_ofList]
  refine ⟨⟨rfl, ?_, ?_, ?_⟩, ⟨rfl, ?_, ?_, ?_⟩, ?_, ?_, ?_⟩ <;> decide +kernel

/-- **the tree theorem with the two real models**: formatting = C10's `formatCore` (options `opts id`), placement =
    C05's `placePronouns` at the VP nodes `nodes id` (identity elsewhere) -/
theorem tree_settled_models
    (E : Embedding) (nodes : Nat → Option VPNode) (cm : Format.CaseMap) (opts : Nat → Format.Opts)
    (t : Tree) (out : List Tok) (ins lvs : List (List Tok)) (cats : List (Nat × List Tok)) :
    (∀ id, SafeOpts Format.tablesFr (opts id)) →
    Real (placeC05 E nodes) (fun id l => fmtC10 Format.tablesFr cm (opts id) l) t out ins lvs cats →
    (∀ p ∈ cats, NodeOK E nodes p) →
    (∀ ts ∈ lvs, InvOut ts) → (∀ inp ∈ ins, NodeTame inp) → Settled .fr out := by
  intro ho hr hn hl ht
  exact (fold_inv_at (placeC05 E nodes) _ (formatOK_c10 Format.tablesFr cm opts ho) t out ins lvs cats hr
    (placeOKAt_c05 E nodes cats hn) hl ht).2.1

/-- the embedding used in the example: realization = the form, everything French, singular, mute h -/
def embEx : Embedding where
  emb t := ⟨some t.form, ClauseFr.kindStr t, t.lier, true, .mute, .mute, true⟩
  lier _ := rfl
  verb _ _ := rfl

/-- non-vacuity of `PlaceCond` on the scenario of the seeded change C06-D: the outer VP `veut l' aimer` — the clitic
    `l'` was elided at the inner VP; the guard keeps it where it is (`placedAt` leaves the list unchanged) and the
    condition holds (nothing is popped, nothing inserted) -/
example :
    let x := ClauseFr.mkV Gen.ClauseFr.verb_vouloir .p
    let post : List ClauseFr.Tok :=
      [.pro { lemma := ['l','u','i'], c := some .acc, tn := false, pe := 3, n := .s, g := .m } ['l', '\''],
       .v (ClauseFr.mkV Gen.ClauseFr.verb_avoir .b) ['a','i','m','e','r']]
    PlaceCond embEx [] post x ['v','e','u','t'] false none ∧
    ClauseFr.placedAt [] post x ['v','e','u','t'] false none = .v x ['v','e','u','t'] :: post ∧
    InvIn ((ClauseFr.Tok.v x ['v','e','u','t'] :: post).map embEx.emb) := by
  refine ⟨⟨?_, ?_, ?_, ?_, ?_, ?_⟩, by decide +kernel, ⟨by decide +kernel, by decide +kernel, ?_⟩⟩
  · decide +kernel
  · intro w h; cases h
  · intro t ht; simp at ht
  · decide +kernel
  · exact ⟨by decide +kernel, trivial⟩
  · intro h; cases h
  · intro t ht
    simp at ht
    rw [← ht]; decide +kernel

/-- non-vacuity, a clitic that IS moved: `[aime, le]` (verb, accusative clitic) becomes `[le, aime]`; the condition
    holds (the popped pronoun is fresh: its realization does not end with an apostrophe), and the result satisfies
    the precondition of `doElision`, which then elides it: `l'aime` -/
example :
    let x := ClauseFr.mkV Gen.ClauseFr.verb_avoir .p
    let le : ClauseFr.Tok := .pro { lemma := ['l','u','i'], c := some .acc, tn := false, pe := 3, n := .s, g := .m } ['l','e']
    PlaceCond embEx [] [le] x ['a','i','m','e'] false none ∧
    ClauseFr.placedAt [] [le] x ['a','i','m','e'] false none = [le, .v x ['a','i','m','e']] ∧
    (doElision .fr false ([le, ClauseFr.Tok.v x ['a','i','m','e']].map embEx.emb)).toOption.map (·.map (·.real)) =
      some [some ['l','\''], some ['a','i','m','e']] := by
  refine ⟨⟨?_, ?_, ?_, ?_, ?_, ?_⟩, by decide +kernel, by decide +kernel⟩
  · decide +kernel
  · intro w h; cases h
  · intro t ht; simp at ht
  · decide +kernel
  · trivial
  · intro h; cases h

/-- the guard as repaired by /repo commit c4595d2 (test): an elided clitic that carries a tag and punctuation,
    `<i>l'</i>.`, is recognised (`ClauseFr.elidedForm`) and stays where it is; the bare `le` is still a clitic to pop -/
example :
    let pro : ClauseFr.ProT := { lemma := ['l','u','i'], c := some .acc, tn := false, pe := 3, n := .s, g := .m }
    ClauseFr.elidedForm "<i>l'</i>. ".toList = true ∧ ClauseFr.isCliticPro pro "<i>l'</i>. ".toList = false ∧
    ClauseFr.isCliticPro pro "le".toList = true ∧
    ClauseFr.placedAt [] [.pro pro "<i>l'</i>. ".toList, .v (ClauseFr.mkV Gen.ClauseFr.verb_avoir .b) "écouter".toList]
        (ClauseFr.mkV Gen.ClauseFr.verb_vouloir .p) "veux".toList false none =
      [.v (ClauseFr.mkV Gen.ClauseFr.verb_vouloir .p) "veux".toList, .pro pro "<i>l'</i>. ".toList,
       .v (ClauseFr.mkV Gen.ClauseFr.verb_avoir .b) "écouter".toList] := by
  simp -index only [String.toList_ofList]
  decide +kernel

end Pyrealb.C06
