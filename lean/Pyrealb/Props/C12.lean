import Pyrealb.Lemmas.JsonRoundtrip
import Pyrealb.Lemmas.JsonText
import Pyrealb.Lemmas.JsonSource
import Pyrealb.Lemmas.JsonSourceText
/-! # C12 — JSON and source-text serializations round-trip

Property theorems only. Model: `Model/Expr` (expression trees with option STATE `props` and call HISTORY `hist`,
constructors, option methods), `Model/Json` (`toJSON`, `fromJSON`, printer/reader), `Model/ExprSource` (`toSource`,
evaluator of the printed source). The lexicons are a parameter `env`; every theorem is for ALL lexicons.

`≈` is equality of `Expr.abs` (tree, kinds, lemmata, languages, lexicon entries used, `props`; history erased):
assumption A_abs says it determines the realized text (checked on the implementation by the direct oracle).
Each clause is stated at full strength over every expression built without warnings (`Built`); where the unchanged code
violates it there is a `_refuted` theorem (concrete witness, replayed on the real code by harness/props/C12.py) and a
`_partial` theorem under the weakest side conditions found (`WFJ` …), proved by structural induction on `Expr`. -/
namespace Pyrealb.C12
open Pyrealb Pyrealb.Expr

/-- built by a construction program without a warning: the domain of the property -/
def Built (env : Env) (e : Expr) : Prop := ∃ p ctx, build env ctx p = .ok (e, 0)

/-! ## the clauses -/

/-- **C12.a** `fromJSON(e.toJSON()) ≈ e` -/
def json_roundtrip : Prop :=
  ∀ (env : Env) (cur : Lang) (e : Expr), Built env e →
    ∃ e' m, routeJson env cur e = .ok (e', m) ∧ e'.abs = e.abs

/-- **C12.b** `fromJSON(e.toJSON()).toJSON() = e.toJSON()` -/
def json_idempotent : Prop :=
  ∀ (env : Env) (cur : Lang) (e : Expr), Built env e →
    ∃ e' m, routeJson env cur e = .ok (e', m) ∧ toJSON none e' = toJSON none e

/-- **C12.c** going through `json.dumps` / `json.loads` changes nothing -/
def json_text_roundtrip : Prop :=
  ∀ (env : Env) (cur : Lang) (e : Expr), Built env e → routeJsonText env cur e = routeJson env cur e

/-- **C12.d** `eval(e.toSource()) ≈ e` -/
def source_roundtrip : Prop :=
  ∀ (env : Env) (cur : Lang) (e : Expr), Built env e →
    ∃ e' m, routeSource env cur e = .ok (e', m) ∧ e'.abs = e.abs

/-- **C12.e** the re-evaluated expression prints the same source and the same JSON again -/
def source_stable : Prop :=
  ∀ (env : Env) (cur : Lang) (e : Expr), Built env e →
    ∃ e' m, routeSource env cur e = .ok (e', m) ∧ toSource e' = toSource e ∧ toJSON none e' = toJSON none e

/-- **C12.g** after a JSON round trip the expression prints the same source again -/
def json_source_stable : Prop :=
  ∀ (env : Env) (cur : Lang) (e : Expr), Built env e →
    ∃ e' m, routeJson env cur e = .ok (e', m) ∧ toSource e' = toSource e

/-- **C12.f** the decoded expression is the same whichever language is current -/
def decode_lang_independent : Prop :=
  ∀ (env : Env) (cur cur' : Lang) (e : Expr), routeJson env cur e = routeJson env cur' e

/-! ## what holds -/

theorem routeJson_of {env : Env} {cur : Lang} {e e' : Expr}
    (h : (fromJ env cur (toJSON none e).depth none (toJSON none e)).1 = some e') :
    routeJson env cur e = .ok (e', (fromJSON env cur (toJSON none e)).2) := by
  have : fromJSON env cur (toJSON none e) = (some e', (fromJSON env cur (toJSON none e)).2) := by
    unfold fromJSON
    rw [← h]
  rw [routeJson, this]

/-- `fromJSON (toJSON e) ≈ e` under `WFJ` (structural induction on `e`, one `Replays` constructor per option kind) -/
theorem json_roundtrip_partial (env : Env) (cur : Lang) (e : Expr) (h : WFJ env e) :
    ∃ e' m, routeJson env cur e = .ok (e', m) ∧ e'.abs = e.abs := by
  obtain ⟨e', h1, h2, _⟩ := fromJ_toJSON env cur e (toJSON none e).depth none h (height_le_depth none e)
  exact ⟨e', _, routeJson_of h1, h2⟩

/-- re-encoding gives the same JSON, under the same side conditions (`toJSON` reads the abstraction only) -/
theorem json_idempotent_partial (env : Env) (cur : Lang) (e : Expr) (h : WFJ env e) :
    ∃ e' m, routeJson env cur e = .ok (e', m) ∧ toJSON none e' = toJSON none e := by
  obtain ⟨e', m, h1, h2⟩ := json_roundtrip_partial env cur e h
  exact ⟨e', m, h1, toJSON_congr_abs h2 none⟩

/-- since the repair 8586a6a (`getLemma(lemma, self.lang())`) decoding never consults the current language: every
    part carries its language through the `lang` fields, the root always has one. For ALL expressions. -/
theorem decode_lang_independent_holds : decode_lang_independent := by
  intro env cur cur' e
  unfold routeJson fromJSON
  have hroot : ∃ kv, toJSON none e = .obj kv ∧ (lookup (s "lang") kv).isSome = true := by
    cases e <;> exact ⟨_, rfl, by simp [lookup_append, lookup_propsJ, lookup_lang_langJ]⟩
  rw [fromJ_cur_indep env cur cur' _ none _ (Or.inr hroot)]

/-- the text route equals the object route for EVERY expression whose JSON form contains no `datetime` object
    (`readJ (printJ j) = j` for all such `j`, all strings): the weakest condition, `json.dumps` raises otherwise -/
theorem json_text_roundtrip_partial (env : Env) (cur : Lang) (e : Expr) (h : (toJSON none e).serializable = true) :
    routeJsonText env cur e = routeJson env cur e := by
  unfold routeJsonText routeJson
  simp only [h, if_true, readJ_printJ _ h]

/-- evaluating the printed source rebuilds the expression EXACTLY (state and history) when the language of the ROOT is
    the current one (it cannot be printed), every constituent is what its own call history makes of its constructor's
    result (`WFS`) and the option values have a `repr` the model covers (`SrcOK`: no `datetime`). Lemmata and tag names
    are unrestricted (escaped since a4c65f5 / 2b9e5f9), sub-expressions of the other language carry `lang=` (09cd540).
    Text level: `parseSrc (toSource e) = progOf e` (`parseSrc_toSource`); evaluation level: `build (progOf e) = e`. -/
theorem source_roundtrip_partial (env : Env) (cur : Lang) (e : Expr) (h : WFS env e) (hs : SrcOK e) (hl : e.lang = cur) :
    routeSource env cur e = .ok (e, 0) := by
  unfold routeSource
  rw [parseSrc_toSource cur e hs hl]
  exact build_progOf env e cur h

/-- … hence the same source and the same JSON again -/
theorem source_stable_partial (env : Env) (cur : Lang) (e : Expr) (h : WFS env e) (hs : SrcOK e) (hl : e.lang = cur) :
    ∃ e' m, routeSource env cur e = .ok (e', m) ∧ toSource e' = toSource e ∧ toJSON none e' = toJSON none e :=
  ⟨e, 0, source_roundtrip_partial env cur e h hs hl, rfl, rfl⟩

/-- the same SOURCE again after a JSON round trip — indeed the very same expression, state and history — when in
    addition to `WFJ` every history is canonical (`CanonJ`: the constructor's calls, then one group of calls per entry
    of `props` in their order: nothing repeated, interleaved, propagated from a CP, or implied by the constructor) -/
theorem json_source_stable_partial (env : Env) (cur : Lang) (e : Expr) (h : CanonJ env e) :
    ∃ e' m, routeJson env cur e = .ok (e', m) ∧ toSource e' = toSource e := by
  obtain ⟨e', h1, _, h2⟩ := fromJ_toJSON env cur e (toJSON none e).depth none h.wfj (height_le_depth none e)
  cases h2 h
  exact ⟨e, _, routeJson_of h1, rfl⟩

/-! ## what the unchanged code violates -/

def envNone : Env := { lex := fun _ _ _ => none, noWord := fun _ _ => none }

def built (p : Prog) : Expr :=
  match build envNone .en p with
  | .ok (e, _) => e
  | .error _ => default

def warnings (p : Prog) : Option Nat :=
  match build envNone .en p with
  | .ok (_, w) => some w
  | .error _ => none

theorem built_of_warnings {p : Prog} (h : warnings p = some 0) : Built envNone (built p) := by
  refine ⟨p, .en, ?_⟩
  unfold warnings at h
  unfold built
  split at h
  · rename_i e w heq; cases h; rw [heq]
  · cases h

/-- an observable of the outcome of a route (decidable, for the witnesses) -/
def obs (f : Expr → Str) : Except RouteErr (Expr × Nat) → Option Str
  | .ok (e, _) => some (f e)
  | .error _ => none

def jsonText (e : Expr) : Str := printJ (toJSON none e)

/-- `root("x").tn()` : a dependent accepts every option; `tn` called without argument stores `True`, which `tn`
    refuses when it is re-applied (`"" in validVals` but `True not in validVals`) -/
def progTn : Prog := .call (.dep (s "root") .en (.lit (s "x")) []) (s "tn") []

theorem built_progTn : Built envNone (built progTn) := built_of_warnings (by decide +kernel)

theorem json_idempotent_refuted : ¬ json_idempotent := by
  intro h
  obtain ⟨e', m, h1, h2⟩ := h envNone .en (built progTn) built_progTn
  have h3 : obs jsonText (routeJson envNone .en (built progTn)) = some (jsonText (built progTn)) := by
    rw [h1]; simp [obs, jsonText, h2]
  exact absurd h3 (by decide +kernel)

theorem json_roundtrip_refuted : ¬ json_roundtrip := fun h =>
  json_idempotent_refuted fun env cur e hb =>
    let ⟨e', m, h1, h2⟩ := h env cur e hb
    ⟨e', m, h1, toJSON_congr_abs h2 none⟩

/-- `DT(datetime.datetime(2024,1,5))` : the lemma is a `datetime`, `json.dumps` raises TypeError -/
def progDt : Prog := .term (s "DT") (.dt 2024 1 5 0 0 0) .en

theorem built_progDt : Built envNone (built progDt) := built_of_warnings (by decide +kernel)

theorem json_text_roundtrip_refuted : ¬ json_text_roundtrip := by
  intro h
  have h1 := h envNone .en (built progDt) built_progDt
  have h2 : obs (fun _ => []) (routeJsonText envNone .en (built progDt)) =
      obs (fun _ => []) (routeJson envNone .en (built progDt)) := by rw [h1]
  exact absurd h2 (by decide +kernel)

/-- `Q("x")` built as a FRENCH constituent and evaluated while English is current: the language of the root is not
    printed (the source is evaluated under the current language), the result is an English constituent -/
def progFr : Prog := .term (s "Q") (.str (s "x")) .fr

theorem built_progFr : Built envNone (built progFr) := built_of_warnings (by decide +kernel)

theorem progFr_json_changes :
    obs jsonText (routeSource envNone .en (built progFr)) ≠ some (jsonText (built progFr)) := by decide +kernel

theorem source_roundtrip_refuted : ¬ source_roundtrip := by
  intro h
  obtain ⟨e', m, h1, h2⟩ := h envNone .en (built progFr) built_progFr
  apply progFr_json_changes
  rw [h1]; simp [obs, jsonText, toJSON_congr_abs h2 none]

theorem source_stable_refuted : ¬ source_stable := by
  intro h
  obtain ⟨e', m, h1, _, h2⟩ := h envNone .en (built progFr) built_progFr
  apply progFr_json_changes
  rw [h1]; simp [obs, jsonText, h2]

/-- the former witnesses (`Q('say "hi"')`, a backslash followed by `t`) round-trip since the repair a4c65f5 (tests) -/
def progQuote : Prog := .term (s "Q") (.str (s "say \"hi\"")) .en
def progBackslash : Prog := .term (s "Q") (.str (s "tab\\there")) .en
example : obs toSource (routeSource envNone .en (built progQuote)) = some (toSource (built progQuote)) := by decide +kernel
example : obs jsonText (routeSource envNone .en (built progBackslash)) = some (jsonText (built progBackslash)) := by
  decide +kernel

/-- `Q("x").cap(True).cap(False)` : the JSON records the final state `cap: false`, the source the two calls -/
def progTwice : Prog := .call (.call (.term (s "Q") (.str (s "x")) .en) (s "cap") [.atom (.bool true)]) (s "cap") [.atom (.bool false)]

theorem built_progTwice : Built envNone (built progTwice) := built_of_warnings (by decide +kernel)

theorem json_source_stable_refuted : ¬ json_source_stable := by
  intro h
  obtain ⟨e', m, h1, h2⟩ := h envNone .en (built progTwice) built_progTwice
  have h3 : obs toSource (routeJson envNone .en (built progTwice)) = some (toSource (built progTwice)) := by
    rw [h1]; simp [obs, h2]
  exact absurd h3 (by decide +kernel)

/-! ## non-vacuity: the side conditions are satisfied by a concrete, non-trivial expression -/

/-- `S(Q("a").cap(False), "b").typ({"neg": True}).a("!")` as the expression it builds -/
def exQ : Expr := .term ⟨s "Q", .en, [(s "cap", .atom (.bool false))], [.opt (s "cap") (.atom (.bool false))]⟩ (.str (s "a")) none
def exB : Expr := .term ⟨s "Q", .en, [], []⟩ (.str (s "b")) none
def exS : Expr := .phr ⟨s "S", .en, [(s "typ", .dict [(s "neg", .bool true)]), (s "a", .list [.str (s "!")])],
    [.opt (s "typ") (.dict [(s "neg", .bool true)]), .opt (s "a") (.atom (.str (s "!")))]⟩ [exQ, exB]

def progS : Prog :=
  .call (.call (.phr (s "S") .en [.call (.term (s "Q") (.str (s "a")) .en) (s "cap") [.atom (.bool false)], .lit (s "b")])
    (s "typ") [.dict [(s "neg", .bool true)]]) (s "a") [.atom (.str (s "!"))]

example : build envNone .en progS = .ok (exS, 0) := by rfl

def spCap : Spec := specOf Gen.OptionTable.opt_cap

theorem exS_canon : CanonJ envNone exS := by
  refine ⟨by decide +kernel, by decide +kernel, ?_, by decide +kernel, by rfl, ⟨?_, ?_, trivial⟩⟩
  · refine Replays.typ _ _ (by decide +kernel) ?_ (Replays.list _ _ _ (by decide +kernel) (by simp) Replays.nil)
    intro kv hkv
    simp at hkv
    subst hkv
    refine ⟨[.bool false, .bool true], by decide +kernel, ?_⟩
    rw [if_neg (by decide +kernel)]
    exact ⟨by decide +kernel, fun i h => by cases h⟩
  · refine ⟨by decide +kernel, by decide +kernel, [], [], by rfl, ?_, by decide +kernel⟩
    refine Replays.feature (s "cap") (.bool false) spCap _ (by decide +kernel) (by decide +kernel) (by simp)
      (Or.inl (by decide +kernel)) ?_ (by decide +kernel) Replays.nil
    intro h; rcases h with h | h <;> exact absurd h (by decide +kernel)
  · exact ⟨by decide +kernel, by decide +kernel, [], [], by rfl, Replays.nil, by decide +kernel⟩

example : CanonJ envNone exS := exS_canon

example : WFJ envNone exS := exS_canon.wfj

example : WFS envNone exS := by
  refine ⟨⟨by rfl, by rfl, trivial⟩, by rfl⟩

example : SrcOK exS := by
  simp only [exS, exQ, exB, SrcOK, SrcOKList, List.forall_mem_cons, List.not_mem_nil, false_imp_iff, implies_true,
    CallOK, IdentOK, PValOK, DictOK, AtomOK, ReprOK, and_true]
  decide +kernel

example : (toJSON none exS).serializable = true := by decide +kernel


end Pyrealb.C12
