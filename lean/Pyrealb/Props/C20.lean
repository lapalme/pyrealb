import Pyrealb.Model.OneOf
import Pyrealb.Lemmas.OneOfBridge
/-! # C20 — oneOf never repeats within a cycle or back to back; choice and mix are faithful

The model (`Model/OneOf`) mirrors `utils.oneOf/choice/mix`; the random source is
universally quantified: *every* list `ps` of shuffle outcomes (each a permutation of `range n`) is covered,
for every `n ≥ 2` and histories of every length. -/
namespace Pyrealb.C20
open Pyrealb.OneOf

abbrev NoRep := Rev.NoRep
abbrev BlockPerm := Rev.BlockPerm

/-- the calls never fail and `out` is the list of returned indices -/
def Returns (mem : Option (List Nat)) (ps : List (List Nat)) (out : List Nat) : Prop :=
  runPy mem ps = out.map some

/-- **C20.a** no alternative is returned twice in a row, also across block boundaries -/
def no_repeat : Prop :=
  ∀ (n : Nat) (ps : List (List Nat)), 2 ≤ n → (∀ p ∈ ps, p.Perm (List.range n)) →
    ∃ out, Returns none ps out ∧ NoRep out

/-- **C20.b** each alternative exactly once in every consecutive block of `n` calls -/
def block_perm : Prop :=
  ∀ (n : Nat) (ps : List (List Nat)), 2 ≤ n → (∀ p ∈ ps, p.Perm (List.range n)) →
    ∃ out, Returns none ps out ∧ BlockPerm n out

theorem no_repeat_holds : no_repeat := fun _ ps hn hps =>
  ⟨_, runPy_eq hn ps hps, Rev.oneOf_no_repeat hn _ (isPerm_map_reverse hps)⟩

theorem block_perm_holds : block_perm := fun _ ps hn hps =>
  ⟨_, runPy_eq hn ps hps, Rev.oneOf_block_perm hn _ (isPerm_map_reverse hps)⟩

def Res.idx : Res → Option Nat
  | .ret i _ => i
  | .err => none

/-- the indices returned to the calls that carry key `k`, in an arbitrary interleaved history -/
def outputsFor {κ} [DecidableEq κ] (k : κ) (d : Dict κ) (calls : List (Call κ)) : List (Option Nat) :=
  ((calls.zip (runAll d calls)).filter (fun x => x.1.key = k)).map (fun x => Res.idx x.2)

theorem dget_dset {κ} [DecidableEq κ] (d : Dict κ) (k k' : κ) (v : List Nat) :
    dget (dset d k v) k' = if k = k' then some v else dget d k' := by
  induction d with
  | nil => simp [dset, dget]
  | cons kv r ih =>
    obtain ⟨k₀, v₀⟩ := kv
    by_cases h : k₀ = k
    · by_cases h2 : k = k' <;> simp [dset, dget, h, h2]
    · by_cases h2 : k₀ = k'
      · subst h2
        simp [dset, dget, h, Ne.symm h]
      · simp [dset, dget, h, h2, ih]

/-- **C20.c** calls with different alternative lists have independent histories: what the calls on key `k`
    return inside any interleaving with other keys is what they return alone. -/
def keys_independent : Prop :=
  ∀ (κ : Type) [DecidableEq κ] (k : κ) (d : Dict κ) (calls : List (Call κ)),
    (∀ c ∈ calls, 2 ≤ c.alts.length) →
    outputsFor k d calls = runPy (dget d k) ((calls.filter (fun c => c.key = k)).map (·.perm))

/-- with two alternatives or more a call is one step on the memory of its key -/
theorem oneOf_of_two_le {κ} [DecidableEq κ] (d : Dict κ) (c : Call κ) (hc : 2 ≤ c.alts.length) :
    oneOf d c = match stepPy (dget d c.key) c.perm with
      | none => (.err, d)
      | some (i, m) => (.ret (some i) (calledOf c.alts i), dset d c.key m) := by
  have h0 : c.alts.length ≠ 0 := by omega
  have h1 : c.alts.length ≠ 1 := by omega
  simp only [oneOf, h0, h1, if_false]
  cases stepPy (dget d c.key) c.perm <;> rfl

theorem keys_independent_holds : keys_independent := by
  intro κ _ k d calls
  induction calls generalizing d with
  | nil => intro _; simp [outputsFor, runAll, runPy]
  | cons c cs ih =>
    intro hl
    have ho := oneOf_of_two_le d c (hl c (by simp))
    have ih := fun d' => ih d' (fun c' h => hl c' (by simp [h]))
    by_cases hk : c.key = k
    · -- a call on `k`: one step of `runPy`, the rest from the new memory
      rw [hk] at ho
      simp only [outputsFor, runAll, ho, List.zip_cons_cons, List.filter_cons, hk, decide_true, if_true,
        List.map_cons, runPy]
      cases stepPy (dget d k) c.perm with
      | none => exact congrArg _ (ih d)
      | some im =>
        have := ih (dset d k im.2)
        rw [dget_dset, if_pos rfl] at this
        exact congrArg _ this
    · -- a call on another key leaves the memory of `k` alone
      have hd : dget (oneOf d c).2 k = dget d k := by
        rw [ho]
        cases stepPy (dget d c.key) c.perm with
        | none => rfl
        | some im => simp [dget_dset, hk]
      simp only [outputsFor, runAll, List.zip_cons_cons, List.filter_cons, hk, decide_false]
      have := ih (oneOf d c).2
      rw [hd] at this
      simpa [outputsFor] using this

/-- **C20.d** `choice` returns one of its arguments (for every outcome `r` of `random.choice`) -/
def choice_mem : Prop :=
  ∀ (alts : List Alt) (r : Nat), alts ≠ [] → r < alts.length →
    ∃ i, i < alts.length ∧ choice alts r = .ret (some i) (calledOf alts i)

theorem choice_mem_holds : choice_mem := by
  intro alts r hne hr
  have h0 : alts.length ≠ 0 := by
    intro h; exact hne (List.length_eq_zero_iff.mp h)
  by_cases h1 : alts.length = 1
  · exact ⟨0, by omega, by simp [choice, h1]⟩
  · exact ⟨r, hr, by simp [choice, h0, h1, hr]⟩

/-- **C20.e** `mix` returns a permutation of its arguments (whatever `random.shuffle` does, as long as it
    permutes), and calls exactly the callables, each once. -/
def mix_perm : Prop :=
  ∀ (alts : List Alt) (perm : List Nat), perm.Perm (List.range alts.length) →
    (mix alts perm).1.Perm (List.range alts.length) ∧
    (mix alts perm).2.Perm ((List.range alts.length).filter (fun i => alts[i]? = some Alt.fn))

theorem mix_perm_holds : mix_perm := by
  intro alts perm hp
  exact ⟨hp, hp.filter _⟩

/-- **C20.f** a callable alternative is called exactly once if selected and never otherwise -/
def callable_once : Prop :=
  ∀ (κ : Type) [DecidableEq κ] (d : Dict κ) (c : Call κ) (i : Option Nat) (called : List Nat),
    (oneOf d c).1 = .ret i called →
      (∀ j, i = some j → c.alts[j]? = some Alt.fn → called = [j]) ∧
      (∀ j, i = some j → c.alts[j]? ≠ some Alt.fn → called = []) ∧
      (i = none → called = [])

/-- whatever index a call returns, it invoked exactly `calledOf` of it -/
theorem oneOf_called {κ} [DecidableEq κ] (d : Dict κ) (c : Call κ) (i : Option Nat) (called : List Nat)
    (h : (oneOf d c).1 = .ret i called) : called = i.elim [] (calledOf c.alts) := by
  simp only [oneOf] at h
  split at h
  · cases h; rfl
  · split at h
    · cases h; rfl
    · split at h <;> cases h
      rfl

theorem callable_once_holds : callable_once := by
  intro κ _ d c i called h
  rw [oneOf_called d c i called h]
  refine ⟨?_, ?_, ?_⟩
  · rintro j rfl hf; simp [calledOf, hf]
  · rintro j rfl hf; simp [calledOf, hf]
  · rintro rfl; rfl

/-! ### non-vacuity: concrete instances of the hypotheses, and the model run on them -/

example : ([2, 0, 1] : List Nat).Perm (List.range 3) := by decide +kernel
example : runPy none [[2, 0, 1], [0, 1, 2], [0, 2, 1], [0, 1, 2], [0, 1, 2], [1, 2, 0], [0, 1, 2]]
    = [some 1, some 0, some 2, some 1, some 2, some 0, some 1] := by decide +kernel
-- the swap at a block junction: the offered outcome ends with the index just returned
example : runPy (some [2]) [[0, 1, 2], [0, 1, 2], [0, 1, 2]] = [some 2, some 0, some 1] := by decide +kernel

end Pyrealb.C20
