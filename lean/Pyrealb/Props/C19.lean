import Pyrealb.Model.LexState
import Pyrealb.Lemmas.LexState
/-! # C19 — lexicon management touches only the named lexicon and affects new words

Property theorems. `Model/LexState` mirrors `Lexicon.py` after fixes 8586a6a and 3c7823e (entries are dict
*objects* in a heap; a new entry is a fresh object holding a shallow copy of the caller's dict) and the lexicon
lookup of `Terminal.setLemma`. The specification is two independent finite maps
`view st : Lang → Lemma → Option (Cat → Option Val)`.

All theorems are for ALL histories / ALL states (induction over the call list, case analysis). The states reached
by any history from a `Good` state (no dict object stored under two keys — true of the lexicons as loaded from
JSON) are `Good` (`unshared_invariant`): since 3c7823e no call can create sharing. -/
namespace Pyrealb.C19
open Pyrealb.LexState

/-- **C19.0** no history makes two (language, lemma) keys hold the same dict object, whatever dicts (the caller's
    own, the same one twice, or objects obtained from `getLemma`) are passed. -/
def unshared_invariant : Prop :=
  ∀ (st₀ : State) (ops : List Op), Good st₀ → Good (run st₀ ops)

theorem unshared_invariant_holds : unshared_invariant := fun st₀ ops hg => good_run st₀ hg ops

/-- **C19.a** `addToLexicon(lemma, infos, lang)` after any history: the entry of `lemma` in the lexicon of
    `lang ?? current` becomes `infos` (new lemma) or the old entry with every category of `infos` replaced
    (existing lemma); every other (language, lemma) keeps its entry. The single-dict form is the same call
    on its first item. -/
def add_refines : Prop :=
  ∀ (st₀ : State) (ops : List Op) (lemma : Lemma) (a : DictArg) (lang : Option LangArg) (l : Lang),
    Good st₀ → resolve (run st₀ ops).cur lang = .ok l →
    view (next (run st₀ ops) (.lex (.add lemma a) lang)) =
        aset (view (run st₀ ops)) l lemma
          (some (storeOrMerge (view (run st₀ ops) l lemma) (argContent (run st₀ ops) a)))
    ∧ ∀ rest, step (run st₀ ops) (.lex (.addSingle ((lemma, a) :: rest)) lang) =
        step (run st₀ ops) (.lex (.add lemma a) lang)

theorem add_refines_holds : add_refines := by
  intro st₀ ops lemma a lang l hg hr
  have hG := good_run st₀ hg ops
  refine ⟨?_, fun rest => ?_⟩
  · rw [next_lex_ok _ _ _ l hr, execNext_add]
    exact view_addCore _ hG l lemma a
  · simp [step, hr, exec]

def emptyState : State := ⟨.en, [], [], fun _ => none, 0, 0, 1⟩
def wLemma : Lemma := ['w']
def dN : DictArg := .lit [(['N'], ['n', '1'])]
def dA : DictArg := .lit [(['A'], ['a', '1'])]

theorem good_empty : Good emptyState :=
  ⟨fun l₁ m₁ l₂ m₂ r h => by cases l₁ <;> simp [emptyState, State.lexOf, dget] at h,
   fun l lemma r h => by cases l <;> simp [emptyState, State.lexOf, dget] at h⟩

/-- **C19.b** `updateLexicon(newLexicon, lang)`: every lemma of `newLexicon` gets the given entry (replacing,
    not merging), in the lexicon of `lang ?? current`; nothing else changes. -/
def update_refines : Prop :=
  ∀ (st₀ : State) (ops : List Op) (nl : List (Lemma × DictArg)) (lang : Option LangArg) (l : Lang),
    Good st₀ → resolve (run st₀ ops).cur lang = .ok l →
    view (next (run st₀ ops) (.lex (.update nl) lang)) =
      specUpdate (view (run st₀ ops)) l (absItems (run st₀ ops) l nl)

theorem update_refines_holds : update_refines := by
  intro st₀ ops nl lang l hg hr
  rw [next_lex_ok _ _ _ l hr, execNext_update]
  exact view_foldStore _ (good_run st₀ hg ops) l nl

/-- **C19.c** `addToLexicon(lemma, None, lang)`: the lemma is absent afterwards from the lexicon of
    `lang ?? current`, nothing else changes, `None` is returned (in every state). -/
def remove_refines : Prop :=
  ∀ (st : State) (lemma : Lemma) (lang : Option LangArg) (l : Lang), resolve st.cur lang = .ok l →
    view (next st (.lex (.remove lemma) lang)) = aset (view st) l lemma none ∧
    ret st (.lex (.remove lemma) lang) = .ok .none

theorem remove_refines_holds : remove_refines := by
  intro st lemma lang l hr
  refine ⟨?_, by simp [ret, step, hr, exec]⟩
  rw [next_lex_ok _ _ _ l hr, execNext_remove]
  exact view_removeAt st l lemma

/-- **C19.d** `getLemma` returns what is stored (the stored object itself, `None` when absent) and changes
    nothing; right after an `add` (and as the value of that `add`) it returns the stored/merged entry, which
    for a new lemma is a NEW object (not the caller's dict) with the same content. -/
def get_after_add : Prop :=
  (∀ (st : State) (lemma : Lemma) (lang : Option LangArg) (l : Lang), resolve st.cur lang = .ok l →
    ret st (.lex (.getLemma lemma) lang) =
      .ok (match entryAt st l lemma with | some (r, e) => .dict r e | none => .none) ∧
    next st (.lex (.getLemma lemma) lang) = st) ∧
  (∀ (st₀ : State) (ops : List Op) (lemma : Lemma) (a : DictArg) (lang : Option LangArg) (l : Lang),
    Good st₀ → resolve (run st₀ ops).cur lang = .ok l →
    ∃ r e, ret (run st₀ ops) (.lex (.add lemma a) lang) = .ok (.dict r e) ∧
      ret (next (run st₀ ops) (.lex (.add lemma a) lang)) (.lex (.getLemma lemma) lang) = .ok (.dict r e) ∧
      entryView e = storeOrMerge (view (run st₀ ops) l lemma) (argContent (run st₀ ops) a) ∧
      (view (run st₀ ops) l lemma = none → r = (run st₀ ops).fresh ∧ e = argContent (run st₀ ops) a))

theorem getLemmaRet_eq (st : State) (l : Lang) (lemma : Lemma) :
    getLemmaRet st l lemma = (match entryAt st l lemma with | some (r, e) => .dict r e | none => .none) := by
  unfold getLemmaRet entryAt
  cases dget lemma (st.lexOf l) <;> rfl

theorem get_after_add_holds : get_after_add := by
  refine ⟨fun st lemma lang l hr => ⟨?_, ?_⟩, ?_⟩
  · simp only [ret, step, hr, exec, getLemmaRet_eq]
  · rw [next_lex_ok _ _ _ l hr]; rfl
  · intro st₀ ops lemma a lang l hg hr
    have hwf := (good_run st₀ hg ops).2
    generalize run st₀ ops = st at hr hwf ⊢
    have hnext : next st (.lex (.add lemma a) lang) = (addCore st l lemma a).2 := next_lex_ok _ _ _ l hr
    have hr' : resolve (next st (.lex (.add lemma a) lang)).cur lang = .ok l := by
      rw [next_lex_ok _ _ _ l hr, cur_execNext]; exact hr
    refine ⟨(stored st l lemma a).1, (stored st l lemma a).2, ?_, ?_, entryView_stored st l lemma a, fun hn => ?_⟩
    · simp only [ret, step, hr, exec, addCore_fst]
    · simp only [ret, step, hr', exec, getLemmaRet_eq]
      rw [hnext, lookup_addCore_same st hwf]
    · rw [stored_of_none st l lemma a hn]; exact ⟨rfl, rfl⟩

/-- the call is about entry `(l', lemma')` -/
def touches (st : State) : Op → Lang → Lemma → Prop
  | .ctl _, _, _ => False
  | .lex o lang, l', lemma' => resolve st.cur lang = .ok l' ∧ lemma' ∈ o.lemmas

/-- **C19.e** a call leaves every entry it is not about unchanged: same object, same content. -/
def other_entries_untouched : Prop :=
  ∀ (st₀ : State) (ops : List Op) (op : Op) (l' : Lang) (lemma' : Lemma),
    Good st₀ → ¬ touches (run st₀ ops) op l' lemma' →
    entryAt (next (run st₀ ops) op) l' lemma' = entryAt (run st₀ ops) l' lemma'

theorem other_entries_untouched_holds : other_entries_untouched := by
  intro st₀ ops op l' lemma' hg hnt
  have hG := good_run st₀ hg ops
  generalize run st₀ ops = st at hnt hG ⊢
  cases op with
  | ctl c =>
    obtain ⟨h1, h2, _⟩ := next_ctl st c
    exact lookup_congr st _ h1 h2 l' lemma'
  | lex o lang =>
    cases hr : resolve st.cur lang with
    | error c => rw [next_lex_err st o lang c hr]
    | ok l =>
      rw [next_lex_ok st o lang l hr]
      exact lookup_execNext_other st hG l o l' lemma' fun ⟨e, hm⟩ => hnt ⟨e ▸ hr, hm⟩

/-- **C19.f** a call with `lang=ℓ` (or, without `lang`, under current language ℓ) never changes the other
    lexicon: neither the dict itself (keys, order, which objects) nor the content of any of its entries. -/
def other_lexicon_untouched : Prop :=
  ∀ (st₀ : State) (ops : List Op) (o : LOp) (lang : Option LangArg) (l l' : Lang),
    Good st₀ → resolve (run st₀ ops).cur lang = .ok l → l' ≠ l →
    (next (run st₀ ops) (.lex o lang)).lexOf l' = (run st₀ ops).lexOf l' ∧
    ∀ lemma', entryAt (next (run st₀ ops) (.lex o lang)) l' lemma' = entryAt (run st₀ ops) l' lemma'

theorem other_lexicon_untouched_holds : other_lexicon_untouched := by
  intro st₀ ops o lang l l' hg hr hne
  have hG := good_run st₀ hg ops
  generalize run st₀ ops = st at hr hG ⊢
  rw [next_lex_ok st o lang l hr]
  exact ⟨lexOf_execNext_other st l o l' hne,
    fun lemma' => lookup_execNext_other st hG l o l' lemma' (fun hc => hne hc.1)⟩

/-- an unknown language raises `KeyError` before anything happens; `load*`/`getLanguage` touch no lexicon -/
def bad_lang_and_load_frame : Prop :=
  (∀ (st : State) (o : LOp), step st (.lex o (some .bad)) = .error .keyError ∧ next st (.lex o (some .bad)) = st) ∧
  (∀ (st : State) (c : Ctl), (∀ l, (next st (.ctl c)).lexOf l = st.lexOf l) ∧ (next st (.ctl c)).heap = st.heap) ∧
  (∀ (st : State), (next st (.ctl .loadEn)).cur = .en ∧ (next st (.ctl .loadFr)).cur = .fr ∧
    (next st (.ctl (.load .en))).cur = .en ∧ (next st (.ctl (.load .fr))).cur = .fr ∧
    (next st (.ctl (.load .bad))).cur = st.cur ∧ ret st (.ctl .getLanguage) = .ok (.lang st.cur))

theorem bad_lang_and_load_frame_holds : bad_lang_and_load_frame := by
  refine ⟨fun st o => ⟨rfl, rfl⟩, fun st c => ⟨(next_ctl st c).1, (next_ctl st c).2.1⟩, fun st => ?_⟩
  simp [next, step, ret]

/-- **C19.g** omitting `lang` is the same as naming the current language, for all five functions. -/
def lang_default_is_current : Prop :=
  ∀ (st : State) (o : LOp), step st (.lex o none) = step st (.lex o (some st.cur.toArg))

theorem lang_default_is_current_holds : lang_default_is_current := by
  intro st o
  cases hc : st.cur <;> simp [step, resolve, Lang.toArg, hc]

/-- **C19.h** no history changes the rules; `getRules(lang)` returns those of `lang ?? current`. -/
def rules_never_change : Prop :=
  (∀ (st : State) (ops : List Op) (l : Lang), (run st ops).rulesOf l = st.rulesOf l) ∧
  (∀ (st : State) (lang : Option LangArg) (l : Lang), resolve st.cur lang = .ok l →
    ret st (.lex .getRules lang) = .ok (.rules l (st.rulesOf l)) ∧ next st (.lex .getRules lang) = st)

theorem rules_next (st : State) (op : Op) (l : Lang) : (next st op).rulesOf l = st.rulesOf l := by
  cases op with
  | ctl c => exact (next_ctl st c).2.2.1 l
  | lex o lang =>
    cases hr : resolve st.cur lang with
    | error c => rw [next_lex_err st o lang c hr]
    | ok l₀ => rw [next_lex_ok st o lang l₀ hr]; exact rules_execNext st l₀ o l

theorem rules_never_change_holds : rules_never_change := by
  refine ⟨fun st ops l => ?_, fun st lang l hr => ⟨by simp [ret, step, hr, exec], ?_⟩⟩
  · induction ops generalizing st with
    | nil => rfl
    | cons op r ih => rw [run_cons, ih, rules_next]
  · rw [next_lex_ok _ _ _ l hr]; rfl

/-- operations of the specification: contents instead of objects -/
inductive SOp where
  | setCur (l : Lang)
  | add (lemma : Lemma) (e : Entry) (lang : Option LangArg)
  | remove (lemma : Lemma) (lang : Option LangArg)
  | update (items : List (Lemma × Entry)) (lang : Option LangArg)
  | skip

structure SState where
  cur : Lang
  maps : Abs

/-- the lexicon a call is about: the named one, else the current one (an unknown name: none) -/
def specTarget (cur : Lang) : Option LangArg → Option Lang
  | none => some cur
  | some .en => some .en
  | some .fr => some .fr
  | some .bad => none

/-- the property text, executed on two independent maps -/
def SState.step (s : SState) : SOp → SState
  | .setCur l => { s with cur := l }
  | .add lemma e lang =>
    match specTarget s.cur lang with
    | none => s
    | some l => { s with maps := aset s.maps l lemma (some (storeOrMerge (s.maps l lemma) e)) }
  | .remove lemma lang =>
    match specTarget s.cur lang with
    | none => s
    | some l => { s with maps := aset s.maps l lemma none }
  | .update items lang =>
    match specTarget s.cur lang with
    | none => s
    | some l => { s with maps := specUpdate s.maps l items }
  | .skip => s

/-- a concrete call read as a specification operation (dict objects replaced by what they contain) -/
def absOp (st : State) : Op → SOp
  | .ctl .loadEn => .setCur .en
  | .ctl .loadFr => .setCur .fr
  | .ctl (.load .en) => .setCur .en
  | .ctl (.load .fr) => .setCur .fr
  | .ctl (.load .bad) => .skip
  | .ctl .getLanguage => .skip
  | .lex (.add lemma a) lang => .add lemma (argContent st a) lang
  | .lex (.addSingle []) _ => .skip
  | .lex (.addSingle ((lemma, a) :: _)) lang => .add lemma (argContent st a) lang
  | .lex (.remove lemma) lang => .remove lemma lang
  | .lex (.update nl) lang => .update (absItems st ((specTarget st.cur lang).getD st.cur) nl) lang
  | .lex (.getLemma _) _ => .skip
  | .lex .getLexicon _ => .skip
  | .lex .getRules _ => .skip

def absOps (st : State) : List Op → List SOp
  | [] => []
  | op :: ops => absOp st op :: absOps (next st op) ops

def absState (st : State) : SState := ⟨st.cur, view st⟩

/-- **C19.i** refinement for whole histories: running any history of calls and then reading the two lexicons
    gives what the specification computes on two independent maps. -/
def history_refines : Prop :=
  ∀ (st₀ : State) (ops : List Op), Good st₀ →
    absState (run st₀ ops) = (absOps st₀ ops).foldl SState.step (absState st₀)

theorem specTarget_eq (cur : Lang) (lang : Option LangArg) : specTarget cur lang = (resolve cur lang).toOption := by
  rcases lang with _ | _ | _ | _ <;> rfl

theorem view_congr (st st' : State) (hl : ∀ l, st'.lexOf l = st.lexOf l) (hh : st'.heap = st.heap) : view st' = view st := by
  funext l lemma
  simp [view, lookup_congr st st' hl hh]

theorem abs_next (st : State) (hg : Good st) (op : Op) : absState (next st op) = (absState st).step (absOp st op) := by
  cases op with
  | ctl c =>
    have hv : view (next st (.ctl c)) = view st := view_congr st _ (next_ctl st c).1 (next_ctl st c).2.1
    cases c with
    | load la => cases la <;> (simp only [absState, hv, absOp, SState.step]; rfl)
    | _ => simp only [absState, hv, absOp, SState.step]; rfl
  | lex o lang =>
    cases hr : resolve st.cur lang with
    | error c =>
      have ht : specTarget st.cur lang = none := by rw [specTarget_eq, hr]; rfl
      rw [next_lex_err st o lang c hr]
      cases o with
      | addSingle items => rcases items with _ | ⟨⟨lemma, a⟩, _⟩ <;> simp [absOp, SState.step, absState, ht]
      | _ => simp [absOp, SState.step, absState, ht]
    | ok l =>
      have ht : specTarget st.cur lang = some l := by rw [specTarget_eq, hr]; rfl
      rw [next_lex_ok st o lang l hr, absState, cur_execNext]
      -- each call against its clause of the specification
      cases o with
      | addSingle items =>
        rcases items with _ | ⟨⟨lemma, a⟩, _⟩ <;> simp [absState, absOp, SState.step, ht, view_addCore st hg]
      | _ => simp [absState, absOp, SState.step, ht, view_addCore st hg, view_removeAt, view_foldStore st hg]

theorem history_refines_holds : history_refines := by
  intro st₀ ops hg
  induction ops generalizing st₀ with
  | nil => rfl
  | cons op r ih =>
    rw [run_cons, ih _ (good_next st₀ hg op), abs_next st₀ hg]
    rfl

abbrev TermSide := Lemma → Prop
def AlwaysT : TermSide := fun _ => True
/-- the lemma has no `œ`/`æ` ligature (`Terminal.setLemma` rewrites them to `oe`/`ae` before the lookup) -/
def Plain : TermSide := fun lemma => normLemma lemma = lemma

/-- **C19.j** after `addToLexicon(lemma, infos, lang)` a newly created terminal of that lemma in the language
    whose lexicon was changed (`lang=` of the terminal given, or omitted under that current language), of a
    category that `infos` gives, reads the NEW value of that category (and the rules of its own language): it
    inflects according to the new information. Whatever the current language is. -/
def NewTerminalUsesNewEntry (S : TermSide) : Prop :=
  ∀ (st : State) (lemma : Lemma) (a : DictArg) (lang tl : Option LangArg) (l : Lang) (cat : Cat) (v : Val),
    Bounded st → S lemma → resolve st.cur lang = .ok l → termLang st.cur tl = l →
    (dkeys (argContent st a)).Nodup → dget cat (argContent st a) = some v →
    lookupForTerminal (next st (.lex (.add lemma a) lang)) tl lemma cat = .found v l (st.rulesOf l)

def new_terminal_uses_new_entry : Prop := NewTerminalUsesNewEntry AlwaysT

theorem lookupForTerminal_eq (st : State) (tl : Option LangArg) (lemma : Lemma) (cat : Cat) :
    lookupForTerminal st tl lemma cat =
      (match entryAt st (termLang st.cur tl) (normLemma lemma) with
       | none => .unknown (termLang st.cur tl)
       | some (_, e) =>
         match dget cat e with
         | none => .otherPOS (termLang st.cur tl) ((dkeys e).filter (fun k => !decide (k = ldv)))
         | some v => .found v (termLang st.cur tl) (st.rulesOf (termLang st.cur tl))) := by
  unfold lookupForTerminal entryAt
  dsimp only
  cases dget (normLemma lemma) (st.lexOf (termLang st.cur tl)) <;> rfl

theorem new_terminal_uses_new_entry_partial : NewTerminalUsesNewEntry Plain := by
  intro st lemma a lang tl l cat v hwf hplain hr ht hnd hv
  rw [lookupForTerminal_eq, next_lex_ok _ _ _ _ hr, cur_execNext, hplain, rules_execNext, ht, execNext_add,
    lookup_addCore_same st hwf]
  have hcat : dget cat (stored st l lemma a).2 = some v :=
    (congrFun (entryView_stored st l _ a) cat).trans (storeOrMerge_nodup _ _ cat v hnd hv)
  simp only [hcat]

/-- `addToLexicon("œ",{"N":"n1"})`, then `N("œ")`: looked up as "oe" — "not in lexicon" -/
theorem new_terminal_uses_new_entry_refuted : ¬ new_terminal_uses_new_entry := by
  intro h
  have h1 := h emptyState ['œ'] dN none none .en ['N'] ['n', '1'] good_empty.2 trivial rfl rfl
    (by decide) (by decide)
  revert h1
  decide

/-- **C19.k** after `addToLexicon(lemma, None, lang)` a newly created terminal of that lemma in that language
    is reported unknown ("not in lexicon", realized `[[lemma]]`). Whatever the current language is. -/
def RemovedIsUnknown (S : TermSide) : Prop :=
  ∀ (st : State) (lemma : Lemma) (lang tl : Option LangArg) (l : Lang) (cat : Cat),
    S lemma → resolve st.cur lang = .ok l → termLang st.cur tl = l →
    lookupForTerminal (next st (.lex (.remove lemma) lang)) tl lemma cat = .unknown l

def removed_is_unknown : Prop := RemovedIsUnknown AlwaysT

theorem removed_is_unknown_partial : RemovedIsUnknown Plain := by
  intro st lemma lang tl l cat hplain hr ht
  rw [lookupForTerminal_eq, next_lex_ok _ _ _ _ hr, cur_execNext, hplain, ht, execNext_remove, lookup_removeAt]
  simp

/-- "oe" in the lexicon, `addToLexicon("œ",None)`, then `N("œ")`: the entry of "oe" is found -/
theorem removed_is_unknown_refuted : ¬ removed_is_unknown := by
  intro h
  have h1 := h (next emptyState (.lex (.add ['o', 'e'] dN) none)) ['œ'] none none .en ['N'] trivial rfl rfl
  revert h1
  decide

/-- the terminal's own language decides, never the current one (the point of fix 8586a6a): two states that differ
    only in the current language give the same lookup to a terminal whose language is named -/
def terminal_lookup_ignores_current : Prop :=
  ∀ (st : State) (c : Lang) (la : LangArg) (lemma : Lemma) (cat : Cat),
    lookupForTerminal (st.setCur c) (some la) lemma cat = lookupForTerminal st (some la) lemma cat

theorem terminal_lookup_ignores_current_holds : terminal_lookup_ignores_current := by
  intro st c la lemma cat
  cases la <;> simp [lookupForTerminal, termLang]

/-! ### non-vacuity and tests (concrete instances; these are tests, not property theorems) -/

-- a history: one dict per lexicon, then a merge and a removal
def freshHistory : List Op :=
  [.lex (.add wLemma dN) (some .en), .ctl .loadFr, .lex (.add wLemma dA) none,
   .lex (.add wLemma (.lit [(['V'], ['v', '1'])])) (some .en), .lex (.remove wLemma) (some .fr)]

/-- the former aliasing witness: the stored object of the English "w" passed again as the French "w", then an
    `add` to the English one — the French entry is a copy and keeps its content (3c7823e) -/
def formerlySharing : List Op :=
  [.lex (.add wLemma dN) (some .en), .lex (.add wLemma (.obj 0)) (some .fr), .lex (.add wLemma dA) (some .en)]

example : (view (run emptyState formerlySharing) .fr wLemma).map (fun m => (m ['N'], m ['A']))
    = some (some ['n', '1'], none) := by decide +kernel
example : (view (run emptyState formerlySharing) .en wLemma).map (fun m => (m ['N'], m ['A']))
    = some (some ['n', '1'], some ['a', '1']) := by decide +kernel
example : (entryAt (run emptyState formerlySharing) .en wLemma).map Prod.fst = some 0 ∧
    (entryAt (run emptyState formerlySharing) .fr wLemma).map Prod.fst = some 1 := by decide +kernel
example : (view (run emptyState freshHistory) .en wLemma).map (fun m => (m ['N'], m ['V'], m ['A']))
    = some (some ['n', '1'], some ['v', '1'], none) := by decide +kernel
example : (view (run emptyState freshHistory) .fr wLemma).isNone = true := by decide +kernel
example : (run emptyState freshHistory).cur = .fr := by decide +kernel
-- terminal under the current language sees the new entry; after removal it is unknown
example : lookupForTerminal (next emptyState (.lex (.add wLemma dN) none)) none wLemma ['N'] = .found ['n', '1'] .en 0 := by decide +kernel
example : lookupForTerminal (next emptyState (.lex (.add wLemma dN) none)) none wLemma ['V'] = .otherPOS .en [['N']] := by decide +kernel
-- a French terminal created under `loadEn()` sees the French lexicon (fix 8586a6a)
example : lookupForTerminal (next emptyState (.lex (.add wLemma dN) (some .fr))) (some .fr) wLemma ['N'] = .found ['n', '1'] .fr 1 := by decide +kernel
example : lookupForTerminal (next emptyState (.lex (.add wLemma dN) (some .fr))) none wLemma ['N'] = .unknown .en := by decide +kernel
-- single-dict form with an empty dict: IndexError, after the language was resolved
example : step emptyState (.lex (.addSingle []) none) = .error .indexError := by rfl
example : step emptyState (.lex (.addSingle []) (some .bad)) = .error .keyError := by rfl

end Pyrealb.C19
