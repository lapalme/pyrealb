import Pyrealb.Lemmas.ClauseFrPlain
import Pyrealb.Lemmas.ClauseFrPlainNeg
import Pyrealb.Model.ClauseFrRealize
/-! # C08 (French half) — the constituent and the dependency notation of the same clause realize identically

`realize .phrase sp` and `realize .dep sp` are the two halves of the model (`ClauseFrPhrase`, `ClauseFrDep`), each tied
to its implementation by the correspondence sweep. The two implementations are separately written
(`Phrase.py/PhraseFr.py` vs `Dependent.py/DependentFr.py`) and share only the mixin `NonTerminalFr`
(`doPronounPlacement`, `checkAdverbPos`) and the terminals. -/
namespace Pyrealb.C08Fr
open Pyrealb Pyrealb.ClauseFr Pyrealb.Gen.ClauseFr

/-- **C08-fr**: every clause specification realizes to the same tokens (and the same exception) in both notations -/
def notations_agree_fr : Prop := ∀ sp : Spec, realize .phrase sp = realize .dep sp

/-! ### witnesses (each one evaluated through the complete model of both pipelines) -/

def mangerLex : VerbLex :=
  { lemma := "manger".toList, aux := "av".toList, pat := some ["tdir".toList], hasTab := true, ending := "ger".toList,
    p := [some "ge".toList, some "ges".toList, some "ge".toList, some "geons".toList, some "gez".toList, some "gent".toList],
    i := [], f := [], ps := [], c := [], s := [], si := [], ip := [], b := some "ger".toList, pr := none,
    pp := .list [some "gé".toList, some "gée".toList, some "gés".toList, some "gées".toList] }
def il : SubjA := .pro false 3 .s .m
def ils : SubjA := .pro false 3 .p .m
def chat (i : Nat) (g : Gd := .m) (pro : Bool := false) : NPA := { id := i, g := g, n := .s, pro := pro }

/-- « Le chat est mangé par lui » / « … par il »: `DependentFr`'s passivate drops the tonic form of a pronoun subject -/
def passiveProSubject : Spec :=
  { subj := some il, verb := mangerLex, t := .p, comps := [.dir (chat 1)], typ := { pas := true } }
/-- « mangé par le chat dans le chat » / « mangé dans le chat par le chat »: the agent is inserted where the object was
    (constituents) or appended (dependencies) -/
def passiveAgentOrder : Spec :=
  { subj := some (.np (chat 0)), verb := mangerLex, t := .p, comps := [.dir (chat 1), .pp "dans".toList (chat 2)],
    typ := { pas := true } }
/-- « Qui mangent ? » / « Qui mange ? »: `wos` resets the number of the verb on the dependency side only -/
def wosPlural : Spec :=
  { subj := some ils, verb := mangerLex, t := .p, comps := [], typ := { int := some "wos".toList } }
/-- « À qui mange-t-il ? »: agrees since commit 38d9ad6 (`preposition_list` moved to the shared mixin; before, the
    dependency notation raised AttributeError) -/
def woiPrep : Spec :=
  { subj := some il, verb := mangerLex, t := .p, comps := [.pp "à".toList (chat 1)], typ := { int := some "woi".toList } }
/-- « Où mange-t-il au chat dans le chat ? » / « Où mange-t-il au chat ? »: the constituent notation only looks at the FIRST
    prepositional phrase of the VP, the dependency notation removes the first one whose preposition qualifies -/
def wheSecondPP : Spec :=
  { subj := some il, verb := mangerLex, t := .p, comps := [.pp "à".toList (chat 1), .pp "dans".toList (chat 2)],
    typ := { int := some "whe".toList } }
/-- « Il l'a pu manger » / « Il l'a [[pouvoir]] manger »: the dependency side keeps the `cod` of the pronominalized object
    on the verb that becomes the modal, whose participle then has to agree with it -/
def modalCod : Spec :=
  { subj := some il, verb := mangerLex, t := .pc, comps := [.dir (chat 1 .f true)], typ := { mod := some "poss".toList } }
/-- « Il mange avec lui » / « Il mange avec il » -/
def otherPrepPro : Spec :=
  { subj := some il, verb := mangerLex, t := .p, comps := [.pp "avec".toList (chat 1 .m true)], typ := {} }
/-- « Je peux me manger » / « Je peux se manger »: `.typ({refl:true, mod:"poss"})` with a 1st person subject and a verb
    whose pattern accepts « réfl » — the infinitive created by the modality shares the person of the subject in the
    constituent notation only -/
def reflModalPerson : Spec :=
  { subj := some (.pro false 1 .s .m), verb := { mangerLex with pat := some ["tdir".toList, "réfl".toList] }, t := .p,
    comps := [], typ := { mod := some "poss".toList, refl := true } }

theorem notations_agree_fr_refuted : ¬ notations_agree_fr := by
  intro h
  exact absurd (h passiveProSubject) (by decide +kernel)

theorem disagree_passive_agent_order : realize .phrase passiveAgentOrder ≠ realize .dep passiveAgentOrder := by decide +kernel
theorem disagree_wos_plural : realize .phrase wosPlural ≠ realize .dep wosPlural := by decide +kernel
theorem agree_woi_prep : realize .phrase woiPrep = realize .dep woiPrep ∧ (realize .phrase woiPrep).isOk = true := by decide +kernel
theorem disagree_whe_second_pp : realize .phrase wheSecondPP ≠ realize .dep wheSecondPP := by decide +kernel
theorem disagree_modal_cod : realize .phrase modalCod ≠ realize .dep modalCod := by decide +kernel
theorem disagree_other_prep_pronoun : realize .phrase otherPrepPro ≠ realize .dep otherPrepPro := by decide +kernel
theorem disagree_refl_modal_person : realize .phrase reflModalPerson ≠ realize .dep reflModalPerson ∧
    (realize .phrase reflModalPerson).isOk = true ∧ (realize .dep reflModalPerson).isOk = true := by decide +kernel

/-! ### what does agree: the shared placement step -/

/-- **clitic_agree** (partial): `doPronounPlacement` gives the same result on the flat list of the whole clause
    (dependency notation) and on the list of the VP with the rest put in front afterwards (constituent notation),
    whenever no token before the VP is a verb — for any subject, prefix, complements and flags -/
def clitic_agree : Prop :=
  ∀ (refl : Bool) (front vp : List Tok), (∀ t ∈ front, t.isV = false) →
    placePronouns refl (front ++ vp) = (placePronouns refl vp).map (fun out => front ++ out)

theorem clitic_agree_holds : clitic_agree := place_prefix

/-- non-vacuity of `clitic_agree`: a pronoun subject in front, a negated verb with a clitic behind -/
example : placePronouns false ([Tok.pro { lemma := je, c := none, tn := false, pe := 3, n := .s, g := .m } "il".toList] ++
      [Tok.v { mkV mangerLex .p with neg2 := some pas } "mange".toList,
       Tok.pro { lemma := "elle".toList, c := some .acc, tn := false, pe := 3, n := .s, g := .f } "la".toList])
    = .ok [Tok.pro { lemma := je, c := none, tn := false, pe := 3, n := .s, g := .m } "il".toList, .adv ne,
           Tok.pro { lemma := "elle".toList, c := some .acc, tn := false, pe := 3, n := .s, g := .f } "la".toList,
           Tok.v (mkV mangerLex .p) "mange".toList, .q pas] := by decide +kernel

/-! ### the plain fragment -/

/-- **partial**: a clause WITHOUT sentence-type flags, in any tense but the imperative, with any subject (pronoun, noun
    phrase, none) and ANY NUMBER of direct / prepositional complements in any order, none of them pronominalized,
    whose verb is not essentially reflexive, realizes to the same tokens in both notations (when the verb conjugates
    and no realization is empty). That the conjugated verb gives `doPronounPlacement` nothing to do is PROVED
    (`conjugate_inert`). Every flag and every pronominalization outside this fragment has a refuting witness above
    or in `known_findings.d/C08fr.json` (the roots found by the small-scope exploration). -/
theorem notations_agree_fr_partial (sp : Spec) (hp : Plain sp) (hnr : sp.verb.pat ≠ some [reflStr])
    (cv : List Tok × Bool) (hcv : conjugate (plainVerb sp) false none = .ok cv)
    (hne : ∀ t ∈ subjToks sp ++ cv.1 ++ compToks sp, t.form ≠ []) :
    realize .phrase sp = realize .dep sp := by
  have hN : PlainN sp := by
    have ht := hp.typ
    exact ⟨by rw [ht], by rw [ht], by rw [ht], by rw [ht], by rw [ht], hp.tense, hp.vpe, hp.vn, hp.comps, hp.subj⟩
  have hnv : negVerb sp = plainVerb sp := by simp [negVerb, hp.typ]
  rw [← hnv] at hcv
  have hiv : InertV (plainVerb sp) := by
    refine ⟨?_, ?_, ?_, ?_, ?_⟩ <;> simp [plainVerb, Spec.verbT, mkV, hnr]
  have hin : ∀ t ∈ subjToks sp ++ (cv.1 ++ compToks sp), Inert false t := by
    have h1 := conjugate_inert _ _ hiv (hnv ▸ hcv)
    have h2 := plain_inert sp (fun c hc => by have := hp.comps c hc; cases c <;> trivial)
    obtain ⟨hs, hc⟩ := List.forall_mem_append.mp h2
    exact List.forall_mem_append.mpr ⟨hs, List.forall_mem_append.mpr ⟨h1, hc⟩⟩
  have hne' : ∀ t ∈ subjToks sp ++ (cv.1 ++ compToks sp), t.form ≠ [] := by rwa [← List.append_assoc]
  simp only [realize, realizePhrase, realizeDep, plainN_phrase sp hN cv hcv (fun t ht => hne' t (List.mem_append_right _ ht)),
    plainN_dep sp hN cv hcv hne, place_inert false _ hin,
    place_inert false _ (fun t ht => hin t (List.mem_append_right _ ht)), Except.map, removeEmpty_id _ hne', ite_self]

/-- non-vacuity: « le chat mange le chat dans le chat » satisfies the hypotheses -/
def plainWitness : Spec :=
  { subj := some (.np (chat 0)), verb := mangerLex, t := .pc, comps := [.dir (chat 1), .pp "dans".toList (chat 2)], typ := {} }

example : Plain plainWitness :=
  ⟨rfl, by decide, rfl, rfl,
   by intro c hc; simp [plainWitness] at hc; rcases hc with rfl | rfl <;> rfl,
   by simp [plainWitness, chat]⟩
example : plainWitness.verb.pat ≠ some [reflStr] := by decide +kernel
example : ∃ cv, conjugate (plainVerb plainWitness) false none = .ok cv ∧
    (∀ t ∈ subjToks plainWitness ++ cv.1 ++ compToks plainWitness, t.form ≠ []) := by
  refine ⟨([.v _ _, .v _ _], false), rfl, ?_⟩
  decide

/-! ### the plain fragment with a negation -/

/-- **partial, with negation**: a clause whose only sentence-type flag is a negation (`neg: true` or any second
    negative word), in any tense but the imperative, with any subject and ANY NUMBER of non-pronominalized direct /
    prepositional complements in any order, whose verb is not essentially reflexive and conjugates (first token a
    verb form), realizes to the same tokens in both notations: the constituent notation runs `doPronounPlacement` on
    the tokens of the VP and puts the subject in front, the dependency notation runs it on the whole clause
    (`place_prefix`); that the result holds no empty realization is PROVED from the closed form of the placement.
    Clauses with PRONOMINALIZED complements are not covered: the two notations pronominalize with different code
    (`PhraseFr.pronominalize` / `DependentFr.pronominalize`) and do disagree there (`disagree_other_prep_pronoun`,
    `disagree_modal_cod`, the `dir.pro.agr` roots of known_findings.d/C08fr.json). -/
theorem notations_agree_fr_neg (sp : Spec) (hp : PlainN sp) (hnr : sp.verb.pat ≠ some [reflStr])
    (hw : ∀ nv, sp.typ.neg = some nv → nv.word2 ≠ [])
    (cv : List Tok × Bool) (hcv : conjugate (negVerb sp) false none = .ok cv)
    (y : VT) (f : Str) (tl : List Tok) (hhead : cv.1 = .v y f :: tl)
    (hne : ∀ t ∈ subjToks sp ++ cv.1 ++ compToks sp, t.form ≠ []) :
    realize .phrase sp = realize .dep sp := by
  have hnv : (negVerb sp).isMod = false ∧ (negVerb sp).isProg = false ∧ (negVerb sp).pat ≠ some [reflStr] := by
    unfold negVerb
    split <;> simp [plainVerb, Spec.verbT, mkV, hnr]
  obtain ⟨hd, tl', hr, htl, hhd⟩ := conj_first (negVerb sp) false none cv (fun _ hq => nomatch hq) hcv
  rw [hhead] at hr
  obtain ⟨rfl, rfl⟩ := List.cons.inj hr
  obtain ⟨hyn, _, h3, h4, h5⟩ := hhd y f rfl
  have hym : y.isMod = false := Bool.eq_false_iff.mpr fun h => by rw [h3 h] at hnv; cases hnv.1
  have hyp : y.isProg = false := Bool.eq_false_iff.mpr fun h => by rw [h4 h] at hnv; cases hnv.2.1
  have hyr : isReflexive y false = .ok false :=
    isRefl_false y fun h => by rw [isRefl_false _ hnv.2.2] at h5; cases h5 h
  have hne' : ∀ t ∈ subjToks sp ++ (cv.1 ++ compToks sp), t.form ≠ [] := by rwa [← List.append_assoc]
  have hvp : ∀ t ∈ cv.1 ++ compToks sp, t.form ≠ [] := fun t ht => hne' t (List.mem_append_right _ ht)
  have hpost : ∀ t ∈ tl ++ compToks sp, TokTailOk t :=
    List.forall_mem_append.mpr ⟨htl, fun t ht => tokTailOk_of_noV t (compToks_noV sp t ht)⟩
  have hyw : ∀ w, y.neg2 = some w → w ≠ [] := by
    intro w hwy
    rw [hyn] at hwy
    unfold negVerb at hwy
    cases hn : sp.typ.neg with
    | none => simp [hn, plainVerb, Spec.verbT, mkV] at hwy
    | some nv =>
      simp only [hn, Option.some.injEq] at hwy
      subst hwy
      exact hw nv hn
  rw [hhead] at hvp
  obtain ⟨placed, hpl, hpne⟩ := place_plain_forms y f (tl ++ compToks sp) hym hyp hyr hpost
    (hvp (.v y f) List.mem_cons_self) hyw (fun t ht => hvp t (List.mem_cons_of_mem _ ht))
  have hpl' : placePronouns false (cv.1 ++ compToks sp) = .ok placed := by rw [hhead]; exact hpl
  have hroot : rootIsVToks cv.1 = true := by rw [hhead]; cases tl <;> rfl
  have hall : ∀ t ∈ subjToks sp ++ placed, t.form ≠ [] :=
    List.forall_mem_append.mpr ⟨(List.forall_mem_append.mp hne').1, hpne⟩
  simp only [realize, realizePhrase, realizeDep, plainN_phrase sp hp cv hcv (hhead ▸ hvp), plainN_dep sp hp cv hcv hne,
    hroot, if_true, place_prefix false _ _ (subjToks_noV sp), hpl', Except.map, removeEmpty_id _ hall]

/-- non-vacuity: « le chat ne mange plus le chat dans le chat » (passé composé: « n'a plus mangé ») -/
def negWitness : Spec :=
  { subj := some (.np (chat 0)), verb := mangerLex, t := .pc, comps := [.dir (chat 1), .pp "dans".toList (chat 2)],
    typ := { neg := some (.word "plus".toList) } }

example : PlainN negWitness :=
  ⟨rfl, rfl, rfl, rfl, rfl, by decide, rfl, rfl,
   by intro c hc; simp [negWitness] at hc; rcases hc with rfl | rfl <;> rfl,
   by simp [negWitness, chat]⟩
example : ∃ cv y f tl, conjugate (negVerb negWitness) false none = .ok cv ∧ cv.1 = .v y f :: tl ∧
    (∀ t ∈ subjToks negWitness ++ cv.1 ++ compToks negWitness, t.form ≠ []) := by
  refine ⟨([.v _ _, .v _ _], false), _, _, _, rfl, rfl, ?_⟩
  decide
example : realize .phrase negWitness = realize .dep negWitness ∧ (realize .dep negWitness).isOk = true ∧
    (realize .dep negWitness).map (fun o => (o.toks.filter (fun t => t.kind ≠ ['N','P'])).map OutTok.form) =
      .ok ["ne".toList, "a".toList, "plus".toList, "mangé".toList, "dans".toList] := by decide +kernel

end Pyrealb.C08Fr
