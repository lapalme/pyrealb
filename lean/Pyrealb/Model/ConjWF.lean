import Pyrealb.Model.ConjEn
import Pyrealb.Model.ConjFr
/-! # Well-formedness of conjugation data (decidable; hypotheses of the C01 theorems)

`wfTableEn`/`wfTableFr` describe the shape of a table that the conjugation code is written for; they are PROVED of
every table in use by `decide +kernel` over the generated tables (`Lemmas/ConjTables`; stated in `Props/C01`), and `wfVerbEn`/`wfVerbFr` are
evaluated by the compiled driver on every verb entry of the real lexicons on every run (op `sweep`). -/
namespace Pyrealb.Conj
open Pyrealb

def Row.isStr : Row → Bool
  | .str _ => true
  | _ => false

def Row.isListOf (k : Nat) : Row → Bool
  | .list l => l.length == k
  | _ => false

def Row.isNull : Row → Bool
  | .null => true
  | _ => false

/-- English: rows among `b p ps pp pr`; `b pp pr` strings; `p ps` a string or six cells -/
def wfRowEn (code : Str) (r : Row) : Bool :=
  match Tense.ofCode? code with
  | some .b | some .pp | some .pr => r.isStr
  | some .p | some .ps => r.isStr || r.isListOf 6
  | _ => false

def wfTableEn (tb : Table) : Bool :=
  tb.hasT && tb.rows.all (fun kr => wfRowEn kr.1 kr.2)

/-- French: the eight finite rows have six cells, `pp` four cells, `pr` a string or null, `b` a string -/
def wfRowFr (code : Str) (r : Row) : Bool :=
  match Tense.ofCode? code with
  | some .p | some .i | some .f | some .ps | some .c | some .s | some .si | some .ip => r.isListOf 6
  | some .pp => r.isListOf 4
  | some .pr => r.isStr || r.isNull
  | some .b => r.isStr
  | _ => false

def frRowCodes : List Tense := [.p, .i, .f, .ps, .c, .s, .si, .ip, .pr, .pp, .b]

def wfTableFr (tb : Table) : Bool :=
  tb.hasT && tb.rows.all (fun kr => wfRowFr kr.1 kr.2) &&
  frRowCodes.all (fun t => (tb.row? t.code).isSome)

/-- the verb's table exists, is well formed, and the lemma ends with the table's ending -/
def wfVerb (wfTable : Table → Bool) (rules : Rules) (v : Verb) : Bool :=
  match lookup v.tab rules with
  | some tb => wfTable tb && endsWith v.lemma tb.ending
  | none => false

def wfVerbEn := wfVerb wfTableEn
def wfVerbFr := wfVerb wfTableFr

/-- why a verb entry is not well formed (reported by the driver's sweep) -/
def wfReason (wfTable : Table → Bool) (rules : Rules) (v : Verb) : String :=
  match lookup v.tab rules with
  | none => "table-missing"
  | some tb => if !(wfTable tb) then "table-shape" else if !(endsWith v.lemma tb.ending) then "ending-not-suffix" else "ok"

end Pyrealb.Conj
