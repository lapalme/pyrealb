import Pyrealb.Model.Lemmatize
import Pyrealb.Gen.ConjEn
import Pyrealb.Gen.ConjFr
import Pyrealb.Gen.DeclEn
import Pyrealb.Gen.DeclFr
/-! # C18 — the declarative side (which forms an entry can take) and the decidable hypotheses of the theorems

* `derivable…`: the forms a lexicon entry can take *according to its table*: every non-null cell of every row, asked
  of the realizer with the cell's OWN coordinates as options (tense/person/number, or gender/number of a participle;
  every feature of a declension row) and kept when the realizer answers that very cell without a warning.  No
  reference to `lemmatize.py`'s option inference.  This is the spec side of `expand_complete`.
* `wfConj…`, `DistinctRows…`, `CtorOK`: decidable hypotheses of the soundness theorems; proved of every generated
  table by `decide +kernel` (`Lemmas/ConjTables`, `Lemmas/DeclTables`; stated in `Props/C18`), evaluated on every real lexicon entry by the driver (`entryWF`). -/
namespace Pyrealb.Lemmatize
open Pyrealb Pyrealb.Decl

/-! ## forms derivable from a conjugation table -/

/-- the verb's own token when `conjugate` succeeds without a warning -/
def verbForm (env : Env) (lemma : Str) (verb : Option Conj.Verb) (o : VOpts) : Option Str :=
  match env.lang with
  | .en =>
    match ConjEn.conjugate env.conj env.en lemma verb o.pe o.n o.t with
    | .ok r => if r.warns = 0 then some r.self else none
    | .error _ => none
  | .fr =>
    match ConjFr.conjugate env.conj env.fr lemma verb none o.pe o.n o.g o.t with
    | .ok r => if r.warns = 0 then (r.toks.find? (·.isV)).map (·.real) else none
    | .error _ => none

def personOf (i : Nat) : Conj.Person := if i % 3 = 0 then .p1 else if i % 3 = 1 then .p2 else .p3

/-- the coordinates of the cells of one row: (cell, options) -/
def rowCoords (t : Conj.Tense) : Conj.Row → List (Str × VOpts)
  | .null => []
  | .str x => [(x, { t := t })]
  | .list l =>
    if l.length = 6 then
      (List.range 6).filterMap (fun i => match l[i]? with
        | some (some c) => some (c, { t := t, pe := personOf i, n := if i ≥ 3 then .p else .s })
        | _ => none)
    else if l.length = 4 then
      (List.range 4).filterMap (fun i => match l[i]? with
        | some (some c) => some (c, { t := t, g := if i % 2 = 1 then .f else .m, n := if i ≥ 2 then .p else .s })
        | _ => none)
    else []

/-- every form the verb can take according to its table -/
def derivableConj (env : Env) (lemma : Str) (verb : Option Conj.Verb) : List Str :=
  match verb with
  | none => []
  | some v =>
    match lookup v.tab env.conj with
    | none => []
    | some tb =>
      if endsWith lemma tb.ending then
        let radical := dropRight lemma tb.ending.length
        tb.rows.flatMap (fun (kr : Str × Conj.Row) =>
          match Conj.Tense.ofCode? kr.1 with
          | none => []
          | some t =>
            (rowCoords t kr.2).filterMap (fun (c, o) =>
              if verbForm env lemma verb o = some (radical ++ c) then some (radical ++ c) else none))
      else []

/-! ## forms derivable from a declension table -/

/-- a row's features as option calls (`own` is set by `.ow()`; features without an option method are skipped) -/
def rowOpts (d : Row) : List (Str × OV) :=
  d.feats.filterMap (fun (ft, v) =>
    match ft with
    | .g => some ("g".toList, fvToOV v)
    | .n => some ("n".toList, fvToOV v)
    | .pe => some ("pe".toList, fvToOV v)
    | .own => some ("ow".toList, fvToOV v)
    | .tn => some ("tn".toList, fvToOV v)
    | .c => some ("c".toList, fvToOV v)
    | .f => some ("f".toList, fvToOV v)
    | _ => none)

def derivableDecl (env : Env) (lex : Lex) (lemma : Str) (pos : Pos) (tab : Str) : List Str :=
  match lookup tab env.decl with
  | none =>
    -- not a declension table ("regular"): the bare terminal
    (match realize env.decl lex ⟨env.lang, pos, lemma, []⟩ with
     | .ok o => if o.warns = 0 ∧ detok o.toks = lemma then [lemma] else []
     | .error _ => [])
  | some tb =>
    if endsWith lemma tb.ending then
      let radical := dropRight lemma tb.ending.length
      tb.rows.filterMap (fun d =>
        match realize env.decl lex ⟨env.lang, pos, lemma, rowOpts d⟩ with
        | .ok o => if o.warns = 0 ∧ detok o.toks = radical ++ d.val then some (radical ++ d.val) else none
        | .error _ => none)
    else []

/-- (form, pos) for every form derivable from the tables of one lexicon entry -/
def derivableEntry (env : Env) (lex : Lex) (lemma : Str) (verb : Option Conj.Verb) (entry : List (Str × EVal)) :
    List (Str × Str) :=
  entry.flatMap (fun (pos, val) =>
    if skipKeys.contains pos then []
    else if pos = "V".toList then (derivableConj env lemma verb).map (fun f => (f, pos))
    else
      match val with
      | .scalar => []
      | .dict e =>
        match lookup "tab".toList e with
        | some (.str tab) =>
          match posOf? pos with
          | some p => (derivableDecl env lex lemma p tab).map (fun f => (f, pos))
          | none => [(lemma, pos)]
        | _ => [])

/-! ## hypotheses of the conjugation theorems -/

def noLeadSpace (x : Str) : Bool := x.head? != some ' '

def Conj.Row.cellsOK : Conj.Row → Bool
  | .null => true
  | .str x => noLeadSpace x
  | .list l => l.all (fun c => match c with | some x => noLeadSpace x | none => true)

/-- no ending of the table starts with a blank (`detokenize` drops one leading blank of a token) -/
def cellsNoLeadSpace (tb : Conj.Table) : Bool := tb.rows.all (fun kr => Conj.Row.cellsOK kr.2)

/-- French imperative: no form for the persons the realizer refuses (1s, 3s, 3p) -/
def ipOK (tb : Conj.Table) : Bool :=
  match tb.row? "ip".toList with
  | some (.list l) => l[0]? == some none && l[2]? == some none && l[5]? == some none
  | _ => true

/-- the tense keys of the `"t"` dictionary are distinct (a JSON object) -/
def keysNodup (tb : Conj.Table) : Bool := decide ((tb.rows.map (·.1)).Nodup)

/-- the verb's table is the kind of table the expansion is written for -/
def wfConjEn (tb : Conj.Table) : Bool := Conj.wfTableEn tb && cellsNoLeadSpace tb && keysNodup tb
def wfConjFr (tb : Conj.Table) : Bool := Conj.wfTableFr tb && cellsNoLeadSpace tb && keysNodup tb && ipOK tb

/-! ## hypotheses of the declension theorem (open classes `N`, `A`, `Adv`)

`DistinctRows`: every row that the expansion lists is the row that the realizer's `bestMatch` selects for the request
built from the options `genExp` infers (and no veto of the realizer applies).  It depends on the entry only through
`Ctor`: what a freshly constructed terminal carries (`getProp("g")`, `getProp("n")`: the lexicon's value or the
default) and the two lexicon values `genExp`/the vetoes read. -/

structure Ctor where
  /-- `getProp("g")` / `getProp("n")` of the fresh terminal (`FV.none` = Python `None`) -/
  g : FV
  n : FV
  /-- `lexicon[lemma][pos].get("g")`, `.get("cnt")` -/
  lexG : Option LV := none
  cnt : Option LV := none
  deriving DecidableEq, Repr

/-- the rows the `seenVals` filter lets through: the first row of each `val` -/
def firstRows : List Row → List Str → List Row
  | [], _ => []
  | d :: ds, seen => if seen.contains d.val then firstRows ds seen else d :: firstRows ds (seen ++ [d.val])

/-- the value of the LAST call of option `name` (a later call overwrites an earlier one) -/
def optVal (name : String) (opts : List (Str × OV)) : Option OV :=
  opts.foldl (fun acc o => if o.1 = name.toList then some o.2 else acc) none

/-- `getProp(name)` after the option calls; `ctor` = its value on the fresh terminal -/
def afterOpts (name : String) (opts : List (Str × OV)) (ctor : FV) : FV :=
  opts.foldl (fun acc o => if o.1 = name.toList then o.2.toFV else acc) ctor

/-- every option is `g`, `n` or `f`, applicable to the part of speech, with a value its method accepts (else the
    call only warns and sets nothing) -/
def optsValid (pos : Pos) (opts : List (Str × OV)) : Bool :=
  opts.all (fun o =>
    (o.1 = "g".toList ∨ o.1 = "n".toList ∨ o.1 = "f".toList) && decide (pos ∈ allowedPos o.1) &&
    match validVals o.1 with
    | some vals => vals.contains o.2
    | none => false)

/-- the ending the realizer attaches for request `kv`: the single row's, else `bestMatch` (Terminal.decline) -/
def selRow (rows : List Row) (kv : KeyVals) (val : Str) : Bool :=
  match rows with
  | [d1] => d1.val == val
  | rows => bestMatch rows kv == some val

/-- `check_gender_lexicon` (French) / `check_countable` (English) let the form through -/
def nounOK (lang : Lang) (lexG cnt : Option LV) (g n : FV) : Bool :=
  match lang with
  | .fr => (match lexG with
      | some lg => decide (lg.toFV = FV.x ∨ lg.toFV = g)
      | none => false)
  | .en => decide (n ≠ fvStr "p") ||
      (match cnt with
       | some cn => decide (cn ≠ LV.str "no".toList)
       | none => false)

/-- `g`/`n` of the request of a noun: `None` is replaced by `m`/`s` (Terminal.decline) -/
def dfltG (g : FV) : FV := if g = .none then fvStr "m" else g
def dfltN (n : FV) : FV := if n = .none then fvStr "s" else n

/-- row `d`, listed with expression `e`, is what the realizer answers for `e` -/
def rowOK (lang : Lang) (pos : Pos) (name : Str) (tb : Table) (c : Ctor) (d : Row) (e : Exp) : Bool :=
  optsValid pos e.opts &&
  match pos with
  | .N =>
    let g := dfltG (afterOpts "g" e.opts c.g)
    let n := dfltN (afterOpts "n" e.opts c.n)
    optVal "f" e.opts == none &&
    selRow tb.rows [(Feat.g, g), (Feat.n, n)] d.val && nounOK lang c.lexG c.cnt g n
  | .A | .Adv =>
    (match lang with
     | .fr => optVal "f" e.opts == none &&
        bestMatch tb.rows [(Feat.g, afterOpts "g" e.opts c.g), (Feat.n, afterOpts "n" e.opts c.n)] == some d.val
     | .en => (match optVal "f" e.opts with
        | none => d.val == tb.ending                              -- no comparison: the lemma itself
        | some (.str fs) => decide (name ≠ "a1".toList) && decide (name ≠ "b1".toList) &&
                    bestMatch tb.rows [(Feat.f, .str fs)] == some d.val
        | some _ => false))
  | _ => false

def rowNoLeadSpace (tb : Table) : Bool := tb.rows.all (fun d => noLeadSpace d.val)

def DistinctRows (lang : Lang) (pos : Pos) (name : Str) (tb : Table) (c : Ctor) : Bool :=
  rowNoLeadSpace tb &&
  (firstRows tb.rows []).all (fun d =>
    match genExpCore lang d pos.name [] c.lexG c.cnt with
    | .ok (some e) => rowOK lang pos name tb c d e
    | _ => true)

/-- what the constructor leaves on the terminal, as far as the theorem needs it (decidable; evaluated by the driver
    on every real entry) -/
def ctorOK (rules : Decl.Rules) (lex : Lex) (lang : Lang) (pos : Pos) (lemma name : Str) (radical : Str)
    (entry : PosEntry) (c : Ctor) : Bool :=
  match mkTerm rules lex lang pos lemma with
  | .error _ => false
  | .ok t0 =>
    t0.lang = lang && t0.pos = pos && t0.lemma = lemma && t0.tab = some name && t0.stem = some radical &&
    t0.getG = c.g && t0.getN = c.n && t0.pOwn = none && t0.pF = none && t0.warns = 0 &&
    lexPos lex lemma pos.name = some entry && lookup "g".toList entry = c.lexG && lookup "cnt".toList entry = c.cnt

/-- the `Ctor` of a real entry -/
def ctorOf (rules : Decl.Rules) (lex : Lex) (lang : Lang) (pos : Pos) (lemma : Str) (entry : PosEntry) : Ctor :=
  match mkTerm rules lex lang pos lemma with
  | .ok t0 => { g := t0.getG, n := t0.getN, lexG := lookup "g".toList entry, cnt := lookup "cnt".toList entry }
  | .error _ => { g := .none, n := .none }

/-- the part-of-speech classes of the declension tables, by the first letter of the table id: `n…` nouns (and, in
    French, adjectives), `a…` English adjectives, `b…` English adverbs.  (`d…`, `pn…`: determiners and pronouns.) -/
def classOf (lang : Lang) (pos : Pos) (name : Str) : Bool :=
  match lang, pos with
  | _, .N => name.head? == some 'n'
  | .en, .A => name.head? == some 'a'
  | .fr, .A => name.head? == some 'n'
  | .en, .Adv => name.head? == some 'b'
  | _, _ => false

/-- every form of the table exists in gender `g` (a French noun of fixed gender `g` can use the table) -/
def genderCovers (tb : Table) (g : String) : Bool :=
  tb.rows.all (fun d => tb.rows.any (fun d' => d'.get .g == some (fvStr g) && d'.val == d.val))

/-- the constructor states for which `DistinctRows` is PROVED of every generated table of the class
    (`distinct_rows_tbl`): French nouns of lexicon gender `x`, or of a gender in which every form of the table
    exists; English nouns of every lexicon gender (absent, `m`, `f`, `x`), countable or not; adjectives and adverbs
    with the defaults.  (A French noun of gender `m` in a table with a feminine-only form would be listed WITHOUT
    options under that form — `genExp`'s last `else` — and no lexicon entry is like that: the driver evaluates
    `DistinctRows` on the actual constructor state of every entry.) -/
def stdCtors (lang : Lang) (pos : Pos) (name : Str) (tb : Table) : List Ctor :=
  let n : FV := if pos = .N ∧ name ∈ alwaysPlural lang then fvStr "p" else fvStr "s"
  match lang, pos with
  | .fr, .N =>
    ((["m", "f"].filter (genderCovers tb)) ++ ["x"]).map
      (fun g => { g := fvStr g, n := n, lexG := some (.str g.toList) })
  | .en, .N =>
    ["yes", "no", "both"].flatMap (fun k =>
      ({ g := fvStr "n", n := n, cnt := some (.str k.toList) } : Ctor) ::
      ["m", "f", "x"].map (fun g => { g := fvStr g, n := n, lexG := some (.str g.toList), cnt := some (.str k.toList) }))
  | .fr, .A => [{ g := fvStr "m", n := fvStr "s" }]
  | .en, .A => [{ g := fvStr "n", n := fvStr "s" }]
  | _, .Adv => [{ g := .none, n := .none }]
  | _, _ => []

/-- the (table, part of speech, constructor state) triples of one language on which `DistinctRows` fails -/
def distinctFailures (lang : Lang) (rules : Decl.Rules) : List (Str × Pos × Ctor) :=
  rules.flatMap (fun (p : Str × Table) =>
    [Pos.N, Pos.A, Pos.Adv].flatMap (fun pos =>
      if classOf lang pos p.1 then
        (stdCtors lang pos p.1 p.2).filterMap (fun c =>
          if DistinctRows lang pos p.1 p.2 c then none else some (p.1, pos, c))
      else []))

/-! ## what the driver reports per entry and per table (filled in below as the theorems need it) -/

/-- the hypotheses of `expandConj_sound_*` and `expandDecl_sound` evaluated on one real lexicon entry: the names of
    those that fail (`info:` items are not hypotheses: they say that the entry's constructor state is not one of
    the standard ones for which `DistinctRows` is kernel-proved, so that for this entry it is only evaluated) -/
def entryWF (lang : Lang) (conj : Conj.Rules) (decl : Decl.Rules) (lex : Lex) (lemma : Str)
    (verb : Option Conj.Verb) (entry : List (Str × EVal)) : List String :=
  let v : List String := match verb with
    | none => []
    | some v =>
      match lookup v.tab conj with
      | none => ["conj:table-missing"]
      | some tb =>
        (if (match lang with | .en => wfConjEn tb | .fr => wfConjFr tb) then [] else ["conj:table-shape"]) ++
        (if endsWith lemma tb.ending then [] else ["conj:ending-not-suffix"]) ++
        (if noLeadSpace lemma then [] else ["conj:lemma-leading-space"])
  let d : List String := entry.flatMap (fun (posS, val) =>
    match posOf? posS, val with
    | some pos, .dict e =>
      if pos = .N ∨ pos = .A ∨ pos = .Adv then
        match lookup "tab".toList e with
        | some (.str name) =>
          match lookup name decl with
          | none => []                                  -- not a declension table: the bare lemma is listed
          | some tb =>
            let tag := "decl:" ++ String.ofList posS ++ ":"
            let c := ctorOf decl lex lang pos lemma e
            (if endsWith lemma tb.ending then [] else [tag ++ "ending-not-suffix"]) ++
            (if noLeadSpace lemma then [] else [tag ++ "lemma-leading-space"]) ++
            (if ctorOK decl lex lang pos lemma name (dropRight lemma tb.ending.length) e c then []
             else [tag ++ "constructor-state"]) ++
            (if DistinctRows lang pos name tb c then [] else [tag ++ "distinct-rows"]) ++
            (if classOf lang pos name && (stdCtors lang pos name tb).contains c then []
             else ["info:" ++ tag ++ "non-standard-constructor-state"])
        | _ => []
      else []
    | _, _ => [])
  v ++ d

/-! ## closed classes (determiners, pronouns): the shipped paradigms -/

/-- the environment of the shipped data: generated tables, the auxiliaries' entries, the shipped pronoun paradigms -/
def genEnv (lang : Lang) : Env :=
  { lang := lang
    conj := match lang with | .en => Gen.ConjEn.tables | .fr => Gen.ConjFr.tables
    decl := match lang with | .en => Gen.DeclEn.tables | .fr => Gen.DeclFr.tables
    en := { will := Gen.ConjEn.will, have_ := Gen.ConjEn.have_ }
    fr := { avoir := Gen.ConjFr.avoir, etre := Gen.ConjFr.etre, reflPro := ConjFr.reflProFr,
            tonicPro := ConjFr.tonicProFr } }

/-- the parts of speech of a determiner / pronoun table (`pn…`: pronouns; `d…`: determiners, also used by pronouns) -/
def closedPos (name : Str) : List Pos :=
  if name.take 2 = "pn".toList then [.Pro] else if name.head? = some 'd' then [.D, .Pro] else []

/-- the pairs of the expansion of the word whose lemma is the table's own ending (`le`, `mon`, `moi`, `me`, `on`, … —
    the closed-class words are the endings of their tables) that the model does NOT realize to their form -/
def closedBad (lang : Lang) (pos : Pos) (name : Str) (tb : Table) : List (Str × Str) :=
  let lemma := tb.ending
  let entry : PosEntry := [("tab".toList, .str name)]
  let lex : Lex := [(lemma, [(pos.name, entry)])]
  match expandDeclension lang (genEnv lang).decl lemma pos.name (.str name) entry with
  | .error _ => [(name, [])]
  | .ok l => l.filterMap (fun p =>
      if realizeExp (genEnv lang) lex none p.2 = .ok (p.1, 0) then none else some (name, p.1))

def closedBadAll (lang : Lang) : List (Str × Str) :=
  (genEnv lang).decl.flatMap (fun p => (closedPos p.1).flatMap (fun pos => closedBad lang pos p.1 p.2))

/-- the (table, part of speech, lexicon gender) triples of the generated French tables on which `DistinctRows`
    fails for a standard constructor state — the complete list: a noun of the stated FIXED gender would be listed
    without options under a form whose first row in the table has the other gender (`genExp`'s last `else`;
    n25: feminine plural `-s` behind the masculine one; n79, n91: masculine plural `-a` behind the feminine
    singular `-a`; n88: feminine plural `-i`).  No lexicon entry has such a (table, gender) pair: the driver
    evaluates `DistinctRows` on every real entry. -/
def distinctExceptionsFr : List (Str × Decl.Pos × Option Decl.LV) :=
  [("n25".toList, .N, some (.str "f".toList)), ("n79".toList, .N, some (.str "m".toList)),
   ("n88".toList, .N, some (.str "f".toList)), ("n91".toList, .N, some (.str "m".toList))]

/-- executable twin of `conj_wf_tbl` and `distinct_rows_tbl`: the table elements on which they fail -/
def tblWitnesses : List String :=
  (Gen.ConjEn.tables.filterMap (fun p =>
    if !(Gen.ConjEn.used.contains p.1) || wfConjEn p.2 then none else some ("conj-en:" ++ String.ofList p.1))) ++
  (Gen.ConjFr.tables.filterMap (fun p =>
    if !(Gen.ConjFr.used.contains p.1) || wfConjFr p.2 then none else some ("conj-fr:" ++ String.ofList p.1))) ++
  ((distinctFailures .en Gen.DeclEn.tables).map (fun x =>
    "decl-en:" ++ String.ofList x.1 ++ ":" ++ String.ofList x.2.1.name)) ++
  (((distinctFailures .fr Gen.DeclFr.tables).filter (fun x => !(distinctExceptionsFr.contains (x.1, x.2.1, x.2.2.lexG)))).map
    (fun x => "decl-fr:" ++ String.ofList x.1 ++ ":" ++ String.ofList x.2.1.name)) ++
  (distinctExceptionsFr.filterMap (fun x =>
    if ((distinctFailures .fr Gen.DeclFr.tables).map (fun y => (y.1, y.2.1, y.2.2.lexG))).contains x then none
    else some ("decl-fr:stale-exception:" ++ String.ofList x.1))) ++
  ((closedBadAll .en).map (fun x => "closed-en:" ++ String.ofList x.1 ++ ":" ++ String.ofList x.2)) ++
  ((closedBadAll .fr).map (fun x => "closed-fr:" ++ String.ofList x.1 ++ ":" ++ String.ofList x.2))

end Pyrealb.Lemmatize
