import Pyrealb.Model.HeapLink
/-! # Regions of the store: the closure of a node = its connected tree

What Python's object graph reaches from a constituent: its children (`elements`/`dependents`), its `terminal`, its
`parentConst` (so the WHOLE tree the node belongs to), and the back references `cod` and `subject`.
`closure h x` computes that set (sorted by handle); it is closed under these edges BY CONSTRUCTION (the loop stops
on the decidable test `closedB`), see `Lemmas/HeapFrame`.  `planLocal` is the locality test of a link plan used by
`HeapOps.linkR`: the modelled fragment consists of the link runs that only mention nodes of the closure of their
receiver (the correspondence checks run it on every node of every state: it has never failed). -/
namespace Pyrealb.Heap
open Pyrealb

/-- the nodes directly referenced by `x` -/
def nbrs (h : Heap) (x : Nat) : List Nat :=
  h.kids x ++ (h.node x).term.toList ++ (h.node x).parent.toList ++ (h.cod x).toList ++
    (match h.subject x with | some (some y) => [y] | _ => [])

/-- `S` is closed under the edges, and consists of existing nodes -/
def closedB (h : Heap) (S : List Nat) : Bool :=
  S.all (fun x => decide (x < h.n) && (nbrs h x).all (fun y => S.contains y))

def closureLoop : Nat → Heap → List Nat → Option (List Nat)
  | 0, h, S => if closedB h S then some S else none
  | fuel + 1, h, S =>
    if closedB h S then some S
    else closureLoop fuel h (S ++ (S.flatMap (nbrs h)).filter (fun y => !S.contains y))

/-- the connected tree of `x`, sorted by handle; `none`: a dangling reference (never in a reachable store) -/
def closure (h : Heap) (x : Nat) : Option (List Nat) :=
  match closureLoop h.n h [x] with
  | none => none
  | some S =>
    let C := (List.range h.n).filter (fun y => S.contains y)
    if closedB h C && C.contains x then some C else none

/-- the nodes an assignment mentions -/
def Act.nodes : Act → List Nat
  | .setPeng _ x y => [x, y]
  | .setTaux _ x y => [x, y]
  | .writeN _ y _ => [y]
  | .copyG _ t y => [t, y]
  | .fresh x _ => [x]
  | .setCod x y => [x, y]
  | .setSubject x y => x :: y.toList
  | .morphoError x => [x]
  | .guardHas o => [o]
  | .crash _ => []

/-- does the plan of a link run of `p` stay inside the connected tree of `p`? -/
def planLocal (h : Heap) (p : Nat) (acts : List Act) : Bool :=
  match closure h p with
  | none => false
  | some C => acts.all (fun a => a.nodes.all (fun y => C.contains y))

end Pyrealb.Heap
