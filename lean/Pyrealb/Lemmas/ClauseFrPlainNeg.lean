import Pyrealb.Lemmas.ClauseFrPlain
import Pyrealb.Lemmas.ClauseFrClause
import Pyrealb.Lemmas.ClauseFrRank
/-! The plain fragment, with or without a negation: both notations hand `doPronounPlacement` the same verb and
    complement tokens — the constituent notation the list of the VP (the subject is put in front afterwards), the
    dependency notation the list of the whole clause; `place_prefix` closes the gap. -/
namespace Pyrealb.ClauseFr
open Pyrealb
open Pyrealb.Gen.ClauseFr

/-- no sentence-type flag but (possibly) a negation, an ordinary tense, nothing pronominalized -/
structure PlainN (sp : Spec) : Prop where
  pas : sp.typ.pas = false
  prog : sp.typ.prog = false
  refl : sp.typ.refl = false
  mod : sp.typ.mod = none
  int : sp.typ.int = none
  tense : sp.t ≠ .ip
  vpe : sp.vpe = none
  vn : sp.vn = none
  comps : ∀ c ∈ sp.comps, match c with
    | .dir a => a.pro = false
    | .pp _ a => a.pro = false
    | .cl _ => False
  subj : match sp.subj with
    | some (.np a) => a.pro = false
    | _ => True

/-- the verb terminal once `processTyp` has set the negation on it — the same object in both notations -/
def negVerb (sp : Spec) : VT :=
  match sp.typ.neg with
  | some nv => { plainVerb sp with neg2 := some nv.word2 }
  | none => plainVerb sp

theorem negVerb_lier (sp : Spec) : (negVerb sp).lier = false := by
  unfold negVerb; split <;> simp [plainVerb, Spec.verbT, mkV]

theorem compToks_noV (sp : Spec) : ∀ t ∈ compToks sp, t.isV = false := by
  intro t ht
  obtain ⟨c, _, hc⟩ := List.mem_flatMap.mp ht
  have : (compTokList c).all (fun t => !t.isV) = true := by cases c <;> rfl
  exact (by simpa using this : ∀ t ∈ compTokList c, t.isV = false) t hc

theorem subjToks_noV (sp : Spec) : ∀ t ∈ subjToks sp, t.isV = false := by
  have : (subjToks sp).all (fun t => !t.isV) = true := by
    unfold subjToks
    cases sp.subj with
    | none => rfl
    | some s => cases s <;> rfl
  simpa using this

theorem selToks_elems (sp : Spec) (vpToks : List Tok)
    (hs : match sp.subj with | some (.np a) => a.pro = false | _ => True) :
    (phraseElems sp).1.flatMap (selToks vpToks) = subjToks sp ++ vpToks := by
  unfold phraseElems subjToks
  cases hsub : sp.subj with
  | none => simp [selToks]
  | some s =>
    cases s with
    | pro vm pe n g => simp [El.toks, selToks]
    | np a =>
      simp only [hsub] at hs
      simp [El.toks, hs, selToks]

theorem subjDeps_toks (refl : Bool) (sp : Spec) :
    (subjDeps sp).filter Dep.isPre = subjDeps sp ∧ (subjDeps sp).filter (fun d => !d.isPre) = [] ∧
    ∃ ts, (subjDeps sp).mapM (Dep.toks refl) = .ok ts ∧ ts.flatten = subjToks sp := by
  unfold subjDeps subjToks
  cases hsub : sp.subj with
  | none => exact ⟨rfl, rfl, [], rfl, rfl⟩
  | some s => cases s <;> exact ⟨rfl, rfl, [_], rfl, rfl⟩

theorem compDeps_post (cs : List Comp) :
    (cs.map compDep).filter Dep.isPre = [] ∧ (cs.map compDep).filter (fun d => !d.isPre) = cs.map compDep := by
  refine ⟨List.filter_eq_nil_iff.mpr ?_, List.filter_eq_self.mpr ?_⟩ <;>
  · intro d hd
    obtain ⟨c, _, rfl⟩ := List.mem_map.mp hd
    cases c <;> simp [compDep, Dep.isPre]

theorem comps_plain (cs : List Comp)
    (h : ∀ c ∈ cs, match c with | .dir a => a.pro = false | .pp _ a => a.pro = false | .cl _ => False) :
    (∀ e ∈ cs.map compEl, e.plain ∧ e.inertKind = true) ∧ (∀ d ∈ cs.map compDep, d.pro = false) := by
  refine ⟨fun e he => ?_, fun d hd => ?_⟩
  · obtain ⟨c, hc, rfl⟩ := List.mem_map.mp he
    have := h c hc
    cases c with
    | dir a => exact ⟨this, rfl⟩
    | pp p a => exact ⟨this, rfl⟩
    | cl p => exact this.elim
  · obtain ⟨c, hc, rfl⟩ := List.mem_map.mp hd
    have := h c hc
    cases c with
    | dir a => exact this
    | pp p a => exact this
    | cl p => exact this.elim

theorem subjDeps_pro (sp : Spec) (hs : match sp.subj with | some (.np a) => a.pro = false | _ => True) :
    ∀ d ∈ subjDeps sp, d.pro = false := by
  intro d hd
  unfold subjDeps at hd
  cases hsub : sp.subj with
  | none => simp [hsub] at hd
  | some s =>
    cases s with
    | pro vm pe n g => simp [hsub] at hd; subst hd; rfl
    | np a => simp [hsub] at hd hs; subst hd; exact hs

theorem plainN_phrase (sp : Spec) (hp : PlainN sp) (cv : List Tok × Bool)
    (hcv : conjugate (negVerb sp) false none = .ok cv) (hne : ∀ t ∈ cv.1 ++ compToks sp, t.form ≠ []) :
    phraseToks sp = (placePronouns false (cv.1 ++ compToks sp)).map
      (fun placed => (removeEmpty (subjToks sp ++ placed), [])) := by
  have hlink : decide (sp.subj.isSome = true ∧ sp.t ≠ .ip) = sp.subj.isSome := by
    cases h : sp.subj.isSome <;> simp [hp.tense]
  obtain ⟨hcomps, _⟩ := comps_plain sp.comps hp.comps
  have hvp : (phraseElems sp).2 = El.v (plainVerb sp) :: sp.comps.map compEl := by
    simp only [phraseElems, hlink]; rfl
  have hty : phraseTyped sp = .ok ((phraseElems sp).1, El.v (negVerb sp) :: sp.comps.map compEl, []) := by
    have hany : (phraseElems sp).1.any El.isVP = true := by simp [phraseElems, El.isVP]
    simp only [phraseTyped, stagePas, stageProg, stageMod, stageNeg, hp.pas, hp.prog, hp.mod, hp.int, bind, Except.bind,
      pure, Except.pure, Bool.false_eq_true, if_false, false_and, hany, if_true, hvp, negVerb]
    cases sp.typ.neg <;> simp [hvp, negPhrase, firstIdx, El.isV]
  unfold phraseToks
  simp only [hty, bind, Except.bind, pure, Except.pure, hp.refl, phraseReal]
  rw [pronominalizeVP_id _ (List.forall_mem_cons.mpr ⟨show El.plain (.v (negVerb sp)) from trivial, fun e he => (hcomps e he).1⟩),
    realVPToks_verb_first false _ _ (fun e he => (hcomps e he).2), hcv]
  simp only [Except.bind, compEl_toks, ← compToks_eq, removeEmpty_id _ hne, selToks_elems sp _ hp.subj]
  cases placePronouns false (cv.1 ++ compToks sp) <;> rfl

theorem plainN_dep (sp : Spec) (hp : PlainN sp) (cv : List Tok × Bool)
    (hcv : conjugate (negVerb sp) false none = .ok cv)
    (hne : ∀ t ∈ subjToks sp ++ cv.1 ++ compToks sp, t.form ≠ []) :
    depToks sp = (if rootIsVToks cv.1 then placePronouns false (subjToks sp ++ (cv.1 ++ compToks sp))
        else .ok (subjToks sp ++ (cv.1 ++ compToks sp))).map (fun toks => (toks, [])) := by
  rw [List.append_assoc] at hne
  have hcv2 := conjugate_none_snd _ _ _ hcv
  obtain ⟨_, hcpro⟩ := comps_plain sp.comps hp.comps
  obtain ⟨hs1, hs2, ts, hs3, hs4⟩ := subjDeps_toks false sp
  obtain ⟨hc1, hc2⟩ := compDeps_post sp.comps
  have helems : depElems sp = (plainVerb sp, withPids 0 (subjDeps sp ++ sp.comps.map compDep)) := by
    unfold depElems
    simp only [pronominalizeDeps_id _ none (withPids_pro 0 _
      (List.forall_mem_append.mpr ⟨subjDeps_pro sp hp.subj, hcpro⟩))]
    rfl
  have hty : depTyped sp = .ok (negVerb sp, withPids 0 (subjDeps sp ++ sp.comps.map compDep), []) := by
    unfold depTyped depStagePas depStageProg depStageMod depStageNeg negVerb
    simp only [hp.pas, hp.prog, hp.mod, hp.int, helems, bind, Except.bind, pure, Except.pure, Bool.false_eq_true, if_false]
    cases sp.typ.neg <;> rfl
  unfold depToks
  simp only [hty, bind, Except.bind, pure, Except.pure, hp.refl, depReal]
  have hdc : ∀ a b : List Dep, depConsumed false a b = (a, b) := fun _ _ => rfl
  simp only [conjugate_nolier _ false _ (negVerb_lier sp), hcv, hcv2, hdc, Bool.false_and]
  rw [withPids_filter_toks false 0 _ Dep.isPre (fun _ _ => rfl),
    withPids_filter_toks false 0 _ (fun d => !Dep.isPre d) (fun _ _ => rfl)]
  simp only [List.filter_append, hs1, hs2, hc1, hc2, List.append_nil, List.nil_append, hs3,
    compDep_toks false sp.comps hp.comps, hs4, ← List.flatMap_def, ← compToks_eq, List.append_assoc,
    removeEmpty_id _ hne]
  cases rootIsVToks cv.1
  · rfl
  · simp only [if_true]
    cases placePronouns false (subjToks sp ++ (cv.1 ++ compToks sp)) <;> rfl

/-- no reflexive pronoun is added: the placed list holds the tokens given, `ne` and the second negative word -/
theorem placedAt_all (P : Tok → Prop) (pre post : List Tok) (x : VT) (f : Str) (pg : Option VT)
    (hpre : ∀ t ∈ pre, P t) (hpost : ∀ t ∈ post, P t) (hv : ∀ x', P (.v x' f)) (hne : P (.adv ne))
    (hq : ∀ w, x.neg2 = some w → P (.q w)) : ∀ t ∈ placedAt pre post x f false pg, P t := by
  have hc1 : ∀ t ∈ (collect post).1, P t := fun t ht => hpost t ((collect_fst_sublist post).subset ht)
  have hc2 : ∀ t ∈ (collect post).2, P t := fun t ht => hpost t ((collect_snd_sublist post).subset ht)
  have hpros : ∀ t ∈ prosOf x false pg (collect post).1, P t := by
    intro t ht
    rw [prosOf, sortPros_mem, prosRaw, if_neg (by simp), List.append_nil] at ht
    rcases List.mem_append.mp ht with ht | ht
    · cases hn : x.neg2 with
      | none => rw [hn] at ht; cases ht
      | some w =>
        rw [hn] at ht
        dsimp only at ht
        split at ht
        · rcases List.mem_cons.mp ht with rfl | ht
          · exact hne
          · rw [List.mem_singleton.mp ht]; exact hq w hn
        · rw [List.mem_singleton.mp ht]; exact hne
    · exact hc1 t ht
  unfold placedAt
  extract_lets x' after
  have hafter : ∀ t ∈ after, P t := by
    unfold after
    cases hn : x.neg2 with
    | none => exact hc2
    | some w =>
      dsimp only
      split
      · exact hc2
      · intro t ht
        rcases mem_pyInsert _ _ _ _ ht with rfl | ht
        · exact hq w hn
        · exact hc2 t ht
  have hvl : ∀ t ∈ [Tok.v x' f], P t := List.forall_mem_singleton.mpr (hv x')
  split
  · exact List.forall_mem_append.mpr ⟨List.forall_mem_append.mpr ⟨List.forall_mem_append.mpr ⟨hpre, hvl⟩, hpros⟩, hafter⟩
  · exact List.forall_mem_append.mpr ⟨List.forall_mem_append.mpr ⟨List.forall_mem_append.mpr ⟨hpre, hpros⟩, hvl⟩, hafter⟩

/-- `doPronounPlacement` on `verb tokens ++ complement tokens` of the fragment succeeds and returns no empty
    realization -/
theorem place_plain_forms (y : VT) (f : Str) (post : List Tok) (hm : y.isMod = false) (hp : y.isProg = false)
    (hrf : isReflexive y false = .ok false) (hpost : ∀ t ∈ post, TokTailOk t)
    (hf : f ≠ []) (hw : ∀ w, y.neg2 = some w → w ≠ []) (hne : ∀ t ∈ post, t.form ≠ []) :
    ∃ placed, placePronouns false (.v y f :: post) = .ok placed ∧ ∀ t ∈ placed, t.form ≠ [] := by
  have hna : NoAuxNeg ([] ++ Tok.v y f :: post) := by
    refine List.forall_mem_cons.mpr ⟨Or.inr ⟨hm, hp⟩, fun t ht => ?_⟩
    cases t with
    | v z g => exact Or.inl (hpost _ ht).1
    | _ => trivial
  have hcl := place_first_verb false [] post y f (fun _ ht => nomatch ht) hp hm hna
  rw [List.nil_append, hrf] at hcl
  exact ⟨_, hcl, placedAt_all (fun t => t.form ≠ []) [] post y f _ (fun _ ht => nomatch ht) hne (fun _ => hf)
    (by decide) hw⟩

end Pyrealb.ClauseFr
