import Pyrealb.Lemmas.ClauseFrSort
/-! `doPronounPlacement` in closed form: loop 1 (`negModProg`) and the scan of loop 2 (`findVerb`) on a list with a
    verb-free or auxiliaries-only prefix, then `placePronouns` itself as `placedAt` of what the two loops found — for
    any token list. Everything else about the placement is read off that form. -/
namespace Pyrealb.ClauseFr
open Pyrealb

theorem pyInsert_split {α} (k : Nat) (x : α) (l : List α) : pyInsert k x l = l.take k ++ x :: l.drop k := by
  induction k generalizing l with
  | zero => simp [pyInsert]
  | succ k ih =>
    cases l with
    | nil => simp [pyInsert]
    | cons a r => simp [pyInsert, ih]

theorem mem_pyInsert {α} (k : Nat) (a e : α) (l : List α) (h : e ∈ pyInsert k a l) : e = a ∨ e ∈ l := by
  rw [pyInsert_split, List.mem_append, List.mem_cons] at h
  rcases h with h | h | h
  · exact Or.inr (List.mem_of_mem_take h)
  · exact Or.inl h
  · exact Or.inr (List.mem_of_mem_drop h)

theorem forall_mem_pyInsert {α} {P : α → Prop} (k : Nat) (a : α) (l : List α) (ha : P a) (hl : ∀ e ∈ l, P e) :
    ∀ e ∈ pyInsert k a l, P e :=
  fun e he => (mem_pyInsert k a e l he).elim (fun h => h ▸ ha) (hl e)

theorem filterMap_pyInsert {α β} (f : α → Option β) (k : Nat) (a : α) (l : List α) :
    (pyInsert k a l).filterMap f = (l.take k).filterMap f ++ (f a).toList ++ (l.drop k).filterMap f := by
  rw [pyInsert_split, List.filterMap_append, List.filterMap_cons]
  cases f a <;> simp

theorem filterMap_pyInsert_none {α β} (f : α → Option β) (k : Nat) (a : α) (l : List α) (h : f a = none) :
    (pyInsert k a l).filterMap f = l.filterMap f := by
  rw [filterMap_pyInsert, h, Option.toList, List.append_nil, ← List.filterMap_append, List.take_append_drop]

theorem filterMap_eraseIdx_none {α β} (f : α → Option β) (l : List α) (i : Nat) (h : ∀ a, l[i]? = some a → f a = none) :
    (l.eraseIdx i).filterMap f = l.filterMap f := by
  induction l generalizing i with
  | nil => rfl
  | cons a r ih =>
    cases i with
    | zero => rw [List.eraseIdx_cons_zero, List.filterMap_cons, h a rfl]
    | succ j => rw [List.eraseIdx_cons_succ, List.filterMap_cons, List.filterMap_cons, ih j (fun b hb => h b (by simpa using hb))]

/-- no verb of the list carries `neg2` while being a modality / progressive auxiliary (loop 1 finds nothing) -/
def NoAuxNeg (l : List Tok) : Prop :=
  ∀ t ∈ l, match t with
    | .v y _ => y.neg2 = none ∨ (y.isMod = false ∧ y.isProg = false)
    | _ => True

theorem negModProg_none (l : List Tok) (h : NoAuxNeg l) : negModProg l = none := by
  induction l with
  | nil => rfl
  | cons c rest ih =>
    have hc := h c List.mem_cons_self
    have hr := ih (fun t ht => h t (List.mem_cons_of_mem _ ht))
    cases c with
    | v x f =>
      unfold negModProg
      rcases hc with hc | ⟨h1, h2⟩
      · simp [hc, hr]
      · cases hn : x.neg2 <;> simp [hn, h1, h2, hr]
    | _ => simp [negModProg, hr]

theorem negModProg_prefix (pre l : List Tok) (hpre : ∀ t ∈ pre, t.isV = false) :
    negModProg (pre ++ l) = (negModProg l).map (fun r => (pre ++ r.1, r.2 + pre.length)) := by
  induction pre with
  | nil => cases h : negModProg l <;> simp [h]
  | cons c r ih =>
    have ih' := ih (fun t ht => hpre t (List.mem_cons_of_mem _ ht))
    cases c with
    | v x f => exact absurd (hpre _ List.mem_cons_self) (by simp [Tok.isV])
    | _ =>
      simp only [List.cons_append, negModProg, ih']
      cases negModProg l <;> simp [Nat.add_assoc]

theorem negModProg_first (pre post : List Tok) (x : VT) (f : Str) (w : Str)
    (hpre : ∀ t ∈ pre, t.isV = false) (hn : x.neg2 = some w) (ha : x.isMod = true ∨ x.isProg = true) :
    negModProg (pre ++ .v x f :: post) =
      some (pre ++ .adv ne :: .v { x with neg2 := none } f :: pyInsert (if x.lier then 1 else 0) (.q w) post,
            pre.length + (3 + (if x.isProg then 2 else 0))) := by
  have h0 : negModProg (.v x f :: post) = some (.adv ne :: .v { x with neg2 := none } f ::
      pyInsert (if x.lier then 1 else 0) (.q w) post, 3 + (if x.isProg then 2 else 0)) := by
    simp only [negModProg, hn, if_pos ha]
  rw [negModProg_prefix pre _ hpre, h0, Nat.add_comm pre.length]
  rfl

/-- every verb of the list is an auxiliary of modality / progressive (loop 2 steps over them) -/
def OnlyAuxV (l : List Tok) : Prop :=
  ∀ t ∈ l, match t with
    | .v y _ => y.isProg = true ∨ y.isMod = true
    | _ => True

/-- the progressive auxiliary loop 2 remembers while it steps over `l` -/
def lastProg (pg : Option VT) : List Tok → Option VT
  | [] => pg
  | .v y _ :: r => lastProg (if y.isProg then some y else pg) r
  | _ :: r => lastProg pg r

theorem onlyAuxV_of_noV (l : List Tok) (h : ∀ t ∈ l, t.isV = false) : OnlyAuxV l := by
  intro t ht
  cases t with
  | v y f => exact absurd (h _ ht) (by simp [Tok.isV])
  | _ => trivial

theorem lastProg_of_noV (pg : Option VT) (l : List Tok) (h : ∀ t ∈ l, t.isV = false) : lastProg pg l = pg := by
  induction l with
  | nil => rfl
  | cons c r ih =>
    have hr := ih (fun t ht => h t (List.mem_cons_of_mem _ ht))
    cases c with
    | v y f => exact absurd (h _ List.mem_cons_self) (by simp [Tok.isV])
    | _ => exact hr

theorem findVerb_append (pg : Option VT) (pre l : List Tok) (hpre : OnlyAuxV pre) :
    findVerb pg (pre ++ l) = (findVerb (lastProg pg pre) l).map (fun r => { r with pre := pre ++ r.pre }) := by
  induction pre generalizing pg with
  | nil => cases h : findVerb pg l <;> simp [h, lastProg]
  | cons c r ih =>
    have hr : OnlyAuxV r := fun t ht => hpre t (List.mem_cons_of_mem _ ht)
    cases c with
    | v y g =>
      have hc : y.isProg = true ∨ y.isMod = true := hpre _ List.mem_cons_self
      simp only [List.cons_append, findVerb, if_pos hc, ih _ hr, lastProg]
      cases findVerb (lastProg (if y.isProg = true then some y else pg) r) l <;> simp
    | _ =>
      simp only [List.cons_append, findVerb, ih _ hr, lastProg]
      cases findVerb (lastProg pg r) l <;> simp

theorem findVerb_first (pg : Option VT) (pre post : List Tok) (x : VT) (f : Str)
    (hpre : OnlyAuxV pre) (hp : x.isProg = false) (hm : x.isMod = false) :
    findVerb pg (pre ++ .v x f :: post) =
      some { pre := pre, prog := lastProg pg pre, verb := x, form := f, post := post } := by
  rw [findVerb_append pg pre _ hpre]
  simp [findVerb, hp, hm]

theorem findVerb_prefix (pg : Option VT) (pre l : List Tok) (hpre : ∀ t ∈ pre, t.isV = false) :
    findVerb pg (pre ++ l) = (findVerb pg l).map (fun r => { r with pre := pre ++ r.pre }) := by
  rw [findVerb_append pg pre l (onlyAuxV_of_noV pre hpre), lastProg_of_noV pg pre hpre]

theorem findVerb_split (pg : Option VT) (l : List Tok) (fd : Found) (h : findVerb pg l = some fd) :
    l = fd.pre ++ .v fd.verb fd.form :: fd.post := by
  induction l generalizing pg fd with
  | nil => simp [findVerb] at h
  | cons c rest ih =>
    cases c with
    | v x f =>
      simp only [findVerb] at h
      split at h
      · simp only [Option.map_eq_some_iff] at h
        obtain ⟨fd', hfd', rfl⟩ := h
        simp [← ih _ fd' hfd']
      · simp only [Option.some.injEq] at h
        subst h
        rfl
    | _ =>
      simp only [findVerb, Option.map_eq_some_iff] at h
      obtain ⟨fd', hfd', rfl⟩ := h
      simp [← ih _ fd' hfd']

/-- what `doPronounPlacement` puts next to the verb `x`: `ne`, the second negative word of an infinitive, the
    reflexive pronoun, the collected clitics — before `pros.sort(key=…)` -/
def prosRaw (x : VT) (isR : Bool) (pg : Option VT) (collected : List Tok) : List Tok :=
  (match x.neg2 with
    | none => []
    | some w => if x.t = .b then [.adv ne, .q w] else [.adv ne])
   ++ (if isR ∧ x.t ≠ .pp then [reflPro (pg.getD x)] else [])
   ++ collected

/-- …after `pros.sort(key=…)` -/
def prosOf (x : VT) (isR : Bool) (pg : Option VT) (collected : List Tok) : List Tok :=
  sortPros (tableFor x) (prosRaw x isR pg collected)

/-- the list `doPronounPlacement` returns when `x` is the verb loop 2 stops at, `pre` what precedes it (after loop 1)
    and `post` what follows it -/
def placedAt (pre post : List Tok) (x : VT) (f : Str) (isR : Bool) (pg : Option VT := none) : List Tok :=
  let x' : VT := if x.t = .b then x else { x with neg2 := none }
  let after : List Tok := match x.neg2 with
    | some w => if x.t = .b then (collect post).2 else pyInsert (if x.lier then 1 else 0) (.q w) (collect post).2
    | none => (collect post).2
  if tableFor x = .ipPos then pre ++ [.v x' f] ++ prosOf x isR pg (collect post).1 ++ after
  else pre ++ prosOf x isR pg (collect post).1 ++ [.v x' f] ++ after

theorem placedAt_append (a pre post : List Tok) (x : VT) (f : Str) (isR : Bool) (pg : Option VT) :
    placedAt (a ++ pre) post x f isR pg = a ++ placedAt pre post x f isR pg := by
  unfold placedAt
  by_cases h : tableFor x = .ipPos
  · simp only [if_pos h, List.append_assoc]
  · simp only [if_neg h, List.append_assoc]

/-- loop 2 on what loop 1 leaves: the list `l1`, scanned from `iDeb` on -/
def placeFrom (refl : Bool) (l1 : List Tok) (iDeb : Nat) : Except Crash (List Tok) :=
  match findVerb none (l1.drop iDeb) with
  | none => .ok l1
  | some fd => (isReflexive fd.verb refl).map
      (fun isR => placedAt (l1.take iDeb ++ fd.pre) fd.post fd.verb fd.form isR fd.prog)

/-- **`doPronounPlacement` in closed form**, for any token list -/
theorem placePronouns_eq (refl : Bool) (cl : List Tok) :
    placePronouns refl cl = match negModProg cl with
      | some r => placeFrom refl r.1 r.2
      | none => placeFrom refl cl 0 := by
  unfold placePronouns
  rcases negModProg cl with _ | ⟨l1, i⟩
  all_goals
    simp only [placeFrom]
    split <;> rename_i hf <;> simp only [hf]
    rename_i fd
    cases isReflexive fd.verb refl with
    | error e => rfl
    | ok isR =>
      simp only [bind, Except.bind, Except.map, placedAt, prosOf, prosRaw, pure, Except.pure]
      cases hn : fd.verb.neg2 <;> by_cases hb : fd.verb.t = .b <;> by_cases htb : tableFor fd.verb = .ipPos <;>
        simp [hb, htb]

/-- when loop 1 finds nothing and `x` is the first verb that is not an auxiliary of modality / progressive -/
theorem place_first_verb (refl : Bool) (pre post : List Tok) (x : VT) (f : Str)
    (hpre : OnlyAuxV pre) (hp : x.isProg = false) (hm : x.isMod = false)
    (hna : NoAuxNeg (pre ++ .v x f :: post)) :
    placePronouns refl (pre ++ .v x f :: post) =
      (isReflexive x refl).bind (fun isR => .ok (placedAt pre post x f isR (lastProg none pre))) := by
  rw [placePronouns_eq, negModProg_none _ hna]
  simp only [placeFrom, List.drop_zero, findVerb_first none pre post x f hpre hp hm, List.take_zero, List.nil_append]
  cases isReflexive x refl <;> rfl

theorem placeFrom_shift (refl : Bool) (pre l1 : List Tok) (i : Nat) :
    placeFrom refl (pre ++ l1) (i + pre.length) = (placeFrom refl l1 i).map (fun out => pre ++ out) := by
  have hd : (pre ++ l1).drop (i + pre.length) = l1.drop i := by
    rw [Nat.add_comm, List.drop_append]; simp [List.drop_of_length_le]
  have ht : (pre ++ l1).take (i + pre.length) = pre ++ l1.take i := by
    rw [Nat.add_comm, List.take_append]; simp [List.take_of_length_le]
  unfold placeFrom
  rw [hd, ht]
  cases findVerb none (l1.drop i) with
  | none => rfl
  | some fd =>
    simp only [List.append_assoc, placedAt_append]
    cases isReflexive fd.verb refl <;> rfl

/-- **clitic_agree**: placing the pronouns of `pre ++ l` is placing those of `l`, when nothing in `pre` is a verb -/
theorem place_prefix (refl : Bool) (pre l : List Tok) (hpre : ∀ t ∈ pre, t.isV = false) :
    placePronouns refl (pre ++ l) = (placePronouns refl l).map (fun out => pre ++ out) := by
  rw [placePronouns_eq, placePronouns_eq, negModProg_prefix pre l hpre]
  cases negModProg l with
  | some r => exact placeFrom_shift refl pre r.1 r.2
  | none =>
    simp only [Option.map_none, placeFrom, List.drop_zero, List.take_zero, List.nil_append, findVerb_prefix none pre l hpre]
    cases findVerb none l with
    | none => rfl
    | some fd =>
      simp only [Option.map_some, placedAt_append]
      cases isReflexive fd.verb refl <;> rfl

theorem findVerb_pre_takeWhile (pg : Option VT) (l : List Tok) (fd : Found) (h : findVerb pg l = some fd) :
    ∃ r, fd.pre = l.takeWhile (fun t => !t.isV) ++ r := by
  induction l generalizing fd with
  | nil => cases h
  | cons c rest ih =>
    by_cases hc : c.isV = true
    · exact ⟨fd.pre, by simp [List.takeWhile, hc]⟩
    · have hp : findVerb pg (c :: rest) = _ := findVerb_prefix pg [c] rest (by simpa using hc)
      rw [h] at hp
      cases hf : findVerb pg rest with
      | none => rw [hf] at hp; cases hp
      | some fd' =>
        rw [hf] at hp
        cases hp
        obtain ⟨r, hr⟩ := ih fd' hf
        exact ⟨r, by simp [List.takeWhile, hc, hr]⟩

theorem placeFrom_keeps (refl : Bool) (l1 out : List Tok) (i : Nat) (h : placeFrom refl l1 i = .ok out) :
    ∃ r, out = l1.take i ++ (l1.drop i).takeWhile (fun t => !t.isV) ++ r := by
  unfold placeFrom at h
  cases hf : findVerb none (l1.drop i) with
  | none =>
    simp only [hf] at h
    cases h
    exact ⟨(l1.drop i).dropWhile (fun t => !t.isV), by
      rw [List.append_assoc, List.takeWhile_append_dropWhile, List.take_append_drop]⟩
  | some fd =>
    obtain ⟨r, hr⟩ := findVerb_pre_takeWhile none _ fd hf
    simp only [hf] at h
    cases hR : isReflexive fd.verb refl with
    | error e => rw [hR] at h; cases h
    | ok isR =>
      rw [hR] at h
      cases h
      exact ⟨_, by rw [hr, ← List.append_assoc]; exact placedAt_append _ _ _ _ _ _ _⟩

theorem take_takeWhile_keeps (P D : List Tok) (q : Tok) (j : Nat) (hq : q.isV = false) (hP : P.length ≤ j) :
    ∃ r', (P ++ q :: D).take j ++ ((P ++ q :: D).drop j).takeWhile (fun t => !t.isV) = P ++ q :: r' := by
  induction P generalizing j with
  | nil =>
    cases j with
    | zero => exact ⟨D.takeWhile (fun t => !t.isV), by simp [hq]⟩
    | succ j' => exact ⟨D.take j' ++ (D.drop j').takeWhile (fun t => !t.isV), by simp⟩
  | cons p P ih =>
    cases j with
    | zero => simp at hP
    | succ j' =>
      obtain ⟨r', hr'⟩ := ih j' (by simpa using hP)
      exact ⟨r', by simp only [List.cons_append, List.take_succ_cons, List.drop_succ_cons]; rw [hr']⟩

/-- when the first verb carries `neg2` and is a modality / progressive auxiliary: loop 1 wrote `ne` before it and the
    second negative word after it (after one more token when the verb is `lier`), and loop 2 leaves that alone -/
theorem place_aux_shape (refl : Bool) (pre post out : List Tok) (x : VT) (f w : Str)
    (hpre : ∀ t ∈ pre, t.isV = false) (hn : x.neg2 = some w) (ha : x.isMod = true ∨ x.isProg = true)
    (h : placePronouns refl (pre ++ .v x f :: post) = .ok out) :
    ∃ r, out = pre ++ .adv ne :: .v { x with neg2 := none } f ::
                 (post.take (if x.lier then 1 else 0) ++ .q w :: r) := by
  rw [placePronouns_eq, negModProg_first pre post x f w hpre hn ha] at h
  obtain ⟨r, hr⟩ := placeFrom_keeps refl _ out _ h
  -- the second negative word is a non-verb at a position ≤ `iDeb`
  have hlen : (pre ++ .adv ne :: .v { x with neg2 := none } f :: post.take (if x.lier then 1 else 0)).length ≤
      pre.length + (3 + if x.isProg then 2 else 0) := by
    simp only [List.length_append, List.length_cons, List.length_take]; split <;> omega
  obtain ⟨r', hr'⟩ := take_takeWhile_keeps _ (post.drop (if x.lier then 1 else 0)) (.q w) _ rfl hlen
  rw [pyInsert_split, show ∀ a b : List Tok, pre ++ .adv ne :: .v { x with neg2 := none } f :: (a ++ .q w :: b) =
      (pre ++ .adv ne :: .v { x with neg2 := none } f :: a) ++ .q w :: b from by simp, hr'] at hr
  exact ⟨r' ++ r, by rw [hr]; simp⟩

/-- the guard of loop 2: a pronoun recognised as already elided (`elidedForm`: since commit c4595d2 the FIRST WORD of
    its realization ends with an apostrophe; before, the realization itself) is never popped -/
theorem isCliticPro_elided (x : ProT) (f : Str) (h : elidedForm f = true) : isCliticPro x f = false := by
  simp [isCliticPro, h]

theorem takeWhile_all {α} (p : α → Bool) (l : List α) (h : ∀ c ∈ l, p c = true) : l.takeWhile p = l := by
  induction l with
  | nil => rfl
  | cons a r ih =>
    simp [List.takeWhile, h a List.mem_cons_self, ih (fun c hc => h c (List.mem_cons_of_mem _ hc))]

/-- on a realization that is one bare word (no tag, no punctuation, no space) both versions of the guard agree -/
theorem elidedForm_bare (f : Str) (hne : f ≠ []) (hw : ∀ c ∈ f, isWordCh c = true) : elidedForm f = endsWith f ['\''] := by
  unfold elidedForm
  split
  · have hs : skipPre false f = f := by
      cases f with
      | nil => exact absurd rfl hne
      | cons c cs =>
        have hc := hw c List.mem_cons_self
        have hlt : (c == '<') = false := by
          cases hcl : c == '<'
          · rfl
          · have : c = '<' := by simpa using hcl
            subst this; revert hc; decide
        simp [skipPre, hlt, hc]
    have ht : f.takeWhile isWordCh = f := takeWhile_all _ f hw
    simp only [firstWord, hs, ht]
    cases f with
    | nil => exact absurd rfl hne
    | cons c cs => simp
  · rfl

end Pyrealb.ClauseFr
