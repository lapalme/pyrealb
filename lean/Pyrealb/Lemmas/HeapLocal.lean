import Pyrealb.Lemmas.HeapAgree
import Pyrealb.Lemmas.HeapOps
/-! # Every modelled operation is local to the connected tree of its receiver

For a set `A` of nodes closed under the references of the object graph that contains the receiver (and the child, for
`add`), and a store `g` that agrees with `h` on `A`: `linkProperties` runs, the re-linking of the ancestors, insertion and
adjective re-ordering, `setProp` / option methods, `typ` write only inside `A`, leave `A` closed, and do in `g` what they
do in `h` (`Sim`). -/
namespace Pyrealb.Heap
open Pyrealb

section
variable {A : List Nat} {h g : Heap} (cl : Closed h A) (ag : Agree A h g)
include cl ag

theorem linkR_sim {p : Nat} (hp : p ∈ A) {h' : Heap} (hr : linkR h p = .ok h') :
    ∃ g', linkR g p = .ok g' ∧ Sim A h h' g' := by
  obtain ⟨P, hplan, hloc, hx⟩ := linkR_ok.1 hr
  obtain ⟨g', hg', s⟩ := exec_sim P (planLocal_sub cl hp hloc) cl ag hx
  exact ⟨g', linkR_ok.2 ⟨P, by rw [plan_agree cl ag hp, hplan], by rw [planLocal_ag cl ag hp, hloc], hg'⟩, s⟩

omit cl ag in
theorem relinkUp_sim : ∀ (fuel : Nat) {h g h' : Heap} {x : Nat}, Closed h A → Agree A h g → x ∈ A →
    relinkUp fuel h x = .ok h' → ∃ g', relinkUp fuel g x = .ok g' ∧ Sim A h h' g'
  | 0, _, _, _, _, _, _, _, hr => by cases hr
  | f + 1, h, g, h', x, cl, ag, hx, hr => by
    rcases relinkUp_ok.1 hr with ⟨hpar, rfl⟩ | ⟨q, h1, hpar, hl, hr⟩
    · exact ⟨g, relinkUp_ok.2 (.inl ⟨by rw [ag.node x hx, hpar], rfl⟩), sim_refl cl ag⟩
    · have hq : q ∈ A := cl.refs hx q (.inr (.inr hpar))
      obtain ⟨g1, hg1, s1⟩ := linkR_sim cl ag hq hl
      obtain ⟨g', hg', s2⟩ := relinkUp_sim f s1.closed s1.agree hq hr
      exact ⟨g', relinkUp_ok.2 (.inr ⟨q, g1, by rw [ag.node x hx, hpar], hg1, hg'⟩), s1.trans s2⟩

theorem setKids_sim {p : Nat} (hp : p ∈ A) (l : List Nat) (hl : ∀ y ∈ l, y ∈ A) :
    Sim A h (setKids h p l) (setKids g p l) := by
  simp only [setKids, ag.node p hp]
  exact sim_setNode cl ag hp _ fun y hy => hy.elim (hl y) fun o => cl.refs hp y (.inr o)

theorem setParent_sim {x : Nat} (hx : x ∈ A) (q : Option Nat) (hq : ∀ y, q = some y → y ∈ A) :
    Sim A h (setParent h x q) (setParent g x q) := by
  simp only [setParent, ag.node x hx]
  refine sim_setNode cl ag hx _ fun y hy => ?_
  rcases hy with hy | hy | hy
  · exact cl.refs hx y (.inl hy)
  · exact cl.refs hx y (.inr (.inl hy))
  · exact hq y hy

theorem addElement_sim {p e : Nat} (hp : p ∈ A) (he : e ∈ A) (pos : Option Int) :
    Sim A h (addElement h p e pos) (addElement g p e pos) := by
  have s1 := setParent_sim cl ag he (some p) fun y hy => Option.some.inj hy ▸ hp
  have hk : ∀ y ∈ (setParent h e (some p)).kids p, y ∈ A := fun y => s1.closed.kid hp
  simp only [addElement, s1.agree.kids hp]
  cases pos with
  | none =>
    refine s1.trans (setKids_sim s1.closed s1.agree hp _ fun y hy => ?_)
    rcases List.mem_append.mp hy with hy | hy
    · exact hk y hy
    · exact List.mem_singleton.mp hy ▸ he
  | some i =>
    dsimp only
    split
    · refine s1.trans (setKids_sim s1.closed s1.agree hp _ fun y hy => ?_)
      rcases List.mem_append.mp hy with hy | hy
      · exact hk y (List.mem_of_mem_take hy)
      · rcases List.mem_cons.mp hy with hy | hy
        · exact hy ▸ he
        · exact hk y (List.mem_of_mem_drop hy)
    · exact s1.trans (sim_warn s1.closed s1.agree 1)

theorem removeElement_sim {p : Nat} (hp : p ∈ A) (i : Nat) :
    Sim A h (removeElement h p i).1 (removeElement g p i).1 ∧ (removeElement g p i).2 = (removeElement h p i).2 ∧
      ∀ e, (removeElement h p i).2 = some e → e ∈ A := by
  simp only [removeElement, ag.kids hp]
  cases hq : (h.kids p)[i]? with
  | none => exact ⟨sim_warn cl ag 1, rfl, fun _ he => by cases he⟩
  | some e =>
    have he : e ∈ A := cl.kid? hp hq
    have s1 := setKids_sim cl ag hp ((h.kids p).eraseIdx i) fun y hy =>
      cl.kid hp ((List.eraseIdx_sublist _ _).subset hy)
    exact ⟨s1.trans (setParent_sim s1.closed s1.agree he none fun _ hy => by cases hy), rfl,
      fun _ he' => Option.some.inj he' ▸ he⟩

theorem moveElement_sim {p : Nat} (hp : p ∈ A) (i idx : Nat) :
    Sim A h (moveElement h p i idx) (moveElement g p i idx) := by
  obtain ⟨s1, e2, hmem⟩ := removeElement_sim cl ag hp i
  unfold moveElement
  cases hr : removeElement h p i with
  | mk h1 o =>
    cases hr' : removeElement g p i with
    | mk g1 o' =>
      rw [hr] at s1 e2 hmem
      rw [hr'] at s1 e2
      cases e2
      cases o with
      | none => exact s1
      | some e1 => exact s1.trans (addElement_sim s1.closed s1.agree hp (hmem e1 rfl) _)

theorem reorderStep_sim {p : Nat} (hp : p ∈ A) (i : Nat) : Sim A h (reorderStep h p i) (reorderStep g p i) := by
  unfold reorderStep
  rw [ag.kids hp]
  cases hq : (h.kids p)[i]? with
  | none => exact sim_refl cl ag
  | some e =>
    have heA := cl.kid? hp hq
    have hall : ∀ idx, allAorN g (h.kids p) i idx = allAorN h (h.kids p) i idx := fun idx =>
      all_congr' fun x hx => ag.isA (cl.kid hp (List.mem_of_mem_drop (List.mem_of_mem_take hx))) _
    simp only [ag.kind heA, getIndex_ag cl ag hp, ag.node e heA, ag.node p hp, hall]
    split
    · split
      · exact sim_refl cl ag
      · exact sim_ite (sim_ite (moveElement_sim cl ag hp i _) (sim_refl cl ag)) (sim_refl cl ag)
    · exact sim_refl cl ag

omit cl ag in
theorem reorderLoop_sim {p : Nat} (hp : p ∈ A) : ∀ (l : List Nat) {h g : Heap}, Closed h A → Agree A h g →
    Sim A h (reorderLoop h p l) (reorderLoop g p l)
  | [], _, _, cl, ag => sim_refl cl ag
  | i :: is, _, _, cl, ag =>
    have s1 := reorderStep_sim cl ag hp i
    s1.trans (reorderLoop_sim hp is s1.closed s1.agree)

theorem reorder_sim {p : Nat} (hp : p ∈ A) : Sim A h (reorder h p) (reorder g p) := by
  unfold reorder
  rw [ag.kids hp]
  exact reorderLoop_sim hp _ cl ag

theorem phraseAdd1_sim {p e : Nat} (hp : p ∈ A) (he : e ∈ A) (pos : Option Int) {h' : Heap}
    (hr : phraseAdd1 h p e pos = .ok h') : ∃ g', phraseAdd1 g p e pos = .ok g' ∧ Sim A h h' g' := by
  obtain ⟨h2, h3, hl, hu, rfl⟩ := phraseAdd1_ok.1 hr
  have s0 := setParent_sim cl ag he (some p) fun y hy => Option.some.inj hy ▸ hp
  have s1 := s0.trans (addElement_sim s0.closed s0.agree hp he pos)
  obtain ⟨g2, hg2, s2⟩ := linkR_sim s1.closed s1.agree hp hl
  obtain ⟨g3, hg3, s3⟩ := relinkUp_sim _ s2.closed s2.agree hp hu
  exact ⟨_, phraseAdd1_ok.2 ⟨g2, g3, hg2, s2.agree.n ▸ hg3, rfl⟩,
    ((s1.trans s2).trans s3).trans (reorder_sim s3.closed s3.agree hp)⟩

theorem depAddNode_sim {p d : Nat} (hp : p ∈ A) (hd : d ∈ A) (pos : Option Int) {h' : Heap}
    (hr : depAdd h p pos (.item (.node d)) = .ok h') :
    ∃ g', depAdd g p pos (.item (.node d)) = .ok g' ∧ Sim A h h' g' := by
  have hr := depAdd_node_ok.1 hr
  by_cases hc : (h.kind d).isDep = true
  · obtain ⟨h2, hl, hu⟩ := (if_pos hc).mp hr
    have s1 := addElement_sim cl ag hp hd pos
    obtain ⟨g2, hg2, s2⟩ := linkR_sim s1.closed s1.agree hp hl
    obtain ⟨g', hg', s3⟩ := relinkUp_sim _ s2.closed s2.agree hp hu
    refine ⟨g', depAdd_node_ok.2 ?_, (s1.trans s2).trans s3⟩
    rw [ag.kind hd, if_pos hc]
    exact ⟨g2, hg2, s2.agree.n ▸ hg'⟩
  · refine ⟨_, depAdd_node_ok.2 ?_, (if_neg hc).mp hr ▸ sim_warn cl ag 1⟩
    rw [ag.kind hd, if_neg hc]

theorem writePeng_sim {x : Nat} (hx : x ∈ A) (k : Str) (v : Val) :
    Sim A h (h.writePeng x k v) (g.writePeng x k v) := by
  unfold Heap.writePeng
  rw [ag.peng x hx]
  split
  · cases hq : h.peng x with
    | none => exact sim_refl cl ag
    | some r =>
      dsimp only
      rw [ag.prec r ⟨x, hx, hq⟩]
      exact sim_prec cl ag (.inl ⟨x, hx, hq⟩) _
  · exact sim_refl cl ag

theorem writeTaux_sim {x : Nat} (hx : x ∈ A) (k : Str) (v : Val) :
    Sim A h (h.writeTaux x k v) (g.writeTaux x k v) := by
  unfold Heap.writeTaux
  rw [ag.taux x hx]
  split
  · cases hq : h.taux x with
    | none => exact sim_refl cl ag
    | some r =>
      dsimp only
      rw [ag.trec r ⟨x, hx, hq⟩]
      exact sim_trec cl ag ⟨x, hx, hq⟩ _
  · exact sim_refl cl ag

theorem setProp_sim {x : Nat} (hx : x ∈ A) (k : Str) (v : Val) : Sim A h (h.setProp x k v) (g.setProp x k v) := by
  unfold Heap.setProp
  have s1 := writePeng_sim cl ag hx k v
  have s2 := s1.trans (writeTaux_sim s1.closed s1.agree hx k v)
  dsimp only
  rw [s2.agree.node x hx]
  exact s2.trans (sim_setNode s2.closed s2.agree hx _ (s2.closed.refs hx))

theorem typOp_sim {x : Nat} (hx : x ∈ A) (arg : Typ.Arg) : Sim A h (typOp h x arg) (typOp g x arg) := by
  unfold typOp
  rw [ag.node x hx]
  have s1 := sim_setNode cl ag hx
    { h.node x with typ := (Typ.typ (h.node x).lang (typReceiverOk (h.node x).kind) (h.node x).typ arg).stored }
    (cl.refs hx)
  exact s1.trans (sim_warn s1.closed s1.agree _)

omit cl ag in
theorem foldl_sim (f : Heap → Nat → Heap) : ∀ (l : List Nat) {h g : Heap},
    (∀ e ∈ l, ∀ {h g : Heap}, Closed h A → Agree A h g → Sim A h (f h e) (f g e)) → Closed h A → Agree A h g →
    Sim A h (l.foldl f h) (l.foldl f g)
  | [], _, _, _, cl, ag => sim_refl cl ag
  | e :: es, _, _, hf, cl, ag =>
    have s1 := hf e List.mem_cons_self cl ag
    s1.trans (foldl_sim f es (fun e' m => hf e' (List.mem_cons_of_mem _ m)) s1.closed s1.agree)

omit cl ag in
/-- what an option method does to a node that is neither a CP nor a coord -/
def optLeaf (sp : OptSpec) (val : Val) (h : Heap) (x : Nat) : Heap :=
  if sp.allowed.contains (h.kind x) || (h.kind x).isDep then
    if val == .none then h.setProp x sp.prop (.b true)
    else if !(val.pyIn sp.valid) then
      if (Val.b false).pyIn sp.valid then (h.warn).setProp x sp.prop (.b false) else h.warn
    else h.setProp x sp.prop val
  else h.warn

theorem optLeaf_sim (sp : OptSpec) (val : Val) {x : Nat} (hx : x ∈ A) :
    Sim A h (optLeaf sp val h x) (optLeaf sp val g x) := by
  have sw := sim_warn cl ag 1
  simp only [optLeaf, ag.kind hx]
  exact sim_ite
    (sim_ite (setProp_sim cl ag hx _ _)
      (sim_ite (sim_ite (sw.trans (setProp_sim sw.closed sw.agree hx _ _)) sw) (setProp_sim cl ag hx _ _)))
    sw

omit cl ag in
theorem optRun_succ (sp : OptSpec) (val : Val) (fuel : Nat) (h : Heap) (x : Nat) :
    optRun sp val (fuel + 1) h x =
      if val == .none && !sp.emptyOk then h.warn
      else if h.kind x = .CP && sp.name != s "pos" then
        (h.kids x).foldl (fun acc e => if sp.allowed.contains (acc.kind e) then optRun sp val fuel acc e else acc) h
      else if h.kind x = .coord && sp.name != s "pos" then
        (h.kids x).foldl (fun acc d =>
          match (acc.node d).term with
          | some t => if sp.allowed.contains (acc.kind t) then optRun sp val fuel acc t else acc
          | none => acc) h
      else optLeaf sp val h x := rfl

omit cl ag in
theorem optRun_sim (sp : OptSpec) (val : Val) : ∀ (fuel : Nat) {h g : Heap} {x : Nat}, Closed h A → Agree A h g →
    x ∈ A → Sim A h (optRun sp val fuel h x) (optRun sp val fuel g x)
  | 0, _, _, _, cl, ag, _ => sim_refl cl ag
  | f + 1, h, g, x, cl, ag, hx => by
    simp only [optRun_succ, ag.kind hx, ag.kids hx]
    refine sim_ite (sim_warn cl ag 1) (sim_ite ?_ (sim_ite ?_ (optLeaf_sim cl ag sp val hx)))
    · -- a CP: propagation to the elements
      refine foldl_sim _ _ (fun e he acc acc' cacc aacc => ?_) cl ag
      have heA := cl.kid hx he
      rw [aacc.kind heA]
      exact sim_ite (optRun_sim sp val f cacc aacc heA) (sim_refl cacc aacc)
    · -- a coord: propagation to the terminals of the dependents
      refine foldl_sim _ _ (fun d hd acc acc' cacc aacc => ?_) cl ag
      have hdA := cl.kid hx hd
      rw [aacc.node d hdA]
      cases ht : (acc.node d).term with
      | none => exact sim_refl cacc aacc
      | some t =>
        have htA := cacc.term hdA ht
        dsimp only
        rw [aacc.kind htA]
        exact sim_ite (optRun_sim sp val f cacc aacc htA) (sim_refl cacc aacc)

end
end Pyrealb.Heap
