import Pyrealb.Model.ConjWF
/-! Consequences of the well-formedness predicates of `Model/ConjWF` (used by `Props/C01`). -/
namespace Pyrealb.Conj
open Pyrealb

theorem lookup_mem {α} {k : Str} {l : List (Str × α)} {v : α} (h : lookup k l = some v) : (k, v) ∈ l := by
  induction l with
  | nil => simp [lookup] at h
  | cons kv r ih =>
    obtain ⟨k', v'⟩ := kv
    by_cases hk : k' = k
    · subst hk
      simp [lookup] at h
      subst h
      exact List.mem_cons_self
    · simp [lookup, hk] at h
      exact List.mem_cons_of_mem _ (ih h)

theorem lookup_of_key {α} {k : Str} : ∀ {l : List (Str × α)}, (∃ p ∈ l, p.1 = k) → ∃ v, lookup k l = some v
  | [], ⟨_, hp, _⟩ => nomatch hp
  | (k', v') :: r, ⟨p, hp, hk⟩ => by
    unfold lookup
    by_cases h : k' = k
    · exact ⟨v', if_pos h⟩
    · rw [if_neg h]
      rcases List.mem_cons.mp hp with rfl | hp
      · exact absurd hk h
      · exact lookup_of_key ⟨p, hp, hk⟩

theorem lookup_of_mem_nodup {α} {k : Str} {v : α} : ∀ {l : List (Str × α)},
    (k, v) ∈ l → (l.map (·.1)).Nodup → lookup k l = some v
  | [], h, _ => by cases h
  | (k', v') :: r, h, hn => by
    simp only [List.map_cons, List.nodup_cons] at hn
    by_cases hk : k' = k
    · subst hk
      rcases List.mem_cons.mp h with h | h
      · cases h; simp [lookup]
      · exact absurd (List.mem_map.mpr ⟨(k', v), h, rfl⟩) hn.1
    · rcases List.mem_cons.mp h with h | h
      · cases h; exact absurd rfl hk
      · simp only [lookup, hk, if_false]
        exact lookup_of_mem_nodup h hn.2

/-- a string as a number (base 2³², digit = code point + 1): the kernel compares numerals far faster than strings -/
def strCode : Str → Nat
  | [] => 0
  | c :: r => c.toNat + 1 + 4294967296 * strCode r

theorem strCode_inj : ∀ {a b : Str}, strCode a = strCode b → a = b
  | [], [], _ => rfl
  | [], c :: r, h => by simp only [strCode] at h; omega
  | c :: r, [], h => by simp only [strCode] at h; omega
  | c :: r, d :: q, h => by
    have hc : c.toNat < 4294967296 := c.val.toNat_lt
    have hd : d.toNat < 4294967296 := d.val.toNat_lt
    simp only [strCode] at h
    rw [Char.toNat_inj.mp (by omega : c.toNat = d.toNat), strCode_inj (by omega : strCode r = strCode q)]

/-- the keys are distinct (a JSON object), decided on their codes -/
def distinctCodes : List Str → Bool
  | [] => true
  | a :: r => !(r.any (fun b => Nat.beq (strCode a) (strCode b))) && distinctCodes r

theorem distinctCodes_nodup : ∀ {l : List Str}, distinctCodes l = true → l.Nodup
  | [], _ => List.nodup_nil
  | a :: r, h => by
    simp only [distinctCodes, Bool.and_eq_true, Bool.not_eq_true', List.any_eq_false] at h
    exact List.nodup_cons.mpr ⟨fun hm => h.1 a hm (Nat.beq_refl _), distinctCodes_nodup h.2⟩

theorem Tense.mem_all (t : Tense) : t ∈ Tense.all := by
  cases t <;> decide

theorem ofCode_code (t : Tense) : Tense.ofCode? t.code = some t :=
  (by decide +kernel : ∀ t ∈ Tense.all, Tense.ofCode? t.code = some t) t t.mem_all

theorem ofCode_some {x : Str} {t : Tense} (h : Tense.ofCode? x = some t) : t.code = x := by
  simpa using List.find?_some h

theorem list_len6 {α} {l : List α} (h : l.length = 6) : ∃ a b c d e f, l = [a, b, c, d, e, f] := by
  match l, h with
  | [a, b, c, d, e, f], _ => exact ⟨a, b, c, d, e, f, rfl⟩

theorem list_len4 {α} {l : List α} (h : l.length = 4) : ∃ a b c d, l = [a, b, c, d] := by
  match l, h with
  | [a, b, c, d], _ => exact ⟨a, b, c, d, rfl⟩

theorem isListOf_elim {k : Nat} {r : Row} (h : r.isListOf k = true) : ∃ l, r = .list l ∧ l.length = k := by
  cases r with
  | null => simp [Row.isListOf] at h
  | str x => simp [Row.isListOf] at h
  | list l => exact ⟨l, rfl, by simpa [Row.isListOf] using h⟩

theorem isStr_elim {r : Row} (h : r.isStr = true) : ∃ x, r = .str x := by
  cases r with
  | null => simp [Row.isStr] at h
  | str x => exact ⟨x, rfl⟩
  | list l => simp [Row.isStr] at h

theorem isNull_elim {r : Row} (h : r.isNull = true) : r = .null := by
  cases r <;> simp [Row.isNull] at h ⊢

theorem hasRow_of_row {tb : Table} {code : Str} {r : Row} (hT : tb.hasT = true) (h : tb.row? code = some r) :
    tb.hasRow code = true := by
  simp [Table.hasRow, hT, h]

theorem wfVerb_elim {wfTable : Table → Bool} {rules : Rules} {v : Verb} (h : wfVerb wfTable rules v = true) :
    ∃ tb, lookup v.tab rules = some tb ∧ wfTable tb = true ∧ endsWith v.lemma tb.ending = true := by
  unfold wfVerb at h
  split at h
  · next tb htb =>
    simp only [Bool.and_eq_true] at h
    exact ⟨tb, htb, h.1, h.2⟩
  · simp at h

theorem setLemma_wf {rules : Rules} {v : Verb} {tb : Table} (htb : lookup v.tab rules = some tb)
    (hend : endsWith v.lemma tb.ending = true) :
    setLemma rules v.lemma (some v) =
      { lemma := v.lemma, tab := some v.tab, stem := dropRight v.lemma tb.ending.length, warns := 0 } := by
  simp [setLemma, htb, hend]

structure EnRows (tb : Table) : Prop where
  hasT : tb.hasT = true
  /-- a row exists only for `b pp pr` (a string) and `p ps` (a string or six cells) -/
  row : ∀ (t : Tense) (r : Row), tb.row? t.code = some r →
    ((t = .b ∨ t = .pp ∨ t = .pr) ∧ ∃ x, r = .str x) ∨
    ((t = .p ∨ t = .ps) ∧ ((∃ x, r = .str x) ∨ ∃ a b c d e f, r = .list [a, b, c, d, e, f]))

theorem wfRowEn_elim {t : Tense} {r : Row} (h : wfRowEn t.code r = true) :
    ((t = .b ∨ t = .pp ∨ t = .pr) ∧ ∃ x, r = .str x) ∨
    ((t = .p ∨ t = .ps) ∧ ((∃ x, r = .str x) ∨ ∃ a b c d e f, r = .list [a, b, c, d, e, f])) := by
  unfold wfRowEn at h
  rw [ofCode_code] at h
  cases t <;> simp at h <;> first
    | exact Or.inl ⟨by simp, isStr_elim h⟩
    | (refine Or.inr ⟨by simp, ?_⟩
       rcases h with h | h
       · exact Or.inl (isStr_elim h)
       · obtain ⟨l, rfl, hl⟩ := isListOf_elim h
         obtain ⟨a, b, c, d, e, f, rfl⟩ := list_len6 hl
         exact Or.inr ⟨a, b, c, d, e, f, rfl⟩)

theorem wfTableEn_elim {tb : Table} (h : wfTableEn tb = true) : EnRows tb := by
  unfold wfTableEn at h
  simp only [Bool.and_eq_true] at h
  obtain ⟨h1, h3⟩ := h
  refine ⟨h1, ?_⟩
  intro t r hr
  have hm := lookup_mem (show lookup t.code tb.rows = some r from hr)
  rw [List.all_eq_true] at h3
  exact wfRowEn_elim (h3 _ hm)

theorem wfRowFr_elim {t : Tense} {r : Row} (h : wfRowFr t.code r = true) :
    (t ∈ [Tense.p, .i, .f, .ps, .c, .s, .si, .ip] ∧ ∃ l, r = .list l ∧ l.length = 6) ∨
    (t = .pp ∧ ∃ l, r = .list l ∧ l.length = 4) ∨
    (t = .pr ∧ ((∃ x, r = .str x) ∨ r = .null)) ∨
    (t = .b ∧ ∃ x, r = .str x) := by
  unfold wfRowFr at h
  rw [ofCode_code] at h
  cases t <;> simp only [Bool.or_eq_true] at h <;> first
    | exact Or.inl ⟨by simp, isListOf_elim h⟩
    | exact Or.inr (Or.inl ⟨rfl, isListOf_elim h⟩)
    | exact Or.inr (Or.inr (Or.inl ⟨rfl, h.imp isStr_elim isNull_elim⟩))
    | exact Or.inr (Or.inr (Or.inr ⟨rfl, isStr_elim h⟩))
    | cases h

structure FrRows (tb : Table) : Prop where
  hasT : tb.hasT = true
  /-- a row exists only for the eight person tenses (six cells), `pp` (four cells), `pr` (a string or null) and
      `b` (a string) -/
  row : ∀ (t : Tense) (r : Row), tb.row? t.code = some r →
    (t ∈ [Tense.p, .i, .f, .ps, .c, .s, .si, .ip] ∧ ∃ l, r = .list l ∧ l.length = 6) ∨
    (t = .pp ∧ ∃ l, r = .list l ∧ l.length = 4) ∨
    (t = .pr ∧ ((∃ x, r = .str x) ∨ r = .null)) ∨
    (t = .b ∧ ∃ x, r = .str x)
  /-- and these eleven rows exist -/
  has : ∀ t ∈ frRowCodes, ∃ r, tb.row? t.code = some r

theorem wfTableFr_elim {tb : Table} (h : wfTableFr tb = true) : FrRows tb := by
  simp only [wfTableFr, Bool.and_eq_true, List.all_eq_true] at h
  obtain ⟨⟨h1, h3⟩, h4⟩ := h
  exact ⟨h1, fun t r hr => wfRowFr_elim (h3 _ (lookup_mem (show lookup t.code tb.rows = some r from hr))),
    fun t ht => Option.isSome_iff_exists.mp (h4 t ht)⟩

namespace FrRows
variable {tb : Table} (R : FrRows tb)
include R

theorem fin (t : Tense) (ht : t ∈ [Tense.p, .i, .f, .ps, .c, .s, .si, .ip]) :
    ∃ a b c d e f, tb.row? t.code = some (.list [a, b, c, d, e, f]) := by
  obtain ⟨r, hr⟩ := R.has t (by
    simp only [List.mem_cons, List.not_mem_nil, or_false] at ht
    rcases ht with rfl | rfl | rfl | rfl | rfl | rfl | rfl | rfl <;> simp [frRowCodes])
  rcases R.row t r hr with ⟨_, l, rfl, hl⟩ | ⟨rfl, _⟩ | ⟨rfl, _⟩ | ⟨rfl, _⟩
  · obtain ⟨a, b, c, d, e, f, rfl⟩ := list_len6 hl
    exact ⟨a, b, c, d, e, f, hr⟩
  all_goals simp at ht

theorem pp : ∃ a b c d, tb.row? Tense.pp.code = some (.list [a, b, c, d]) := by
  obtain ⟨r, hr⟩ := R.has .pp (by simp [frRowCodes])
  rcases R.row _ r hr with ⟨h, _⟩ | ⟨_, l, rfl, hl⟩ | ⟨h, _⟩ | ⟨h, _⟩
  · simp at h
  · obtain ⟨a, b, c, d, rfl⟩ := list_len4 hl
    exact ⟨a, b, c, d, hr⟩
  all_goals cases h

theorem pr : (∃ x, tb.row? Tense.pr.code = some (.str x)) ∨ tb.row? Tense.pr.code = some .null := by
  obtain ⟨r, hr⟩ := R.has .pr (by simp [frRowCodes])
  rcases R.row _ r hr with ⟨h, _⟩ | ⟨h, _⟩ | ⟨_, ⟨x, rfl⟩ | rfl⟩ | ⟨h, _⟩
  · simp at h
  · cases h
  · exact Or.inl ⟨x, hr⟩
  · exact Or.inr hr
  · cases h

theorem b : ∃ x, tb.row? Tense.b.code = some (.str x) := by
  obtain ⟨r, hr⟩ := R.has .b (by simp [frRowCodes])
  rcases R.row _ r hr with ⟨h, _⟩ | ⟨h, _⟩ | ⟨h, _⟩ | ⟨_, x, rfl⟩
  · simp at h
  · cases h
  · cases h
  · exact ⟨x, hr⟩

theorem none (t : Tense) (ht : t ∈ [Tense.bTo, .pc, .pq, .cp, .pa, .fa, .spa, .spq, .bp, .bpTo]) :
    tb.row? t.code = none := by
  cases hr : tb.row? t.code with
  | none => rfl
  | some r =>
    simp only [List.mem_cons, List.not_mem_nil, or_false] at ht
    rcases R.row t r hr with ⟨h, _⟩ | ⟨h, _⟩ | ⟨h, _⟩ | ⟨h, _⟩ <;>
      rcases ht with rfl | rfl | rfl | rfl | rfl | rfl | rfl | rfl | rfl | rfl <;> simp at h

end FrRows

def pick6 {α} (a b c d e f : α) : Person → Num → α
  | .p1, .s => a | .p2, .s => b | .p3, .s => c
  | .p1, .p => d | .p2, .p => e | .p3, .p => f

def pick4 {α} (a b c d : α) : Num → Gender → α
  | .s, .m => a | .s, .f => b | .p, .m => c | .p, .f => d

theorem at6 (a b c d e f : Option Str) (pe : Person) (n : Num) :
    Row.at (.list [a, b, c, d, e, f]) (idx6 pe n) = .ok (pick6 a b c d e f pe n) := by
  cases pe <;> cases n <;> rfl

theorem at4 (a b c d : Option Str) (n : Num) (g : Gender) :
    Row.at (.list [a, b, c, d]) (ConjFr.idx4 n g) = .ok (pick4 a b c d n g) := by
  cases n <;> cases g <;> rfl

theorem idx4_pos (n : Num) (g : Gender) : (ConjFr.idx4 n g > 0) = (ConjFr.idx4 n g ≠ 0) := by
  cases n <;> cases g <;> simp [ConjFr.idx4]

theorem noRowEn {tb : Table} (R : EnRows tb) {t : Tense}
    (ht : t ≠ .p ∧ t ≠ .ps ∧ t ≠ .pr ∧ t ≠ .pp ∧ t ≠ .b) : tb.hasRow t.code = false := by
  cases hrow : tb.row? t.code with
  | none => simp [Table.hasRow, hrow]
  | some r =>
    rcases R.row t r hrow with ⟨h, _⟩ | ⟨h, _⟩
    · rcases h with rfl | rfl | rfl <;> simp at ht
    · rcases h with rfl | rfl <;> simp at ht

theorem map_error {α β ε} {x : Except ε α} {f : α → β} {e : ε} (h : (do let r ← x; pure (f r)) = .error e) :
    x = .error e := by
  cases x <;> cases h
  rfl

theorem elideLoopFr_error (pl : Bool) (l : List Tok) (err : Crash) (h : elideLoopFr pl l = .error err) :
    err = .other := by
  fun_induction elideLoopFr pl l
  all_goals first
    | (cases h <;> rfl)
    | exact (by assumption : _ → err = .other) (map_error h)

theorem surfaceFr_error (toks : List Tok) (err : Crash) (h : surfaceFr toks = .error err) : err = .other := by
  unfold surfaceFr at h
  simp only [bind, Except.bind, pure, Except.pure] at h
  split at h
  · cases h
  · split at h
    · next hh => cases h; exact elideLoopFr_error _ _ _ hh
    · cases h


end Pyrealb.Conj
