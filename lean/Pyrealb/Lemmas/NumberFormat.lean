import Pyrealb.Model.NumberNO
import Pyrealb.Model.NumberEval
import Pyrealb.Lemmas.NumberWordsSplit
/-! Digit formatting: the text produced by `formatFixedW` is read back by `parseNumber` (any grouping / decimal
sign that is not a digit), and `roundHE` rounds to nearest, ties to even. -/
namespace Pyrealb.Number
open Pyrealb Pyrealb.NumberSpec Pyrealb.Gen.NumberWords

theorem digitVal_digitChar : ∀ d < 10, digitVal (digitChar d) = some d := by decide +kernel

theorem natOfDigits_append (acc : Nat) (a b : Str) :
    NumberSpec.natOfDigits acc (a ++ b) = (NumberSpec.natOfDigits acc a).bind (fun v => NumberSpec.natOfDigits v b) := by
  induction a generalizing acc with
  | nil => simp [NumberSpec.natOfDigits]
  | cons c cs ih =>
    simp only [List.cons_append, NumberSpec.natOfDigits]
    cases digitVal c with
    | none => simp
    | some d => simp [ih]

def AllDigits (x : Str) : Prop := ∀ c ∈ x, (digitVal c).isSome = true

/-- `x` is made of decimal digits and reads, after whatever was read before it, as `n` -/
def Digits (x : Str) (n : Nat) : Prop :=
  (∀ acc, NumberSpec.natOfDigits acc x = some (acc * 10 ^ x.length + n)) ∧ AllDigits x

theorem Digits.single {d : Nat} (h : d < 10) : Digits [digitChar d] d := by
  constructor
  · intro acc
    simp [NumberSpec.natOfDigits, digitVal_digitChar d h]
  · intro c hc
    simp at hc; subst hc
    simp [digitVal_digitChar d h]

theorem Digits.append {a b : Str} {m n : Nat} (ha : Digits a m) (hb : Digits b n) :
    Digits (a ++ b) (m * 10 ^ b.length + n) := by
  constructor
  · intro acc
    rw [natOfDigits_append, ha.1, Option.bind_some, hb.1, List.length_append, Nat.pow_add, Nat.add_mul,
      Nat.mul_assoc, Nat.add_assoc]
  · intro c hc
    rcases List.mem_append.mp hc with h | h
    · exact ha.2 c h
    · exact hb.2 c h

theorem Digits.value {x : Str} {m n : Nat} (h : Digits x m) (e : m = n) : Digits x n := e ▸ h

theorem digitsAux_spec : ∀ (f n : Nat), n ≤ f → Digits (digitsAux f n) n ∧ digitsAux f n ≠ []
  | 0, n, hn => by
    have : n = 0 := by omega
    subst this
    exact ⟨.single (by decide), by simp [digitsAux]⟩
  | f + 1, n, hn => by
    by_cases hlt : n < 10
    · simp only [digitsAux, hlt, if_true]
      exact ⟨.single hlt, by simp⟩
    · simp only [digitsAux, hlt, if_false]
      have h := (digitsAux_spec f (n / 10) (by omega)).1.append (.single (Nat.mod_lt n (by decide)))
      exact ⟨h.value (by simp; omega), by simp⟩

theorem digitsAux_length : ∀ (f n L : Nat), n < 10 ^ (L + 1) → (digitsAux f n).length ≤ L + 1
  | 0, _, _, _ => by simp [digitsAux]
  | f + 1, n, L, h => by
    by_cases hlt : n < 10
    · simp [digitsAux, hlt]
    · cases L with
      | zero => omega
      | succ L =>
        have := digitsAux_length f (n / 10) L (by rw [Nat.div_lt_iff_lt_mul (by decide)]; rw [Nat.pow_succ] at h; exact h)
        simp only [digitsAux, hlt, if_false, List.length_append, List.length_singleton]
        omega

theorem pad3_spec (t : Nat) (h : t < 1000) : Digits (pad3 t) t := by
  have h := (Digits.single (d := t / 100) (by omega)).append
    ((Digits.single (Nat.mod_lt (t / 10) (by decide))).append (.single (Nat.mod_lt t (by decide))))
  exact h.value (by simp; omega)

theorem splitKeep_none (p : Char → Bool) (x : Str) (h : ∀ c ∈ x, p c = false) : splitKeep p x = [x] := by
  induction x with
  | nil => rfl
  | cons a r ih =>
    have ha : p a = false := h a (by simp)
    have := ih (fun c hc => h c (by simp [hc]))
    simp [splitKeep, ha, this]

theorem eqChar_digit_false (g c : Char) (hg : digitVal g = none) (hc : (digitVal c).isSome = true) :
    eqChar g c = false := by
  unfold eqChar
  cases h : c == g with
  | false => rfl
  | true =>
    have : c = g := by simpa using h
    subst this
    simp [hg] at hc

/-- `x` splits at `g` into a first piece of one to three characters and pieces of three, which together are the
    digits of `n`; every character of `x` is `g` or a digit -/
def Grouped (g : Char) (x : Str) (n : Nat) : Prop :=
  ∃ first rest, splitKeep (eqChar g) x = first :: rest ∧ 1 ≤ first.length ∧ first.length ≤ 3 ∧
    (∀ p ∈ rest, p.length = 3) ∧ Digits (first ++ rest.flatten) n ∧ ∀ c ∈ x, c = g ∨ (digitVal c).isSome = true

theorem group_pieces (g : Char) (hg : digitVal g = none) : ∀ (f n : Nat), n ≤ f → Grouped g (groupAuxW g f n) n := by
  -- below 1000 there is one piece
  have one : ∀ f n, n < 1000 → Grouped g (groupAuxW g f n) n := by
    intro f n hlt
    obtain ⟨h1, h3⟩ := digitsAux_spec n n (Nat.le_refl _)
    have : groupAuxW g f n = natRepr n := by cases f <;> simp [groupAuxW, hlt]
    rw [this]
    exact ⟨natRepr n, [], splitKeep_none _ _ (fun c hc => eqChar_digit_false g c hg (h1.2 c hc)),
      List.length_pos_iff.mpr h3, digitsAux_length n n 2 hlt, by simp, by simpa [natRepr] using h1,
      fun c hc => Or.inr (h1.2 c hc)⟩
  intro f
  induction f with
  | zero => exact fun n hn => one 0 n (by omega)
  | succ f ih =>
    intro n hn
    by_cases hlt : n < 1000
    · exact one _ n hlt
    · simp only [groupAuxW, hlt, if_false]
      obtain ⟨first, rest, hsp, l1, l2, l3, hv, hc⟩ := ih (n / 1000) (by omega)
      have hp := pad3_spec (n % 1000) (Nat.mod_lt _ (by decide))
      refine ⟨first, rest ++ [pad3 (n % 1000)], ?_, l1, l2, ?_, ?_, ?_⟩
      · rw [splitKeep_append_sep (eqChar g) _ _ g (by simp [eqChar]), hsp,
          splitKeep_none _ _ (fun c hc => eqChar_digit_false g c hg (hp.2 c hc))]
        simp
      · intro p hp
        rcases List.mem_append.mp hp with h | h
        · exact l3 p h
        · simp at h; subst h; rfl
      · rw [List.flatten_append, ← List.append_assoc, List.flatten_singleton]
        exact (hv.append hp).value (by simp [pad3]; omega)
      · intro c hc'
        rcases List.mem_append.mp hc' with h | h
        · exact hc c h
        · rcases List.mem_cons.mp h with h | h
          · exact Or.inl h
          · exact Or.inr (hp.2 c h)

theorem parseGrouped_group (g : Char) (hg : digitVal g = none) (n : Nat) :
    parseGrouped g (groupNatW g n) = some n := by
  obtain ⟨first, rest, hsp, l1, l2, l3, hv, _⟩ := group_pieces g hg n n (Nat.le_refl _)
  unfold parseGrouped groupNatW
  rw [hsp]
  have : rest.all (fun p => p.length == 3) = true := by
    simp only [List.all_eq_true, beq_iff_eq]; exact l3
  simpa [l1, l2, this] using hv.1 0

theorem fracDigits_spec : ∀ (p f : Nat), Digits (fracDigits p f) (f % 10 ^ p) ∧ (fracDigits p f).length = p
  | 0, f => ⟨⟨fun acc => by simp [fracDigits, NumberSpec.natOfDigits, Nat.mod_one], by intro c hc; simp [fracDigits] at hc⟩, rfl⟩
  | p + 1, f => by
    obtain ⟨h1, h3⟩ := fracDigits_spec p (f / 10)
    refine ⟨(h1.append (.single (Nat.mod_lt f (by decide)))).value ?_, by simp [fracDigits, h3]⟩
    rw [Nat.pow_succ', Nat.mod_mul]
    simp; omega

theorem parse_formatFixedW (g d : Char) (hg : digitVal g = none) (hd : digitVal d = none) (hgd : g ≠ d)
    (hg' : g ≠ '-') (neg : Bool) (q p : Nat) :
    parseNumber g d (formatFixedW g d neg q p) = some ⟨neg, q, p⟩ := by
  obtain ⟨first, rest, hsp, l1, _, _, _, hchars⟩ := group_pieces g hg (q / 10 ^ p) (q / 10 ^ p) (Nat.le_refl _)
  have hG := parseGrouped_group g hg (q / 10 ^ p)
  -- the integer part is not empty and does not start with '-'
  have hne : groupNatW g (q / 10 ^ p) ≠ [] := by
    intro h
    unfold groupNatW at h
    rw [h] at hsp
    simp only [splitKeep, List.cons.injEq] at hsp
    rw [← hsp.1] at l1
    simp at l1
  have hhead : ∀ c r, groupNatW g (q / 10 ^ p) = c :: r → c ≠ '-' := by
    intro c r h hc
    have := hchars c (by unfold groupNatW at h; rw [h]; simp)
    rcases this with h1 | h1
    · exact hg' (h1 ▸ hc)
    · subst hc; revert h1; decide
  -- no decimal sign inside the integer part
  have hnod : ∀ c ∈ groupNatW g (q / 10 ^ p), eqChar d c = false := by
    intro c hc
    rcases hchars c hc with h1 | h1
    · subst h1; simp [eqChar]; exact hgd
    · exact eqChar_digit_false d c hd h1
  obtain ⟨⟨f1, f2⟩, f3⟩ := fracDigits_spec p (q % 10 ^ p)
  have f1 := f1 0
  rw [Nat.zero_mul, Nat.zero_add] at f1
  have hnodF : ∀ c ∈ fracDigits p (q % 10 ^ p), eqChar d c = false :=
    fun c hc => eqChar_digit_false d c hd (f2 c hc)
  unfold parseNumber formatFixedW
  generalize hip : groupNatW g (q / 10 ^ p) = ip at *
  generalize htl : (if p = 0 then [] else d :: fracDigits p (q % 10 ^ p)) = tl
  -- what `parseNumber` computes first: the sign, and the text without it
  have hneg : (((if neg then ['-'] else []) ++ ip ++ tl).head? == some '-') = neg := by
    cases ip with
    | nil => exact absurd rfl hne
    | cons c r => cases neg <;> simp [hhead c r rfl]
  have hdrop : (if neg = true then ((if neg then ['-'] else []) ++ ip ++ tl).drop 1
      else (if neg then ['-'] else []) ++ ip ++ tl) = ip ++ tl := by cases neg <;> simp
  simp only [hneg, hdrop]
  subst htl
  by_cases hp : p = 0
  · subst hp
    simp only [if_true, List.append_nil, splitKeep_none _ _ hnod, hG, Option.map_some, Nat.pow_zero, Nat.div_one]
  · have hfe : (fracDigits p (q % 10 ^ p)).isEmpty = false := by
      rw [List.isEmpty_eq_false_iff, ← List.length_pos_iff, f3]; omega
    rw [if_neg hp, splitKeep_append_sep (eqChar d) _ _ d (by simp [eqChar]), splitKeep_none _ _ hnod,
      splitKeep_none _ _ hnodF]
    simp only [List.singleton_append, hfe, hG, f1, f3, Bool.false_eq_true, if_false, Nat.mod_mod,
      Nat.div_add_mod' q (10 ^ p)]

theorem halfEven_spec (m c P : Nat) (hc : 0 < c) (hP : 0 < P) :
    let q := if 2 * (m % c) > c ∨ (2 * (m % c) = c ∧ m / c % 2 = 1) then m / c + 1 else m / c
    2 * (m * P - q * (c * P)) ≤ c * P ∧ 2 * (q * (c * P) - m * P) ≤ c * P ∧
      ((2 * (m * P - q * (c * P)) = c * P ∨ 2 * (q * (c * P) - m * P) = c * P) → q % 2 = 0) := by
  intro q
  have hm : m * P = m / c * (c * P) + m % c * P := by
    rw [← Nat.mul_assoc, ← Nat.add_mul, Nat.div_add_mod' m c]
  have hr := Nat.mod_lt m hc
  -- comparing `2 r` with `c` is comparing `2 (r P)` with `c P`; the products are atoms for `omega`
  have h1 : 2 * (m % c) < c → 2 * (m % c * P) < c * P := fun h => by
    rw [← Nat.mul_assoc]; exact Nat.mul_lt_mul_of_pos_right h hP
  have h2 : c < 2 * (m % c) → c * P < 2 * (m % c * P) := fun h => by
    rw [← Nat.mul_assoc]; exact Nat.mul_lt_mul_of_pos_right h hP
  have h3 : 2 * (m % c) = c → 2 * (m % c * P) = c * P := fun h => by rw [← Nat.mul_assoc, h]
  have h4 : m % c * P ≤ c * P := Nat.mul_le_mul_right P (Nat.le_of_lt hr)
  have hq1 : (m / c + 1) * (c * P) = m / c * (c * P) + c * P := by rw [Nat.add_mul, Nat.one_mul]
  by_cases hup : 2 * (m % c) > c ∨ (2 * (m % c) = c ∧ m / c % 2 = 1)
  · simp only [q, hup, if_true, hq1, hm]
    omega
  · simp only [q, hup, if_false, hm]
    omega

theorem roundHE_isRounded (m k p : Nat) : IsRounded m k p (roundHE m k p) := by
  unfold IsRounded roundHE
  have hpos : ∀ e, 0 < 10 ^ e := fun e => Nat.pow_pos (by decide)
  by_cases hkp : k ≤ p
  · have : m * 10 ^ (p - k) * 10 ^ k = m * 10 ^ p := by
      rw [Nat.mul_assoc, ← Nat.pow_add, Nat.sub_add_cancel hkp]
    have := hpos k
    simp only [hkp, if_true]
    omega
  · have hc : 10 ^ k = 10 ^ (k - p) * 10 ^ p := by rw [← Nat.pow_add, Nat.sub_add_cancel (by omega)]
    simp only [hkp, if_false, hc]
    exact halfEven_spec m _ _ (hpos _) (hpos _)

theorem replaceChar_eq_map (c c' : Char) (x : Str) :
    replaceChar c [c'] x = x.map (fun a => if a = c then c' else a) := by
  induction x with
  | nil => rfl
  | cons a x ih =>
    rw [List.map_cons, ← ih]
    by_cases h : a = c <;> simp [replaceChar, List.flatMap_cons, h]

theorem map_digits {σ : Char → Char} (hσ : ∀ c, (digitVal c).isSome = true → σ c = c) {x : Str} (hx : AllDigits x) :
    x.map σ = x := by
  induction x with
  | nil => rfl
  | cons a x ih => rw [List.map_cons, hσ a (hx a (by simp)), ih (fun c hc => hx c (by simp [hc]))]

theorem groupAuxW_map {σ : Char → Char} (hσ : ∀ c, (digitVal c).isSome = true → σ c = c) (g : Char) :
    ∀ (f n : Nat), (groupAuxW g f n).map σ = groupAuxW (σ g) f n
  | 0, n => map_digits hσ (digitsAux_spec n n (Nat.le_refl _)).1.2
  | f + 1, n => by
    by_cases hlt : n < 1000
    · simp only [groupAuxW, hlt, if_true]
      exact map_digits hσ (digitsAux_spec n n (Nat.le_refl _)).1.2
    · simp only [groupAuxW, hlt, if_false, List.map_append, List.map_cons, groupAuxW_map hσ g f,
        map_digits hσ (pad3_spec (n % 1000) (Nat.mod_lt _ (by decide))).2]

theorem formatFixedW_map {σ : Char → Char} (hσ : ∀ c, (digitVal c).isSome = true → σ c = c) (hm : σ '-' = '-')
    (g d : Char) (neg : Bool) (q p : Nat) :
    (formatFixedW g d neg q p).map σ = formatFixedW (σ g) (σ d) neg q p := by
  unfold formatFixedW groupNatW
  rw [List.map_append, List.map_append, groupAuxW_map hσ]
  congr 1
  · cases neg <;> simp [hm]
  · by_cases hp : p = 0
    · simp [hp]
    · simp only [hp, if_false, List.map_cons, map_digits hσ (fracDigits_spec p _).1.2]

/-- `rules-en.json` uses comma / point (no replacement), `rules-fr.json` a no-break space and a comma; the format
    specifications are `"{:,}"` (int) and `"{:,.Pf}"` -/
theorem symbols_tbl : groupEn = [','] ∧ decimalEn = ['.'] ∧ groupFr = ['\u00a0'] ∧ decimalFr = [','] ∧
    formatSpecInt = s "{:,}" ∧ formatSpecHead = s "{:,." ∧ formatSpecTail = s "f}" := by decide +kernel

theorem substituted (ℓ : Lang) (neg : Bool) (q p : Nat) :
    (let res := formatFixed neg q p
     let res := if groupSym ℓ ≠ [','] then replaceChar ',' (groupSym ℓ) res else res
     if decimalSym ℓ ≠ ['.'] then replaceChar '.' (decimalSym ℓ) res else res)
      = formatFixedW (groupSign ℓ) (decimalSign ℓ) neg q p := by
  obtain ⟨h1, h2, h3, h4, _, _, _⟩ := symbols_tbl
  cases ℓ
  · simp [groupSym, decimalSym, pick, h1, h2, groupSign, decimalSign, formatFixed]
  · have fix : ∀ c c' : Char, digitVal c = none → ∀ a, (digitVal a).isSome = true → (if a = c then c' else a) = a := by
      intro c c' hc a ha
      split
      · simp_all
      · rfl
    simp only [groupSym, decimalSym, pick, h3, h4, groupSign, decimalSign, formatFixed]
    rw [if_pos (by decide), if_pos (by decide), replaceChar_eq_map, replaceChar_eq_map,
      formatFixedW_map (fix _ _ (by decide)) (by decide), formatFixedW_map (fix _ _ (by decide)) (by decide)]
    rfl

theorem parse_formatFixed_lang (ℓ : Lang) (neg : Bool) (q p : Nat) :
    parseNumber (groupSign ℓ) (decimalSign ℓ) (formatFixedW (groupSign ℓ) (decimalSign ℓ) neg q p) = some ⟨neg, q, p⟩ := by
  cases ℓ
  · exact parse_formatFixedW ',' '.' (by decide) (by decide) (by decide) (by decide) neg q p
  · exact parse_formatFixedW '\u00a0' ',' (by decide) (by decide) (by decide) (by decide) neg q p

theorem numberFormatter_flt (ℓ : Lang) (neg : Bool) (m k : Nat) (r : Str) (p : Nat) :
    numberFormatter ℓ (.flt neg m k r) (some (p : Int)) =
      .ok (formatFixedW (groupSign ℓ) (decimalSign ℓ) neg (roundHE m k p) p) := by
  have hp : ¬ ((p : Int) < 0) := by omega
  simp only [numberFormatter, hp, if_false, Int.toNat_natCast, pure, Except.pure]
  rw [substituted ℓ neg (roundHE m k p) p]

theorem numberFormatter_int (ℓ : Lang) (n : Int) (mp : Option Int) :
    numberFormatter ℓ (.int n) mp =
      .ok (formatFixedW (groupSign ℓ) (decimalSign ℓ) (decide (n < 0)) n.natAbs 0) := by
  simp only [numberFormatter, Int.lt_irrefl, if_false, pure, Except.pure]
  rw [substituted ℓ (decide (n < 0)) n.natAbs 0]

theorem between_flt (neg : Bool) (m k : Nat) (r : Str) :
    (Val.flt neg m k r).between (-2) 2 = decide (m < 2 * 10 ^ k) := by
  have hk : ((10 : Int) ^ k) = ((10 ^ k : Nat) : Int) := by simp
  simp only [Val.between, hk]
  generalize 10 ^ k = P
  by_cases h : m < 2 * P
  · cases neg <;> simp [h] <;> omega
  · cases neg <;> simp [h] <;> omega

end Pyrealb.Number
