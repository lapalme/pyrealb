import Pyrealb.Lemmas.ClauseFrPlaceLemmas
import Pyrealb.Model.ClauseFrRealize
/-! What `Phrase.processTyp` hands to the realization (constituent notation): the S is `pre ++ [VP]`, the VP starts with
    the verb that carries the negation, every other verb of the VP is a clean infinitive or participle, and the verbs
    are the declared nesting — passive, progressive and modality each put ONE new verb in front, which takes over the
    tense, and turn the former first verb into a participle / infinitive, whatever complements follow. -/
namespace Pyrealb.ClauseFr
open Pyrealb
open Pyrealb.Gen.ClauseFr

/-- lemma and tense of the verbs of an element list, in order -/
def verbChain (l : List El) : List (Str × Tense) :=
  l.filterMap (fun e => match e with | .v x => some (x.lex.lemma, x.t) | _ => none)

theorem verbChain_cons_v (x : VT) (l : List El) : verbChain (.v x :: l) = (x.lex.lemma, x.t) :: verbChain l := rfl

theorem verbChain_cons_nonV (e : El) (l : List El) (h : e.isV = false) : verbChain (e :: l) = verbChain l := by
  cases e with
  | v x => cases h
  | _ => rfl

theorem verbChain_append (a b : List El) : verbChain (a ++ b) = verbChain a ++ verbChain b :=
  List.filterMap_append

theorem verbChain_nonV (l : List El) (h : ∀ e ∈ l, e.isV = false) : verbChain l = [] :=
  List.filterMap_eq_nil_iff.mpr fun e he => by
    cases e with
    | v x => cases h _ he
    | _ => rfl

theorem verbChain_pyInsert (k : Nat) (e : El) (l : List El) (h : e.isV = false) :
    verbChain (pyInsert k e l) = verbChain l := by
  cases e with
  | v x => cases h
  | _ => exact filterMap_pyInsert_none _ k _ l rfl

theorem verbChain_eraseIdx (l : List El) (i : Nat) (h : ∀ e, l[i]? = some e → e.isV = false) :
    verbChain (l.eraseIdx i) = verbChain l :=
  filterMap_eraseIdx_none _ l i fun e he => by
    cases e with
    | v x => cases h _ he
    | _ => rfl

theorem firstIdx_getElem {α} (p : α → Bool) (l : List α) (i : Nat) (h : firstIdx p l = some i) :
    ∃ e, l[i]? = some e ∧ p e = true := by
  induction l generalizing i with
  | nil => cases h
  | cons a r ih =>
    unfold firstIdx at h
    by_cases ha : p a = true
    · rw [if_pos ha] at h; cases h; exact ⟨a, rfl, ha⟩
    · rw [if_neg ha, Option.map_eq_some_iff] at h
      obtain ⟨j, hj, rfl⟩ := h
      exact ih j hj

theorem firstIdx_cons_false {α} (p : α → Bool) (a : α) (l : List α) (h : p a = false) :
    firstIdx p (a :: l) = (firstIdx p l).map (· + 1) := by
  simp [firstIdx, h]

theorem auxVerbs_lemma_tbl : ∀ p ∈ auxVerbs, p.2.lemma = p.1 := by decide

theorem auxLex_lemma (lem : Str) (l : VerbLex) (h : auxLex lem = .ok l) : l.lemma = lem := by
  have key : ∀ tb : List (Str × VerbLex), (∀ p ∈ tb, p.2.lemma = p.1) → lookup lem tb = some l → l.lemma = lem := by
    intro tb htb hl
    induction tb with
    | nil => cases hl
    | cons p r ih =>
      obtain ⟨hp, hr⟩ := List.forall_mem_cons.mp htb
      rw [lookup] at hl
      by_cases hk : p.1 = lem
      · rw [if_pos hk] at hl; cases hl; exact hp.trans hk
      · rw [if_neg hk] at hl; exact ih hr hl
  unfold auxLex at h
  cases hl : lookup lem auxVerbs with
  | none => rw [hl] at h; cases h
  | some l' => rw [hl] at h; cases h; exact key auxVerbs auxVerbs_lemma_tbl hl

theorem auxLex_avoir : auxLex avoir = .ok verb_avoir := by rfl
theorem auxLex_etre : auxLex etre = .ok verb_etre := by rfl
theorem verb_avoir_lemma : verb_avoir.lemma = avoir := by decide
theorem verb_etre_lemma : verb_etre.lemma = etre := by decide

/-- a verb element behind the first one: no negation, not hyphen-linked, infinitive or participle -/
def TailOk : El → Prop
  | .v y => y.neg2 = none ∧ y.lier = false ∧ (y.t = .b ∨ y.t = .pp)
  | _ => True

/-- the VP starts with a verb whose `neg2` is `w` and `lier` is `b`; the other verbs are `TailOk` -/
def VPI (w : Option Str) (b : Bool) (vp : List El) : Prop :=
  ∃ x r, vp = .v x :: r ∧ x.neg2 = w ∧ x.lier = b ∧ ∀ e ∈ r, TailOk e

/-- …and the verbs of the VP are `c` -/
def VC (w : Option Str) (b : Bool) (c : List (Str × Tense)) (vp : List El) : Prop := VPI w b vp ∧ verbChain vp = c

theorem tailOk_nonV (e : El) (h : e.isV = false) : TailOk e := by
  cases e with
  | v x => cases h
  | _ => trivial

theorem vc_head (w : Option Str) (b : Bool) (c : List (Str × Tense)) (x y : VT) (r : List El)
    (h : VC w b c (.v x :: r)) (hn : y.neg2 = x.neg2) (hl : y.lier = x.lier) (hlex : y.lex = x.lex) (ht : y.t = x.t) :
    VC w b c (.v y :: r) := by
  obtain ⟨⟨x', r', he, h1, h2, h3⟩, hc⟩ := h
  cases he
  exact ⟨⟨y, r, rfl, hn.trans h1, hl.trans h2, h3⟩, by rw [← hc, verbChain_cons_v, verbChain_cons_v, hlex, ht]⟩

/-- **one more auxiliary in front**: `y` takes the place of the first verb `v`, whose lexeme follows as `z` -/
theorem vc_layer (w : Option Str) (b : Bool) (c : List (Str × Tense)) (v y z : VT) (mid rest : List El)
    (h : VC w b ((v.lex.lemma, v.t) :: c) (.v v :: rest)) (hn : y.neg2 = v.neg2) (hl : y.lier = v.lier)
    (hz : z.lex = v.lex ∧ z.neg2 = none ∧ z.lier = false ∧ (z.t = .b ∨ z.t = .pp)) (hmid : ∀ e ∈ mid, e.isV = false) :
    VC w b ((y.lex.lemma, y.t) :: (v.lex.lemma, z.t) :: c) (.v y :: (mid ++ .v z :: rest)) := by
  obtain ⟨⟨x', r', he, h1, h2, h3⟩, hc⟩ := h
  cases he
  refine ⟨⟨y, _, rfl, hn.trans h1, hl.trans h2, List.forall_mem_append.mpr
    ⟨fun e he => tailOk_nonV e (hmid e he), List.forall_mem_cons.mpr ⟨hz.2, h3⟩⟩⟩, ?_⟩
  · rw [verbChain_cons_v, verbChain_append, verbChain_nonV mid hmid, verbChain_cons_v, hz.1]
    exact congrArg (fun t => (y.lex.lemma, y.t) :: (v.lex.lemma, z.t) :: t) (List.cons.inj hc).2

/-- the S is `pre ++ [VP]` where `pre` holds neither a verb nor a VP -/
def SelShape (sel : List El) : Prop :=
  ∃ pre, sel = pre ++ [.vp] ∧ ∀ e ∈ pre, e.isV = false ∧ e.isVP = false

theorem selShape_hasVP (sel : List El) (h : SelShape sel) : sel.any El.isVP = true := by
  obtain ⟨pre, rfl, _⟩ := h
  simp [El.isVP]

theorem selShape_cons (sel : List El) (q : El) (hq : q.isV = false ∧ q.isVP = false) (h : SelShape sel) :
    SelShape (q :: sel) := by
  obtain ⟨pre, rfl, hpre⟩ := h
  exact ⟨q :: pre, rfl, List.forall_mem_cons.mpr ⟨hq, hpre⟩⟩

theorem selShape_elems (sp : Spec) : SelShape (phraseElems sp).1 := by
  unfold phraseElems
  cases hs : sp.subj with
  | none => exact ⟨[], by simp, by simp⟩
  | some s =>
    cases s with
    | pro vm pe n g => exact ⟨[.pro (SubjA.proT vm pe n g)], by simp, by simp [El.isV, El.isVP]⟩
    | np a =>
      by_cases ha : a.pro = true
      · exact ⟨[.pro (tonicProOf a.g a.n .nom)], by simp [ha], by simp [El.isV, El.isVP]⟩
      · exact ⟨[.np a], by simp [ha], by simp [El.isV, El.isVP]⟩

theorem vc_elems (sp : Spec) : VC none false [(sp.verb.lemma, sp.t)] (phraseElems sp).2 := by
  refine ⟨⟨_, _, rfl, rfl, rfl, ?_⟩, ?_⟩
  · intro e he
    obtain ⟨c, _, rfl⟩ := List.mem_map.mp he
    cases c <;> trivial
  · refine congrArg (_ :: ·) (verbChain_nonV _ ?_)
    intro e he
    obtain ⟨c, _, rfl⟩ := List.mem_map.mp he
    cases c <;> rfl

end Pyrealb.ClauseFr

namespace Pyrealb.C05
open Pyrealb Pyrealb.ClauseFr Pyrealb.Gen.ClauseFr

/-- passive: être (avoir for être) takes the tense (the present subjunctive for an imperative), the verb follows as a
    participle -/
def pasLayer (on : Bool) : List (Str × Tense) → List (Str × Tense)
  | (l, t) :: r => if on then (if l = etre then avoir else etre, if t = .ip then .s else t) :: (l, .pp) :: r else (l, t) :: r
  | [] => []

/-- progressive / modality: the auxiliary takes the tense, the former first verb follows as an infinitive -/
def auxLayer (aux : Option Str) : List (Str × Tense) → List (Str × Tense)
  | (l, t) :: r => match aux with
    | some a => (a, t) :: (l, .b) :: r
    | none => (l, t) :: r
  | [] => []

/-- the declared nesting `[modal] [être en train de] [être + pp] verb`, outermost first, with the tense of each -/
def expectedChain (sp : Spec) : List (Str × Tense) :=
  auxLayer (sp.typ.mod.bind modalLemma)
    (auxLayer (if sp.typ.prog then some progAux else none) (pasLayer sp.typ.pas [(sp.verb.lemma, sp.t)]))

end Pyrealb.C05

namespace Pyrealb.ClauseFr
open Pyrealb Pyrealb.Gen.ClauseFr
open Pyrealb.C05 (pasLayer auxLayer expectedChain)

theorem passiveSwap_vp (sel rest : List El) (v : VT) (hr : ∀ e ∈ rest, TailOk e) :
    ∃ v' rest', (passiveSwap sel (.v v :: rest)).2.2.1 = .v v' :: rest' ∧ v'.neg2 = v.neg2 ∧ v'.lier = v.lier ∧
      v'.lex = v.lex ∧ v'.t = v.t ∧ (∀ e ∈ rest', TailOk e) ∧ verbChain rest' = verbChain rest := by
  unfold passiveSwap
  rw [firstIdx_cons_false El.isNPorPro (.v v) rest rfl]
  cases ho : firstIdx El.isNPorPro rest with
  | some oi =>
    obtain ⟨e, he, hpe⟩ := firstIdx_getElem El.isNPorPro rest oi ho
    have heV : e.isV = false := by
      cases e with
      | v x => cases hpe
      | _ => rfl
    have herase : ∀ e ∈ rest.eraseIdx oi, TailOk e := fun e he => hr e (List.mem_of_mem_eraseIdx he)
    have hchain : verbChain (rest.eraseIdx oi) = verbChain rest :=
      verbChain_eraseIdx rest oi (fun e' he' => by rw [he] at he'; cases he'; exact heV)
    -- whatever the object is, the « par » phrase (if any) goes to a position ≥ 1
    have key : ∀ (k : Nat) (subject : Option El), ∃ v' rest', (match subject with
          | some s => pyInsert (k + 1) (.pp par s.inner false) (.v v :: rest.eraseIdx oi)
          | none => .v v :: rest.eraseIdx oi) = .v v' :: rest' ∧ v'.neg2 = v.neg2 ∧ v'.lier = v.lier ∧
        v'.lex = v.lex ∧ v'.t = v.t ∧ (∀ e ∈ rest', TailOk e) ∧ verbChain rest' = verbChain rest := by
      intro k subject
      cases subject with
      | none => exact ⟨v, _, rfl, rfl, rfl, rfl, rfl, herase, hchain⟩
      | some s => exact ⟨v, _, rfl, rfl, rfl, rfl, rfl, forall_mem_pyInsert k _ _ (tailOk_nonV _ rfl) herase,
          (verbChain_pyInsert k _ _ rfl).trans hchain⟩
    simp only [Option.map_some, List.eraseIdx_cons_succ, List.getElem?_cons_succ, he]
    cases e with
    | pro p => exact key oi _
    | np a => exact key oi _
    | _ => cases hpe
  | none =>
    simp only [Option.map_none]
    split
    · exact ⟨_, _, rfl, rfl, rfl, rfl, rfl, List.forall_mem_cons.mpr ⟨trivial, hr⟩, verbChain_cons_nonV _ _ rfl⟩
    · exact ⟨v, rest, rfl, rfl, rfl, rfl, rfl, hr, rfl⟩

theorem selShape_passiveSwap (sel vp : List El) (h : SelShape sel) : SelShape (passiveSwap sel vp).2.1 := by
  have hsel1 : SelShape (match sel with
      | .np a :: r => ((some (El.np a), r) : Option El × List El)
      | .pro p :: r => (some (.pro (passivePronounSubject p)), r)
      | _ => (none, sel)).2 := by
    obtain ⟨pre, rfl, hpre⟩ := h
    cases pre with
    | nil => exact ⟨[], rfl, hpre⟩
    | cons a r =>
      have hr := (List.forall_mem_cons.mp hpre).2
      cases a with
      | np a => exact ⟨r, rfl, hr⟩
      | pro p => exact ⟨r, rfl, hr⟩
      | _ => exact ⟨_ :: r, rfl, hpre⟩
  unfold passiveSwap
  simp only
  split
  · exact selShape_cons _ _ (by split <;> (try split) <;> simp [El.isV, El.isVP]) hsel1
  · split
    · exact selShape_cons _ _ ⟨rfl, rfl⟩ hsel1
    · exact hsel1

theorem passiveAux_cons (ns : Option El) (wo : Bool) (v : VT) (rest : List El) :
    ∃ y z, passiveAux ns wo (.v v :: rest) = .ok (.v y :: .v z :: rest) ∧ y.neg2 = v.neg2 ∧ y.lier = v.lier ∧
      y.lex.lemma = (if v.lex.lemma = etre then avoir else etre) ∧ y.t = (if v.t = .ip then .s else v.t) ∧
      z.lex = v.lex ∧ z.neg2 = none ∧ z.lier = false ∧ z.t = .pp := by
  simp only [passiveAux, auxLex_avoir, auxLex_etre, bind, Except.bind, firstIdx, El.isV, if_true,
    List.getElem?_cons_zero, List.eraseIdx_cons_zero, pyInsert, pure, Except.pure]
  refine ⟨_, _, rfl, ?_, ?_, ?_, ?_, ?_, ?_, ?_, ?_⟩
  · by_cases h2 : v.t = .ip <;> cases ns <;> simp [h2]
  · by_cases h2 : v.t = .ip <;> cases ns <;> simp [h2]
  · by_cases h1 : v.lex.lemma = etre <;> by_cases h2 : v.t = .ip <;> cases ns <;>
      simp [h1, h2, verb_avoir_lemma, verb_etre_lemma]
  · by_cases h2 : v.t = .ip <;> cases ns <;> simp [h2]
  all_goals cases ns <;> rfl

/-- **passive** (`Phrase.passivate` + `passive_agree_auxiliary`) -/
theorem stagePas_vc (sp : Spec) (s s' : List El × List El) (c : List (Str × Tense)) (hs : SelShape s.1)
    (hv : VC none false c s.2) (h : stagePas sp s = .ok s') :
    SelShape s'.1 ∧ VC none false (pasLayer sp.typ.pas c) s'.2 := by
  obtain ⟨⟨x, r, hx, hn, hl, hr⟩, hc⟩ := hv
  subst hc
  unfold stagePas at h
  cases hp : sp.typ.pas with
  | false =>
    rw [hp] at h
    cases h
    exact ⟨hs, ⟨x, r, hx, hn, hl, hr⟩, by rw [hx]; rfl⟩
  | true =>
    rw [hp, if_pos rfl, passivatePhrase, if_neg (by simpa using selShape_hasVP _ hs), hx] at h
    obtain ⟨v', rest', hsw, hn', hl', hlex, ht, hr', hch⟩ := passiveSwap_vp s.1 r x hr
    obtain ⟨y, z, hpa, y1, y2, y3, y4, z1, z2, z3, z4⟩ := passiveAux_cons
      (passiveSwap s.1 (.v x :: r)).1 (passiveSwap s.1 (.v x :: r)).2.2.2 v' rest'
    simp only [hsw, hpa, bind, Except.bind, pure, Except.pure, Except.ok.injEq] at h
    subst h
    refine ⟨selShape_passiveSwap _ _ hs, ?_⟩
    have hv' : VC none false ((v'.lex.lemma, v'.t) :: verbChain r) (.v v' :: rest') :=
      ⟨⟨v', rest', rfl, hn'.trans hn, hl'.trans hl, hr'⟩, by rw [verbChain_cons_v, hch]⟩
    have := vc_layer none false (verbChain r) v' y z [] rest' hv' y1 y2 ⟨z1, z2, z3, Or.inr z4⟩ (by simp)
    rw [y3, y4, z4, hlex, ht] at this
    rw [hx]
    exact this

/-- **progressive** of `PhraseFr.processTyp_verb` on a VP that starts with its verb -/
theorem progPhrase_cons (v : VT) (rest : List El) :
    progPhrase (.v v :: rest) = (auxLex progAux).map (fun lx =>
      .v { v.setLemma lx with isProg := true } :: .q enTrain :: .q deStr :: .v (mkV v.lex .b) :: rest) := by
  cases ha : auxLex progAux <;>
    simp [progPhrase, firstIdx, El.isV, ha, bind, Except.bind, Except.map, prosBefore, prosBefore.go, pyInsert, pure,
      Except.pure]

theorem stageProg_vc (sp : Spec) (s s' : List El × List El) (c : List (Str × Tense)) (hvp : s.1.any El.isVP = true)
    (hv : VC none false c s.2) (h : stageProg sp s = .ok s') :
    s'.1 = s.1 ∧ VC none false (auxLayer (if sp.typ.prog then some progAux else none) c) s'.2 := by
  obtain ⟨⟨x, r, hx, hn, hl, hr⟩, hc⟩ := hv
  subst hc
  unfold stageProg at h
  cases hp : sp.typ.prog with
  | false =>
    rw [hp, if_neg (by simp)] at h
    cases h
    exact ⟨rfl, ⟨x, r, hx, hn, hl, hr⟩, by rw [hx]; rfl⟩
  | true =>
    rw [hp, if_pos ⟨rfl, hvp⟩, hx, progPhrase_cons] at h
    cases ha : auxLex progAux with
    | error e => rw [ha] at h; cases h
    | ok lx =>
      rw [ha] at h
      cases h
      have hv' : VC none false ((x.lex.lemma, x.t) :: verbChain r) (.v x :: r) := ⟨⟨x, r, rfl, hn, hl, hr⟩, rfl⟩
      have := vc_layer none false (verbChain r) x { x.setLemma lx with isProg := true } (mkV x.lex .b)
        [.q enTrain, .q deStr] r hv' rfl rfl ⟨rfl, rfl, rfl, Or.inl rfl⟩ (by simp [El.isV])
      rw [hx]
      exact ⟨rfl, by rw [← auxLex_lemma _ _ ha]; exact this⟩

/-- **modality** of `PhraseFr.processTyp_verb` on a VP that starts with its verb -/
theorem modPhrase_cons (m : Str) (v : VT) (rest l : List El) (h : modPhrase m (.v v :: rest) = .ok l) :
    ∃ y z, l = .v y :: .v z :: rest ∧ y.neg2 = v.neg2 ∧ y.lier = v.lier ∧ y.t = v.t ∧
      y.lex.lemma = (modalLemma m).getD v.lex.lemma ∧ z.lex = v.lex ∧ z.neg2 = none ∧ z.lier = false ∧ z.t = .b := by
  unfold modPhrase at h
  simp only [firstIdx, El.isV, if_true, List.getElem?_cons_zero, bind, Except.bind, pure, Except.pure, prosBefore,
    List.take_zero, List.reverse_nil, prosBefore.go, ne_eq, not_true_eq_false, if_false, List.set_cons_zero,
    List.length_cons, Nat.zero_add, Nat.le_add_left, if_true, pyInsert] at h
  cases hm : modalLemma m with
  | none =>
    simp only [hm, Except.ok.injEq] at h
    subst h
    exact ⟨_, _, rfl, rfl, rfl, rfl, rfl, rfl, rfl, rfl, rfl⟩
  | some ml =>
    simp only [hm] at h
    cases ha : auxLex ml with
    | error e => simp [ha] at h
    | ok lx =>
      simp only [ha, Except.ok.injEq] at h
      subst h
      exact ⟨_, _, rfl, rfl, rfl, rfl, auxLex_lemma _ _ ha, rfl, rfl, rfl, rfl⟩

/-- the chain after `mod`: the modality verb in front — the verb itself when `mod` names none -/
def modLayer (sp : Spec) (c : List (Str × Tense)) : List (Str × Tense) :=
  auxLayer (sp.typ.mod.map fun m => (modalLemma m).getD (c.headD ([], .p)).1) c

theorem modLayer_eq (sp : Spec) (c : List (Str × Tense)) (hmod : ∀ m, sp.typ.mod = some m → (modalLemma m).isSome = true) :
    modLayer sp c = auxLayer (sp.typ.mod.bind modalLemma) c := by
  unfold modLayer
  cases hm : sp.typ.mod with
  | none => rfl
  | some m =>
    obtain ⟨ml, hml⟩ := Option.isSome_iff_exists.mp (hmod m hm)
    simp [hml]

theorem stageMod_vc (sp : Spec) (s s' : List El × List El) (c : List (Str × Tense)) (hvp : s.1.any El.isVP = true)
    (hv : VC none false c s.2) (h : stageMod sp s = .ok s') : s'.1 = s.1 ∧ VC none false (modLayer sp c) s'.2 := by
  obtain ⟨⟨x, r, hx, hn, hl, hr⟩, hc⟩ := hv
  subst hc
  unfold stageMod modLayer at *
  cases hm : sp.typ.mod with
  | none =>
    simp only [hm] at h
    cases h
    exact ⟨rfl, ⟨x, r, hx, hn, hl, hr⟩, by rw [hx]; rfl⟩
  | some m =>
    simp only [hm, if_pos hvp, hx] at h
    cases hr' : modPhrase m (.v x :: r) with
    | error e => rw [hr'] at h; cases h
    | ok l =>
      rw [hr'] at h
      cases h
      obtain ⟨y, z, rfl, y1, y2, y3, y4, z1, z2, z3, z4⟩ := modPhrase_cons m x r l hr'
      have hv' : VC none false ((x.lex.lemma, x.t) :: verbChain r) (.v x :: r) := ⟨⟨x, r, rfl, hn, hl, hr⟩, rfl⟩
      have := vc_layer none false (verbChain r) x y z [] r hv' y1 y2 ⟨z1, z2, z3, Or.inl z4⟩ (by simp)
      rw [y4, y3, z4] at this
      rw [hx]
      exact ⟨rfl, this⟩

theorem stageNeg_vc (sp : Spec) (s : List El × List El) (c : List (Str × Tense)) (hvp : s.1.any El.isVP = true)
    (hv : VC none false c s.2) :
    (stageNeg sp s).1 = s.1 ∧ VC (sp.typ.neg.map NegV.word2) false c (stageNeg sp s).2 := by
  obtain ⟨⟨x, r, hx, hn, hl, hr⟩, hc⟩ := hv
  unfold stageNeg
  cases sp.typ.neg with
  | none => exact ⟨rfl, ⟨x, r, hx, hn, hl, hr⟩, hc⟩
  | some nv =>
    dsimp only [Option.map_some]
    rw [if_pos hvp]
    refine ⟨rfl, ⟨{ x with neg2 := some nv.word2 }, r, ?_, rfl, hl, hr⟩, ?_⟩
    · rw [hx]; rfl
    · rw [← hc, hx]; rfl

end Pyrealb.ClauseFr
