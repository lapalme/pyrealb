import Pyrealb.Model.ElisionSpec
import Pyrealb.Lemmas.ElisionSep
/-! Word-level lemmas for C06.  Every fact about the lifted tables is a closed proposition over `Gen.Elision`
    decided by the kernel (hence re-proved when the source tables change: a failure names the fact that the new
    table breaks), lifted to arbitrary words; then what the clauses `clausesFr` say of a pair of adjacent words
    after each kind of rewrite. -/
namespace Pyrealb.Elision
open Pyrealb Pyrealb.Gen.Elision

theorem lower_head (a : Str) : (lower a).head? = a.head?.map lowerC := by
  cases a <;> simp [lower]

/-- `w[:-1] + "'"` -/
def elidedOf (w : Str) : Str := w.dropLast ++ ['\'']

theorem elidedOf_def (w : Str) : w.dropLast ++ ['\''] = elidedOf w := rfl

theorem lower_elidedOf (w : Str) : lower (elidedOf w) = elidedOf (lower w) := by
  rw [elidedOf, lower, List.map_append, List.map_dropLast]; rfl

theorem elidedOf_ne_nil (w : Str) : elidedOf w ≠ [] := by simp [elidedOf]

/-! ### `isElidableFr` depends on the lower-cased first character only -/

def nextClass (oc : Option Char) (h : HFlag) : Except Crash Bool :=
  match oc with
  | none => .ok false
  | some lc =>
    if vowelsFr.contains lc then .ok true
    else if lc == 'h' then hAnswer h
    else .ok false

theorem elidableNext_eq (x : Str) (h : HFlag) : elidableNext x h = nextClass ((lower x).head?) h := by
  cases x <;> rfl

theorem vowelOrMuteH_eq (w : Str) (t : Tok) :
    vowelOrMuteH w t = isOkTrue (nextClass ((lower w).head?) t.hW) := by
  rw [vowelOrMuteH, elidableNext_eq]

def allH : List HFlag := [.mute, .aspire, .crash]
theorem mem_allH (h : HFlag) : h ∈ allH := by cases h <;> simp [allH]

theorem fact_lowerPairs_wd : ∀ p ∈ lowerPairs, isWd .fr p.1 = true := by decide +kernel
theorem fact_vowel_wd : ∀ c ∈ 'h' :: vowelsFr, isWd .fr c = true := by decide +kernel

/-- a character that `isElidableFr` accepts (vowel or h, any case) is a word character of `sepWordREC` -/
theorem wd_of_class (c : Char) (h : vowelsFr.contains (lowerC c) = true ∨ lowerC c = 'h') : isWd .fr c = true := by
  by_cases hu : c.isUpper = true
  · simp only [isWd, isW, Char.isAlphanum, Char.isAlpha, hu, Bool.true_or]
  · cases hl : lowerPairs.lookup c with
    | some d =>
      obtain ⟨l₁, l₂, e, _⟩ := List.lookup_eq_some_iff.mp hl
      exact fact_lowerPairs_wd (c, d) (by rw [e]; simp)
    | none =>
      have e : lowerC c = c := by rw [lowerC, if_neg hu, hl]
      rw [e] at h
      apply fact_vowel_wd
      cases h with
      | inl h => exact List.mem_cons_of_mem _ (List.contains_iff_mem.mp h)
      | inr h => rw [h]; exact List.mem_cons_self

/-! ### the contraction table as triples -/

def firstPart (k : Str) : Str := k.takeWhile (· != '+')
def secondPart (k : Str) : Str := (k.dropWhile (· != '+')).drop 1
def triples : List (Str × Str × Str) := contractionFrTable.map (fun kv => (firstPart kv.1, secondPart kv.1, kv.2))

theorem lookup_mem {α} (k : Str) : ∀ (tbl : List (Str × α)) (v : α), lookup k tbl = some v → (k, v) ∈ tbl := by
  intro tbl
  induction tbl with
  | nil => intro v h; simp [lookup] at h
  | cons kv r ih =>
    intro v h
    obtain ⟨k', v'⟩ := kv
    by_cases hk : k' = k
    · simp [lookup, hk] at h; simp [hk, h]
    · simp [lookup, hk] at h; simp [ih v h]

theorem isWd_plus (ℓ : Lang) : isWd ℓ '+' = false := by cases ℓ <;> decide

theorem split_plus (ℓ : Lang) (w1 w2 : Str) (h1 : ∀ x ∈ w1, isWd ℓ x = true) :
    firstPart (w1 ++ '+' :: w2) = w1 ∧ secondPart (w1 ++ '+' :: w2) = w2 := by
  have := takeWhile_append_stop (fun c : Char => c != '+') w1 ('+' :: w2)
    (by
      intro c hc
      have := h1 c hc
      simp only [bne_iff_ne, ne_eq]
      intro e; rw [e, isWd_plus] at this; cases this)
    (by intro c t h; cases h; rfl)
  simp [firstPart, secondPart, this.1, this.2]

theorem contrFr_triple (w1 w2 c : Str) (h1 : ∀ x ∈ w1, isWd .fr x = true) (h : contrFr w1 w2 = some c) :
    (w1, w2, c) ∈ triples := by
  have sp := split_plus .fr w1 w2 h1
  exact List.mem_map.mpr ⟨(w1 ++ '+' :: w2, c), lookup_mem _ _ _ h, by simp only [sp.1, sp.2]⟩

theorem contrFr_none_first (w1 w2 : Str) (hw : ∀ c ∈ w1, isWd .fr c = true) (h : ∀ tr ∈ triples, tr.1 ≠ w1) :
    contrFr w1 w2 = none := by
  cases hcf : contrFr w1 w2 with
  | none => rfl
  | some c => exact absurd rfl (h _ (contrFr_triple _ _ _ hw hcf))

theorem contrFr_none_second (w1 w2 : Str) (hw : ∀ c ∈ w1, isWd .fr c = true) (h : ∀ tr ∈ triples, tr.2.1 ≠ w2) :
    contrFr w1 w2 = none := by
  cases hcf : contrFr w1 w2 with
  | none => rfl
  | some c => exact absurd rfl (h _ (contrFr_triple _ _ _ hw hcf))

/-- the words whose last letter `doElision` may replace by an apostrophe -/
def EE : List Str := elidableFr ++ euphonicFr

/-- an elided form (`l'`, `qu'`, `c'`, …) is not itself elidable, euphonic, prevocalic, à/de or le/les -/
theorem fact_elided_inert : ∀ e ∈ EE,
    elidableFr.contains (elidedOf e) = false ∧ euphonicFr.contains (elidedOf e) = false ∧
    prevocalicOnly.contains (elidedOf e) = false ∧ aDe.contains (elidedOf e) = false ∧
    leLes.contains (elidedOf e) = false := by decide +kernel

/-- nor is it part of a key of the contraction table -/
theorem fact_elided_no_key : ∀ e ∈ EE, ∀ tr ∈ triples, lower tr.1 ≠ elidedOf e ∧ lower tr.2.1 ≠ elidedOf e := by
  decide +kernel

/-- no elidable or euphonic word begins with a vowel or an h; eliding keeps the first letter -/
theorem fact_heads : ∀ e ∈ EE, (∀ h ∈ allH, nextClass e.head? h = .ok false) ∧ (elidedOf e).head? = e.head? := by
  decide +kernel

/-- what the euphony branch may write: a value of the table, as it is or capitalised -/
def euphResults : List Str := euphonieFrTable.flatMap (fun kv => [kv.2, capitalizePy kv.2])

/-- the prevocalic forms of the euphony table (capitalised or not) are words that begin with a consonant -/
theorem fact_euph_word : ∀ v ∈ euphResults,
    v ≠ [] ∧ v.all (isWd .fr) = true ∧ ∀ h ∈ allH, nextClass (lower v).head? h = .ok false := by decide +kernel

/-- they are inert for every other rule -/
theorem fact_euph_inert : ∀ v ∈ euphResults,
    elidableFr.contains (lower v) = false ∧ euphonicFr.contains (lower v) = false ∧
    aDe.contains (lower v) = false ∧ leLes.contains (lower v) = false := by decide +kernel

theorem fact_euph_no_key : ∀ v ∈ euphResults, ∀ tr ∈ triples, tr.1 ≠ v ∧ tr.2.1 ≠ v := by decide +kernel

/-- every word of `euphonieFrRE` is a key of `euphonieFrTable` (no KeyError), and `euphForm` yields a result -/
theorem fact_euph_total : ∀ e ∈ euphonicFr, ∃ v, lookup e euphonieFrTable = some v ∧
    v ∈ euphResults ∧ capitalizePy v ∈ euphResults := by decide +kernel

/-- a euphonic word is not elidable, not a prevocalic form, not à/de, and starts no key of the contraction table -/
theorem fact_euphonic_disjoint : ∀ e ∈ euphonicFr,
    elidableFr.contains e = false ∧ prevocalicOnly.contains e = false ∧ aDe.contains e = false ∧
    (∀ tr ∈ triples, lower tr.1 ≠ e) := by decide +kernel

/-- the contraction table: first parts are no elided or prevocalic form and no euphony exception -/
theorem fact_triples_first : ∀ tr ∈ triples,
    isElidedForm tr.1 = false ∧ isPrevocalicOnly tr.1 = false ∧ euphExc tr.1 = false := by decide +kernel

/-- results are words that keep the first letter's class (vowel / h / consonant), are neither le/les nor euphony
    exceptions -/
theorem fact_triples_result : ∀ tr ∈ triples,
    tr.2.2 ≠ [] ∧ tr.2.2.all (isWd .fr) = true ∧
    (∀ h ∈ allH, nextClass (lower tr.2.2).head? h = nextClass (lower tr.1).head? h) ∧
    leLes.contains (lower tr.2.2) = false ∧ euphExc tr.2.2 = false := by decide +kernel

/-- à/de + le/les are keys of the contraction table -/
theorem fact_obligatory : ∀ a ∈ aDe, ∀ b ∈ leLes, (contrFr a b).isSome = true := by decide +kernel

/-- none of the euphony exceptions is `est`, `étai…`, `a` -/
theorem fact_exc_not_ceverb : ∀ x ∈ euphExceptionsFr, ceVerb x = false := by decide +kernel

theorem mem_EE_of_elidable (w : Str) (h : isElidableWord w = true) : lower w ∈ EE :=
  List.mem_append_left _ (List.contains_iff_mem.mp h)

theorem mem_EE_of_euphonic (w : Str) (h : isEuphonic w = true) : lower w ∈ EE :=
  List.mem_append_right _ (List.contains_iff_mem.mp h)

theorem wd_elidedOf (w : Str) (hw : ∀ c ∈ w, isWd .fr c = true) : ∀ c ∈ elidedOf w, isWd .fr c = true := by
  intro c hc
  cases List.mem_append.mp hc with
  | inl h => exact hw c ((List.dropLast_prefix w).subset h)
  | inr h => rw [List.mem_singleton.mp h]; decide

theorem elided_inert (w : Str) (h : lower w ∈ EE) :
    isElidableWord (elidedOf w) = false ∧ isEuphonic (elidedOf w) = false ∧
    isPrevocalicOnly (elidedOf w) = false ∧ aDe.contains (lower (elidedOf w)) = false ∧
    leLes.contains (lower (elidedOf w)) = false := by
  obtain ⟨f1, f2, f3, f4, f5⟩ := fact_elided_inert (lower w) h
  simp only [isElidableWord, isEuphonic, isPrevocalicOnly, lower_elidedOf]
  exact ⟨f1, f2, f3, f4, f5⟩

theorem contrFr_elided_first (w1 w2 : Str) (h : lower w1 ∈ EE) (hw : ∀ c ∈ w1, isWd .fr c = true) :
    contrFr (elidedOf w1) w2 = none :=
  contrFr_none_first _ _ (wd_elidedOf w1 hw) fun tr htr e =>
    (fact_elided_no_key _ h tr htr).1 (by rw [e, lower_elidedOf])

theorem contrFr_elided_second (w1 w2 : Str) (h : lower w2 ∈ EE) (hw : ∀ c ∈ w1, isWd .fr c = true) :
    contrFr w1 (elidedOf w2) = none :=
  contrFr_none_second _ _ hw fun tr htr e =>
    (fact_elided_no_key _ h tr htr).2 (by rw [e, lower_elidedOf])

theorem vowelOrMuteH_false_of_EE (w : Str) (t : Tok) (h : lower w ∈ EE) : vowelOrMuteH w t = false := by
  rw [vowelOrMuteH_eq, (fact_heads _ h).1 t.hW (mem_allH _)]; rfl

theorem vowelOrMuteH_elidedOf (w : Str) (t : Tok) (h : lower w ∈ EE) : vowelOrMuteH (elidedOf w) t = false := by
  have f := fact_heads _ h
  rw [vowelOrMuteH_eq, lower_elidedOf, f.2, f.1 t.hW (mem_allH _)]; rfl

theorem euphResult_wd (v : Str) (hv : v ∈ euphResults) : v ≠ [] ∧ ∀ c ∈ v, isWd .fr c = true :=
  ⟨(fact_euph_word v hv).1, List.all_eq_true.mp (fact_euph_word v hv).2.1⟩

theorem vowelOrMuteH_euphResult (v : Str) (t : Tok) (hv : v ∈ euphResults) : vowelOrMuteH v t = false := by
  rw [vowelOrMuteH_eq, (fact_euph_word v hv).2.2 t.hW (mem_allH _)]; rfl

theorem contrFr_euphResult_first (v c : Str) (hv : v ∈ euphResults) : contrFr v c = none :=
  contrFr_none_first _ _ (euphResult_wd v hv).2 fun tr htr => (fact_euph_no_key v hv tr htr).1

theorem contrFr_euphResult_second (w1 v : Str) (hw : ∀ c ∈ w1, isWd .fr c = true) (hv : v ∈ euphResults) :
    contrFr w1 v = none :=
  contrFr_none_second _ _ hw fun tr htr => (fact_euph_no_key v hv tr htr).2

/-- `euphonieFrTable[w1.lower()]` exists for every word of `euphonieFrRE`, and the form written is a known one -/
theorem euphForm_some (w : Str) (h : isEuphonic w = true) : ∃ r, euphForm w = some r ∧ r ∈ euphResults := by
  obtain ⟨v, hl, hv, hcv⟩ := fact_euph_total _ (List.contains_iff_mem.mp h)
  rw [euphForm, hl]
  by_cases hu : headUpper w = true
  · exact ⟨_, rfl, by rw [if_pos hu]; exact hcv⟩
  · exact ⟨_, rfl, by rw [if_neg hu]; exact hv⟩

/-- the result of a contraction: a word with the first letter's class of the first part, which is not `le/les`;
    neither of them is a euphony exception -/
theorem contr_result (w1 w2 c : Str) (hw : ∀ x ∈ w1, isWd .fr x = true) (h : contrFr w1 w2 = some c) :
    c ≠ [] ∧ (∀ x ∈ c, isWd .fr x = true) ∧
    (∀ t t' : Tok, t'.hW = t.hW → vowelOrMuteH c t' = vowelOrMuteH w1 t) ∧
    leLes.contains (lower c) = false ∧ euphExc c = euphExc w1 := by
  have tr := contrFr_triple _ _ _ hw h
  obtain ⟨hne, hwd, hcls, hl, hexc⟩ := fact_triples_result _ tr
  refine ⟨hne, List.all_eq_true.mp hwd, ?_, hl, hexc.trans (fact_triples_first _ tr).2.2.symm⟩
  intro t t' e
  rw [vowelOrMuteH_eq, vowelOrMuteH_eq, e]
  exact congrArg isOkTrue (hcls t.hW (mem_allH _))

theorem imp_of_false_or {b : Bool} {p : Prop} : (b = false ∨ p) ↔ (b = true → p) := by cases b <;> simp

theorem clausesFr_iff (w1 w2 : Str) (sg V isD fr2 : Bool) : clausesFr w1 sg w2 V isD fr2 = true ↔
    (isElidableWord w1 = true → V = false) ∧ (isElidedForm w1 = true → V = true) ∧
    (fr2 = true → contrFr w1 w2 = none) ∧
    (aDe.contains (lower w1) = true → leLes.contains (lower w2) = true → isD = true → fr2 = false) ∧
    (isEuphonic w1 = true → sg = true → V = true → euphExc w2 = true) ∧
    (isPrevocalicOnly w1 = true → V = true ∧ euphExc w2 = false) := by
  simp only [clausesFr, Bool.and_eq_true, Bool.or_eq_true, Bool.not_eq_true', Bool.and_eq_false_imp,
    Option.isNone_iff_eq_none, and_assoc, Bool.not_eq_false', imp_of_false_or, and_imp]

theorem elim_of_false {b : Bool} {p : Prop} (h : b = false) : b = true → p :=
  fun e => absurd e (ne_true_of_eq_false h)

/-- after `w1 -> w1[:-1]+"'"` before a vowel or mute h -/
theorem clauses_after_elision (w1 w2 : Str) (sg isD fr2 : Bool) (h : lower w1 ∈ EE)
    (hw : ∀ c ∈ w1, isWd .fr c = true) : clausesFr (elidedOf w1) sg w2 true isD fr2 = true := by
  obtain ⟨f1, f2, f3, f4, _⟩ := elided_inert w1 h
  exact (clausesFr_iff ..).mpr ⟨elim_of_false f1, fun _ => rfl, fun _ => contrFr_elided_first w1 w2 h hw,
    elim_of_false f4, elim_of_false f2, elim_of_false f3⟩

/-- after `w1 -> euphonieFrTable[w1.lower()]` (capitalised or not) before a vowel or mute h that is not an exception -/
theorem clauses_after_euph (v w2 : Str) (sg isD fr2 : Bool) (hv : v ∈ euphResults)
    (hexc : euphExc w2 = false) : clausesFr v sg w2 true isD fr2 = true := by
  obtain ⟨g3, g4, g5, _⟩ := fact_euph_inert _ hv
  exact (clausesFr_iff ..).mpr ⟨elim_of_false g3, fun _ => rfl, fun _ => contrFr_euphResult_first v w2 hv,
    elim_of_false g5, elim_of_false g4, fun _ => ⟨rfl, hexc⟩⟩

/-- a euphonic word left alone before `et`, `ou`, `où`, `aujourd'hui` -/
theorem clauses_euph_exc (w1 w2 : Str) (sg isD fr2 : Bool) (he : isEuphonic w1 = true)
    (hw : ∀ c ∈ w1, isWd .fr c = true) (hexc : euphExc w2 = true) : clausesFr w1 sg w2 true isD fr2 = true := by
  obtain ⟨d1, d2, d3, d4⟩ := fact_euphonic_disjoint _ (List.contains_iff_mem.mp he)
  exact (clausesFr_iff ..).mpr ⟨elim_of_false d1, fun _ => rfl,
    fun _ => contrFr_none_first _ _ hw fun tr htr e => d4 tr htr (congrArg lower e),
    elim_of_false d3, fun _ _ _ => hexc, elim_of_false d2⟩

/-- the look-ahead: `w1` (first part of a contraction key) before `w2[:-1]+"'"` -/
theorem clauses_ahead_first (w1 w2 c : Str) (sg isD fr2 : Bool) (hc : contrFr w1 w2 = some c)
    (hw1 : ∀ x ∈ w1, isWd .fr x = true) (he : isElidableWord w2 = true) :
    clausesFr w1 sg (elidedOf w2) false isD fr2 = true := by
  obtain ⟨t1, t3, _⟩ := fact_triples_first _ (contrFr_triple _ _ _ hw1 hc)
  have h2 := mem_EE_of_elidable w2 he
  exact (clausesFr_iff ..).mpr ⟨fun _ => rfl, elim_of_false t1, fun _ => contrFr_elided_second w1 w2 h2 hw1,
    fun _ => elim_of_false (elided_inert w2 h2).2.2.2.2, fun _ _ e => absurd e Bool.false_ne_true, elim_of_false t3⟩

/-- no rule applied to the pair and the backward clauses held: the pair is settled -/
theorem clauses_of_no_rule (w1 w2 : Str) (sg V isD fr2 : Bool)
    (h1 : (V && isElidableWord w1) = false) (h2 : (V && isEuphonic w1 && sg) = false)
    (h3 : fr2 = true → contrFr w1 w2 = none)
    (hb : ((!isElidedForm w1 || V) && (!isPrevocalicOnly w1 || (V && !euphExc w2))) = true)
    (ht5 : (!(aDe.contains (lower w1) && leLes.contains (lower w2) && fr2) || (aDe.contains w1 && leLes.contains w2)) = true) :
    clausesFr w1 sg w2 V isD fr2 = true := by
  simp only [Bool.and_eq_true, Bool.or_eq_true, Bool.not_eq_true', Bool.and_eq_false_imp, imp_of_false_or,
    and_imp] at h1 h2 hb
  refine (clausesFr_iff ..).mpr ⟨fun e => ?_, hb.1, h3, fun ha hl _ => ?_, fun e s v => ?_, hb.2⟩
  · cases V with
    | false => rfl
    | true => exact absurd e (by rw [h1 rfl]; decide)
  · -- à/de + le/les in lower case is a key of the table
    cases hf : fr2 with
    | false => rfl
    | true =>
      rw [ha, hl, hf] at ht5
      simp only [Bool.and_self, Bool.not_true, Bool.false_or, Bool.and_eq_true, List.contains_iff_mem] at ht5
      have k := fact_obligatory w1 ht5.1 w2 ht5.2
      rw [h3 hf] at k; cases k
  · have := h2 v e
    rw [s] at this; cases this

/-- the clauses read the second word through the contraction table, `le/les` and the euphony exceptions only:
    a pair stays settled when its second word is rewritten into one that is inert for these -/
theorem clauses_transfer (w1 w2 w2' : Str) (sg V isD fr2 : Bool) (h3 : fr2 = true → contrFr w1 w2' = none)
    (hl : leLes.contains (lower w2') = false) (he : V = true → euphExc w2' = euphExc w2)
    (hc : clausesFr w1 sg w2 V isD fr2 = true) : clausesFr w1 sg w2' V isD fr2 = true := by
  obtain ⟨c1, c2, _, _, c5, c6⟩ := (clausesFr_iff ..).mp hc
  refine (clausesFr_iff ..).mpr ⟨c1, c2, h3, fun _ => elim_of_false hl, fun e s v => ?_, fun e => ?_⟩
  · rw [he v]; exact c5 e s v
  · have := c6 e
    exact ⟨this.1, by rw [he this.1]; exact this.2⟩

end Pyrealb.Elision
