import Pyrealb.Lemmas.ClauseEnDep
/-! Normal form of `realizeDepW`: the tokens of the clause proper are the declarative linearisation `linDep`, on each of
    the two shapes the clause has after passivation (`plainSt`, `dummySt`).  The control flow of
    `Dependent.processTypInt` is stated for an arbitrary state (`processIntDep_obj`, `_subj`, `_ppq`, `mainD_tag`). -/
namespace Pyrealb.ClauseEn

/-- tokens (agreement resolved) of a list of dependents, the tag left out -/
def mainToks (a : Agr) (nodes : List DNode) : List Tok :=
  (((nodes.map grpOfNode).map (fun g => { g with toks := g.toks.map (Tok.resolve a) })).filter
      (fun g => g.kind != .tag)).flatMap (·.toks)

theorem mainToks_nil (a : Agr) : mainToks a [] = [] := rfl

theorem mainToks_it (a : Agr) : mainToks a [dIt] = [.arg .it] := by
  simp [mainToks, grpOfNode, dIt, Tok.resolve]

theorem mainToks_preq (a : Agr) (x : Str) : mainToks a [⟨.pre, .word (.q x), false, false⟩] = [.q x] := by
  simp [mainToks, grpOfNode, Tok.resolve]

theorem mainToks_preit (a : Agr) : mainToks a [⟨.pre, .arg .it, false, false⟩] = [.arg .it] := by
  simp [mainToks, grpOfNode, Tok.resolve]

theorem mainToks_dSubj (a : Agr) (x : ArgTok) : mainToks a [dSubj x] = [.arg x] := by
  simp [mainToks, grpOfNode, dSubj, Tok.resolve]

theorem mt_comp_arg (a : Agr) (x : ArgTok) (l : List DNode) :
    mainToks a (⟨.comp, .arg x, false, false⟩ :: l) = .arg x :: mainToks a l := by
  simp [mainToks, grpOfNode, Tok.resolve]

def toksOf (d : DNode) : List Tok :=
  match d.head with
  | .arg a => [.arg a]
  | .pp p a => [.prep p, .arg a]
  | .word t => [t]
  | .tag _ => []

/-- the clause proper of a dependency state: `pre` dependents, the terminal, `post` dependents -/
def mainD (st : DState) : List Tok :=
  (st.deps.filter (·.isPre)).flatMap toksOf
    ++ (match st.term with | .tok t => [t] | .v0 => [])
    ++ (st.deps.filter (fun d => !d.isPre)).flatMap toksOf

theorem mainToks_eq (a : Agr) (l : List DNode) : mainToks a l = (l.flatMap toksOf).map (Tok.resolve a) := by
  unfold mainToks
  induction l with
  | nil => rfl
  | cons d r ih =>
    simp only [List.map_cons, List.filter_cons, List.flatMap_cons, List.map_append, ← ih]
    obtain ⟨rel, head, pp, cm⟩ := d
    cases head <;> rfl

theorem dep_main (a : Agr) (st : DState) (w : Nat) :
    ({ grps := (grpsDep st).map (fun g => { g with toks := g.toks.map (Tok.resolve a) }), warn := w, agr := a } : Out).main
      = (mainD st).map (Tok.resolve a) := by
  have h : ({ grps := (grpsDep st).map (fun g => { g with toks := g.toks.map (Tok.resolve a) }), warn := w, agr := a } : Out).main
      = mainToks a (st.deps.filter (·.isPre)) ++ (match st.term with | .tok t => [Tok.resolve a t] | .v0 => [])
        ++ mainToks a (st.deps.filter (fun d => !d.isPre)) := by
    cases hterm : st.term <;>
    simp [Out.main, grpsDep, mainToks, hterm, List.map_append, List.filter_append, List.flatMap_append]
  rw [h, mainToks_eq, mainToks_eq, mainD]
  cases st.term <;> simp

theorem toks_pps (ql : List (Str × ArgTok)) : (ql.map dPP).flatMap toksOf = ppToks ql := by
  induction ql with
  | nil => rfl
  | cons pa r ih => rw [List.map_cons, List.flatMap_cons, ih]; rfl

theorem toks_pres (ws : List Tok) : (ws.map dPre).flatMap toksOf = ws := by
  induction ws with
  | nil => rfl
  | cons w r ih => rw [List.map_cons, List.flatMap_cons, ih]; rfl

theorem toks_optObj (o : Option ArgTok) : (optL dObj o).flatMap toksOf = objToks o := by
  cases o <;> rfl

theorem toks_setComma (l : List DNode) (k : Nat) (p : DNode → Bool)
    (hp : ∀ d : DNode, p { d with comma := true } = p d) :
    ((setAt l k { (l[k]?.getD default) with comma := true }).filter p).flatMap toksOf = (l.filter p).flatMap toksOf := by
  induction l generalizing k with
  | nil => rfl
  | cons x r ih =>
    cases k with
    | zero =>
      simp only [setAt, List.getElem?_cons_zero, Option.getD_some, List.filter_cons, hp]
      split <;> rfl
    | succ k =>
      simp only [setAt, List.getElem?_cons_succ, List.filter_cons]
      split
      · rw [List.flatMap_cons, List.flatMap_cons, ih]
      · exact ih k

@[simp] theorem filter_pre_pps (ql : List (Str × ArgTok)) : (ql.map dPP).filter (·.isPre) = [] := by
  induction ql with
  | nil => rfl
  | cons x r ih => simp only [List.map_cons, List.filter_cons, dPP_isPre, ih]; rfl
@[simp] theorem filter_post_pps (ql : List (Str × ArgTok)) : (ql.map dPP).filter (fun d => !d.isPre) = ql.map dPP := by
  induction ql with
  | nil => rfl
  | cons x r ih => simp only [List.map_cons, List.filter_cons, dPP_isPre, ih]; rfl
@[simp] theorem filter_pre_words (ws : List Tok) : (ws.map dPre).filter (·.isPre) = ws.map dPre := by
  induction ws with
  | nil => rfl
  | cons x r ih => simp only [List.map_cons, List.filter_cons, dPre_isPre, ih]; rfl
@[simp] theorem filter_post_words (ws : List Tok) : (ws.map dPre).filter (fun d => !d.isPre) = [] := by
  induction ws with
  | nil => rfl
  | cons x r ih => simp only [List.map_cons, List.filter_cons, dPre_isPre, ih]; rfl
@[simp] theorem filter_pre_optObj (o : Option ArgTok) : (optL dObj o).filter (·.isPre) = [] := by
  cases o <;> simp [optL]
@[simp] theorem filter_post_optObj (o : Option ArgTok) : (optL dObj o).filter (fun d => !d.isPre) = optL dObj o := by
  cases o <;> simp [optL]

/-- the rest of `Dependent.processTyp` + `real` once the verb has been replaced by its words -/
def finishDep (ty : Typ) (st2 : DState) : Except Crash Out := do
  let st3 ← match ty.int with
    | some i => processIntDep ty i st2
    | none => pure st2
  pure { grps := (grpsDep st3).map (fun g => { g with toks := g.toks.map (Tok.resolve st3.agr) }), warn := st3.warn,
         agr := st3.agr }

theorem realizeDepW_eq (sp : Spec) (ty : Typ) (ws : List Tok) :
    realizeDepW sp ty ws = finishDep ty (processTypVerbDep ws (if ty.pas then passivateDep (initDep sp) else initDep sp)) :=
  rfl

@[simp] theorem isPre_mk (r : DRel) (h : DHead) (pp cm : Bool) :
    (DNode.mk r h pp cm).isPre = (!pp && (r == .subj || r == .pre)) := rfl

theorem mainD_tag (ty : Typ) (st : DState) :
    mainD (tagQuestionDep ty st) = mainD st ∧ (tagQuestionDep ty st).agr = st.agr := by
  unfold tagQuestionDep mainD
  simp only
  have h1 := fun l k => toks_setComma l k (fun d => d.isPre) (fun _ => rfl)
  have h2 := fun l k => toks_setComma l k (fun d => !d.isPre) (fun _ => rfl)
  split <;> (try split) <;> simp [List.filter_append, toksOf, h1, h2]

theorem fi_pre_ql (ql : List (Str × ArgTok)) (n : DNode) (hn : n.rel = .pre) (R : List DNode) :
    findIdx (fun d : DNode => d.rel == .pre) (ql.map dPP ++ n :: R) = some ql.length := by
  rw [findIdx_append_of_none _ _ _ (by intro x hx; obtain ⟨y, _, rfl⟩ := List.mem_map.mp hx; rfl)]
  simp [findIdx, hn]

theorem fi_pre_ql_nil (ql : List (Str × ArgTok)) :
    findIdx (fun d : DNode => d.rel == .pre) (ql.map dPP) = none :=
  findIdx_map_none _ _ _ (fun _ => rfl)

theorem fi_subj_ql (ql : List (Str × ArgTok)) (R : List DNode) (hR : findIdx (fun d : DNode => d.rel == .subj) R = none) :
    findIdx (fun d : DNode => d.rel == .subj) (ql.map dPP ++ R) = none := by
  rw [findIdx_append_of_none _ _ _ (by intro x hx; obtain ⟨y, _, rfl⟩ := List.mem_map.mp hx; rfl), hR]; rfl

theorem fi_subj_words (ws : List Tok) : findIdx (fun d : DNode => d.rel == .subj) (ws.map dPre) = none :=
  findIdx_map_none _ _ _ (fun _ => rfl)

theorem fi_obj_ql_words (ql : List (Str × ArgTok)) (ws : List Tok) :
    findIdx (fun d : DNode => d.rel == .comp && isNPPro d.head.ct) (ql.map dPP ++ ws.map dPre) = none := by
  apply findIdx_none_of_forall
  intro x hx
  rcases List.mem_append.mp hx with h | h
  · obtain ⟨y, _, rfl⟩ := List.mem_map.mp h; rfl
  · obtain ⟨y, _, rfl⟩ := List.mem_map.mp h; rfl

theorem any_pp_words (ws : List Tok) (hw : ws.all Tok.isWord = true) :
    (ws.map dPre).any (fun d => (d.rel == .comp || d.rel == .mod) && d.head.ct == .P) = false := by
  rw [List.any_eq_false]
  intro x hx
  obtain ⟨y, _, rfl⟩ := List.mem_map.mp hx
  simp [dPre]

theorem getD_words {α β} (f : α → β) (l : List α) (a : β) (R : List β) (d : β) :
    ((l.map f ++ a :: R)[l.length]?).getD d = a := by
  rw [getElem?_words]; rfl

/-- the question word a dependent gives the loop of Dependent.py:336-352: that of a prepositional dependent whose
    preposition fits the question -/
def ppHit (i : Int) (d : DNode) : Option Str :=
  match d.head with
  | .pp prep _ =>
    if (d.rel == .comp || d.rel == .mod) && prepQualifies i prep then some (questionPPPh i [(prep, .it)]).1 else none
  | _ => none

theorem findPPDep_cons (i : Int) (d : DNode) (r : List DNode) (k : Nat) :
    findPPDep i (d :: r) k = match ppHit i d with | some x => some (k, x) | none => findPPDep i r (k + 1) := by
  obtain ⟨rel, head, pp, cm⟩ := d
  cases head <;> try rfl
  simp only [findPPDep, ppHit]
  cases (rel == .comp || rel == .mod)
  · rfl
  · simp only [prepQualifies, questionPPPh, Bool.true_and]
    by_cases h1 : (i == .whe) = true <;> by_cases h2 : (i == .whn) = true <;> simp [h1, h2] <;> split <;> rfl

theorem findPPDep_shift (i : Int) (l : List DNode) (k : Nat) :
    findPPDep i l k = (findPPDep i l 0).map (fun x => (x.1 + k, x.2)) := by
  induction l generalizing k with
  | nil => rfl
  | cons d r ih =>
    rw [findPPDep_cons, findPPDep_cons]
    cases ppHit i d with
    | some x => simp
    | none => rw [ih (k + 1), ih 1]; cases findPPDep i r 0 <;> simp [Nat.add_comm, Nat.add_left_comm]

/-- prefix and dependents left by the loop -/
def dropPP (i : Int) (deps : List DNode) : Str × List DNode :=
  match findPPDep i deps 0 with
  | some (k, pre) => (pre, removeAt deps k)
  | none => (intPrefix i, deps)

theorem dropPP_cons (i : Int) (d : DNode) (r : List DNode) :
    dropPP i (d :: r) = match ppHit i d with | some x => (x, r) | none => ((dropPP i r).1, d :: (dropPP i r).2) := by
  unfold dropPP
  rw [findPPDep_cons]
  cases ppHit i d with
  | some x => rfl
  | none => rw [findPPDep_shift i r 1]; cases findPPDep i r 0 <;> rfl

theorem dropPP_skip (i : Int) (d : DNode) (r : List DNode) (h : ppHit i d = none) :
    dropPP i (d :: r) = ((dropPP i r).1, d :: (dropPP i r).2) := by rw [dropPP_cons, h]

theorem skip_dPre (i : Int) (t : Tok) (r : List DNode) (k : Nat) :
    findPPDep i (dPre t :: r) k = findPPDep i r (k + 1) := findPPDep_cons ..

theorem dropPP_words (i : Int) (ws : List Tok) : dropPP i (ws.map dPre) = (intPrefix i, ws.map dPre) := by
  induction ws with
  | nil => rfl
  | cons w r ih => rw [List.map_cons, dropPP_skip i _ _ rfl, ih]

def hasQual (i : Int) (ql : List (Str × ArgTok)) : Bool := ql.any (fun pa => prepQualifies i pa.1)

theorem questionPPDep_append (i : Int) (l1 l2 : List (Str × ArgTok)) :
    questionPPDep i (l1 ++ l2) =
      if hasQual i l1 then ((questionPPDep i l1).1, (questionPPDep i l1).2 ++ l2)
      else ((questionPPDep i l2).1, l1 ++ (questionPPDep i l2).2) := by
  induction l1 with
  | nil => simp [hasQual]
  | cons pa r ih =>
    obtain ⟨p, a⟩ := pa
    cases hq : prepQualifies i p
    · simp only [List.cons_append, questionPPDep, hq, Bool.false_eq_true, if_false, ih, hasQual, List.any_cons,
        Bool.false_or]
      by_cases h : (r.any fun pa => prepQualifies i pa.fst) = true <;> simp [h]
    · simp [questionPPDep, hasQual, hq]

theorem dropPP_pps (i : Int) (ql : List (Str × ArgTok)) (R : List DNode) :
    dropPP i (ql.map dPP ++ R) =
      if hasQual i ql then ((questionPPDep i ql).1, (questionPPDep i ql).2.map dPP ++ R)
      else ((dropPP i R).1, ql.map dPP ++ (dropPP i R).2) := by
  induction ql with
  | nil => simp [hasQual]
  | cons pa r ih =>
    obtain ⟨p, a⟩ := pa
    have hh : ppHit i (dPP (p, a)) = if prepQualifies i p then some (questionPPPh i [(p, .it)]).1 else none := by
      simp [ppHit, dPP]
    rw [List.map_cons, List.cons_append, dropPP_cons, hh]
    cases hq : prepQualifies i p
    · simp only [Bool.false_eq_true, if_false, ih, questionPPDep, hq, hasQual, List.any_cons, Bool.false_or]
      by_cases h : (r.any fun pa => prepQualifies i pa.fst) = true <;> simp [h]
    · simp [questionPPDep, questionPPPh, hasQual, hq]

theorem dropPP_pps_words (i : Int) (ql : List (Str × ArgTok)) (ws : List Tok) :
    dropPP i (ql.map dPP ++ ws.map dPre) = ((questionPPDep i ql).1, (questionPPDep i ql).2.map dPP ++ ws.map dPre) := by
  rw [dropPP_pps, dropPP_words]
  have := questionPPDep_append i ql []
  cases h : hasQual i ql
  · simp [h, questionPPDep] at this; simp [this]
  · rfl

theorem dropPP_plain (i : Int) (sj : ArgTok) (obj : Option ArgTok) (ql : List (Str × ArgTok)) (ws : List Tok) :
    dropPP i (dSubj sj :: (optL dObj obj ++ (ql.map dPP ++ ws.map dPre)))
      = ((questionPPDep i ql).1, dSubj sj :: (optL dObj obj ++ ((questionPPDep i ql).2.map dPP ++ ws.map dPre))) := by
  rw [dropPP_skip i _ _ rfl]
  cases obj with
  | none => exact congrArg (fun x => (x.1, dSubj sj :: x.2)) (dropPP_pps_words i ql ws)
  | some o =>
    rw [show optL dObj (some o) ++ (ql.map dPP ++ ws.map dPre) = dObj o :: (ql.map dPP ++ ws.map dPre) from rfl,
      dropPP_skip i _ _ rfl, dropPP_pps_words]
    rfl

/-- the loop on an objectless passive: the dependents before and after `*pre*(it)` are one list for the question -/
theorem dropPP_dummy (i : Int) (pps bl : List (Str × ArgTok)) (ws : List Tok) :
    ∃ p1 b1, dropPP i (pps.map dPP ++ (dIt :: (bl.map dPP ++ ws.map dPre)))
        = ((questionPPDep i (pps ++ bl)).1, p1.map dPP ++ (dIt :: (b1.map dPP ++ ws.map dPre))) ∧
      p1 ++ b1 = (questionPPDep i (pps ++ bl)).2 := by
  rw [dropPP_pps, questionPPDep_append, dropPP_skip i _ _ rfl, dropPP_pps_words]
  cases hasQual i pps
  · exact ⟨pps, _, rfl, rfl⟩
  · exact ⟨_, bl, rfl, rfl⟩

def prefixedD (x : Str) (st : DState) : DState := { st with deps := ⟨.pre, .word (.q x), false, false⟩ :: st.deps }

/-- a prepositional question on a state: the loop, then `move_object`, then the prefix -/
theorem processIntDep_ppq (ty : Typ) (i : Int) (hi : i.isPPq = true) (st : DState) :
    processIntDep ty i st =
      .ok (prefixedD (dropPP i st.deps).1 (moveObjectDep { st with deps := (dropPP i st.deps).2 })) := by
  cases i <;> (try cases hi) <;>
  · simp only [processIntDep, Gen.ClauseEn.depHasPrepositionList, Bool.not_true, Bool.and_false, Bool.false_eq_true,
      if_false, dropPP]
    cases findPPDep _ st.deps 0 <;> rfl

@[simp] theorem optL_some {α β} (f : α → β) (x : α) : optL f (some x) = [f x] := rfl
@[simp] theorem optL_none {α β} (f : α → β) : optL f none = [] := rfl

theorem fi_pre_obj_ql (obj : Option ArgTok) (ql : List (Str × ArgTok)) :
    findIdx (fun d : DNode => d.rel == .pre) (optL dObj obj ++ ql.map dPP) = none := by
  cases obj <;> simp [optL, findIdx, fi_pre_ql_nil]

theorem fi_pre_obj_ql_w (obj : Option ArgTok) (ql : List (Str × ArgTok)) (w : Tok) (R : List DNode) :
    findIdx (fun d : DNode => d.rel == .pre) (optL dObj obj ++ (ql.map dPP ++ dPre w :: R))
      = some ((optL dObj obj).length + ql.length) := by
  cases obj <;> simp [optL, findIdx, fi_pre_ql ql (dPre w) rfl R, Nat.add_comm]

theorem removeAt_obj_ql {R : List DNode} (obj : Option ArgTok) (ql : List (Str × ArgTok)) (x : DNode) :
    removeAt (optL dObj obj ++ (ql.map dPP ++ x :: R)) ((optL dObj obj).length + ql.length)
      = optL dObj obj ++ (ql.map dPP ++ R) := by
  cases obj <;> simp [optL, removeAt, removeAt_words, Nat.add_comm 1]

theorem getD_obj_ql {R : List DNode} (obj : Option ArgTok) (ql : List (Str × ArgTok)) (x d : DNode) :
    ((optL dObj obj ++ (ql.map dPP ++ x :: R))[(optL dObj obj).length + ql.length]?).getD d = x := by
  cases obj <;> simp [optL, Nat.add_comm]

theorem processIntDep_obj (ty : Typ) (i : Int) (hi : i = .wod ∨ i = .wad) (st : DState) :
    processIntDep ty i st =
      match findIdx (fun d => d.rel == .comp && isNPPro d.head.ct) st.deps with
      | some k =>
        .ok (prefixedD
          (if Gen.ClauseEn.depHumanObjectGetsIntValue && i == .wod &&
              (match st.deps[k]? with
               | some ⟨_, .arg (.np a), _, _⟩ => humanGender a.g
               | some ⟨_, .arg (.proMe a), _, _⟩ => humanGender a.g
               | _ => false) then s "whom" else intPrefix i)
          (moveObjectDep { st with deps := removeAt st.deps k }))
      | none => .ok (prefixedD (intPrefix i) (moveObjectDep st)) := by
  rcases hi with rfl | rfl <;>
  · simp only [processIntDep]
    cases findIdx (fun d : DNode => d.rel == .comp && isNPPro d.head.ct) st.deps <;> rfl

/-- subject questions: the `subj` dependent goes; person and number are reset on the terminal, which reaches the
    agreement record only when the terminal is the first word of the verb group -/
theorem processIntDep_subj (ty : Typ) (i : Int) (hi : i = .wos ∨ i = .was) (st : DState) :
    processIntDep ty i st = .ok (prefixedD (intPrefix i)
      (match findIdx (fun d => d.rel == .subj) st.deps with
       | some j =>
         { st with deps := removeAt st.deps j,
                   agr := match st.term with
                     | .tok (.verb _ _ .shared) => ⟨.p3, .s⟩
                     | .tok .cannot => ⟨.p3, .s⟩
                     | _ => st.agr }
       | none => st)) := by
  rcases hi with rfl | rfl <;> rfl

theorem moveObjectDep_plain (sj : ArgTok) (obj : Option ArgTok) (ql : List (Str × ArgTok)) (init : List Tok) (last : Tok)
    (agr : Agr) (g : Gender) :
    moveObjectDep (plainSt sj obj ql init last agr g) =
      { plainSt sj obj ql init last agr g with
        deps := match init with
          | w0 :: init' => dPre w0 :: dSubj sj :: (optL dObj obj ++ (ql.map dPP ++ init'.map dPre))
          | [] => ⟨.subj, .arg sj, aloneDep last.lemmaName, false⟩ :: (optL dObj obj ++ ql.map dPP) } := by
  cases init with
  | nil =>
    by_cases hal : aloneDep last.lemmaName = true <;>
      simp [moveObjectDep, hal, plainSt, findIdx, fi_pre_obj_ql, setAt, DTerm.lemmaName, dSubj]
  | cons w0 init' =>
    simp [moveObjectDep, plainSt, findIdx, fi_pre_obj_ql_w, removeAt, removeAt_obj_ql]
    rfl

@[simp] theorem resolve_arg (a : Agr) (x : ArgTok) : Tok.resolve a (.arg x) = .arg x := rfl
@[simp] theorem resolve_q (a : Agr) (x : Str) : Tok.resolve a (.q x) = .q x := rfl

theorem mainD_prefixed (x : Str) (st : DState) : mainD (prefixedD x st) = .q x :: mainD st := rfl

theorem mainD_plain (sj : ArgTok) (obj : Option ArgTok) (ql : List (Str × ArgTok)) (init : List Tok)
    (last : Tok) (agr : Agr) (g : Gender) :
    mainD (plainSt sj obj ql init last agr g) = [Tok.arg sj] ++ (init ++ [last]) ++ (objToks obj ++ ppToks ql) := by
  simp [mainD, plainSt, List.filter_append, toksOf, dSubj, toks_optObj, toks_pps, toks_pres]

theorem mainD_move_plain (sj : ArgTok) (obj : Option ArgTok) (ql : List (Str × ArgTok)) (init : List Tok)
    (last : Tok) (agr : Agr) (g : Gender) :
    mainD (moveObjectDep (plainSt sj obj ql init last agr g)) = frontD sj (init ++ [last]) (objToks obj ++ ppToks ql) := by
  rw [moveObjectDep_plain]
  cases init with
  | cons w0 init' =>
    simp [mainD, plainSt, frontD, List.filter_append, toksOf, dPre, dSubj, toks_optObj, toks_pps, toks_pres]
  | nil =>
    by_cases hal : aloneDep last.lemmaName = true <;>
      simp [hal, mainD, plainSt, frontD, headAlone, List.filter_append, toksOf, toks_optObj, toks_pps]

theorem fi_obj_plain (sj : ArgTok) (obj : Option ArgTok) (ql : List (Str × ArgTok)) (ws : List Tok) :
    findIdx (fun d : DNode => d.rel == .comp && isNPPro d.head.ct) (dSubj sj :: (optL dObj obj ++ (ql.map dPP ++ ws.map dPre)))
      = obj.map (fun _ => 1) := by
  cases obj <;> simp [findIdx, optL, dSubj, dObj, fi_obj_ql_words]

theorem processIntDep_plain (ty : Typ) (i : Int) (sj : ArgTok) (obj : Option ArgTok) (ql : List (Str × ArgTok))
    (init : List Tok) (last : Tok) (agr : Agr) (g : Gender) :
    ∃ st L, processIntDep ty i (plainSt sj obj ql init last agr g) = .ok st ∧
      linDepPlain sj obj ql (some i) (init ++ [last]) = some L ∧
      mainD st = L ∧ st.agr = agrDepPlain agr (some i) (init ++ [last]) := by
  have hmv := fun x obj ql => (mainD_prefixed x _).trans (congrArg (Tok.q x :: ·) (mainD_move_plain sj obj ql init last agr g))
  have hagr : ∀ obj ql, (moveObjectDep (plainSt sj obj ql init last agr g)).agr = agr :=
    fun obj ql => by rw [moveObjectDep_plain]; rfl
  cases i
  case yon => exact ⟨_, _, rfl, rfl, mainD_move_plain .., hagr ..⟩
  case how | why | muc => exact ⟨_, _, rfl, rfl, hmv .., hagr ..⟩
  case wod | wad =>
    rw [processIntDep_obj ty _ (by decide)]
    simp only [plainSt, fi_obj_plain]
    cases obj with
    | none => exact ⟨_, _, rfl, rfl, hmv _ none ql, hagr none ql⟩
    | some o =>
      refine ⟨_, _, rfl, rfl, ?_, hagr none ql⟩
      cases o <;> exact hmv _ none ql
  case wos | was =>
    have hl : (init ++ [last]).getLast? = some last := by simp
    refine ⟨_, _, rfl, rfl, ?_, ?_⟩
    · simp [plainSt, findIdx, dSubj, removeAt, mainD, List.filter_append, toksOf, toks_optObj, toks_pps, toks_pres]
    · cases last with
      | verb l f r => cases r <;> simp [plainSt, findIdx, dSubj, agrDepPlain, lastIsFirst, hl]
      | _ => simp [plainSt, findIdx, dSubj, agrDepPlain, lastIsFirst, hl]
  case tag =>
    exact ⟨_, _, rfl, rfl, (mainD_prefixed ..).trans (congrArg (Tok.q _ :: ·) ((mainD_tag ty _).1.trans (mainD_plain ..))),
      (mainD_tag ty _).2⟩
  all_goals
    rw [processIntDep_ppq _ _ rfl]
    simp only [plainSt]
    rw [dropPP_plain]
    exact ⟨_, _, rfl, rfl, hmv _ obj _, hagr obj _⟩

/-- `move_object` on an objectless passive finds the `*pre*(it)` it has just been given: nothing is inverted -/
theorem moveObjectDep_dummy (pps bl : List (Str × ArgTok)) (init : List Tok) (last : Tok) (agr : Agr) (g : Gender) :
    moveObjectDep (dummySt pps bl init last agr g) =
      { dummySt pps bl init last agr g with deps := dIt :: (pps.map dPP ++ (bl.map dPP ++ init.map dPre)) } := by
  simp [moveObjectDep, dummySt, fi_pre_ql pps dIt rfl, removeAt_words]
  rfl

theorem mainD_dummy (pps bl : List (Str × ArgTok)) (init : List Tok) (last : Tok) (agr : Agr) (g : Gender) :
    mainD (dummySt pps bl init last agr g) = [Tok.arg .it] ++ (init ++ [last]) ++ (ppToks pps ++ ppToks bl) ∧
    mainD (moveObjectDep (dummySt pps bl init last agr g))
      = [Tok.arg .it] ++ (init ++ [last]) ++ (ppToks pps ++ ppToks bl) := by
  rw [moveObjectDep_dummy]
  constructor <;>
    simp [mainD, dummySt, List.filter_append, toksOf, dIt, toks_pps, toks_pres]

theorem fi_none_dummy (p : DNode → Bool) (hp : ∀ x, p (dPP x) = false) (hi : p dIt = false) (hw : ∀ t, p (dPre t) = false)
    (pps bl : List (Str × ArgTok)) (ws : List Tok) :
    findIdx p (pps.map dPP ++ dIt :: (bl.map dPP ++ ws.map dPre)) = none := by
  apply findIdx_none_of_forall
  simp only [List.mem_append, List.mem_cons, List.mem_map]
  rintro x (⟨y, _, rfl⟩ | rfl | ⟨y, _, rfl⟩ | ⟨y, _, rfl⟩)
  · exact hp y
  · exact hi
  · exact hp y
  · exact hw y

theorem processIntDep_dummy (ty : Typ) (i : Int) (pps bl : List (Str × ArgTok)) (init : List Tok) (last : Tok)
    (agr : Agr) (g : Gender) :
    ∃ st L, processIntDep ty i (dummySt pps bl init last agr g) = .ok st ∧
      linDepDummy pps bl (some i) (init ++ [last]) = some L ∧
      mainD st = L ∧ st.agr = agr := by
  have hmv := fun x pps bl => (mainD_prefixed x _).trans (congrArg (Tok.q x :: ·) (mainD_dummy pps bl init last agr g).2)
  have hagr : ∀ pps bl, (moveObjectDep (dummySt pps bl init last agr g)).agr = agr :=
    fun pps bl => by rw [moveObjectDep_dummy]; rfl
  cases i
  case yon => exact ⟨_, _, rfl, rfl, (mainD_dummy ..).2, hagr ..⟩
  case how | why | muc => exact ⟨_, _, rfl, rfl, hmv .., hagr ..⟩
  case wod | wad =>
    rw [processIntDep_obj ty _ (by decide)]
    simp only [dummySt, fi_none_dummy (fun d : DNode => d.rel == .comp && isNPPro d.head.ct) (fun _ => rfl) rfl
      (fun _ => rfl)]
    exact ⟨_, _, rfl, rfl, hmv .., hagr ..⟩
  case wos | was =>
    rw [processIntDep_subj ty _ (by decide)]
    simp only [dummySt, fi_none_dummy (fun d : DNode => d.rel == .subj) (fun _ => rfl) rfl (fun _ => rfl)]
    exact ⟨_, _, rfl, rfl, (mainD_prefixed ..).trans (congrArg (Tok.q _ :: ·) (mainD_dummy ..).1), rfl⟩
  case tag =>
    exact ⟨_, _, rfl, rfl, (mainD_prefixed ..).trans (congrArg (Tok.q _ :: ·) ((mainD_tag ty _).1.trans (mainD_dummy ..).1)),
      (mainD_tag ty _).2⟩
  all_goals
    rw [processIntDep_ppq _ _ rfl]
    simp only [dummySt]
    obtain ⟨p1, b1, hd, hpb⟩ := dropPP_dummy _ pps bl init
    rw [hd]
    refine ⟨_, _, rfl, rfl, (hmv _ p1 b1).trans ?_, hagr p1 b1⟩
    rw [← hpb, ppToks_append]

theorem finishDep_ok {lin : Option Int → Option (List Tok)} {agr' : Option Int → Agr} (ty : Typ) (st2 : DState)
    (h0 : ∃ L, lin none = some L ∧ mainD st2 = L ∧ st2.agr = agr' none)
    (hI : ∀ i, ∃ st L, processIntDep ty i st2 = .ok st ∧ lin (some i) = some L ∧ mainD st = L ∧ st.agr = agr' (some i)) :
    ∃ L out, lin ty.int = some L ∧ finishDep ty st2 = .ok out ∧
      out.main = L.map (Tok.resolve out.agr) ∧ out.agr = agr' ty.int := by
  unfold finishDep
  cases ty.int with
  | none =>
    obtain ⟨L, hL, hmain, hagr⟩ := h0
    exact ⟨L, _, hL, rfl, (dep_main ..).trans (congrArg _ hmain), hagr⟩
  | some i =>
    obtain ⟨st, L, hst, hL, hmain, hagr⟩ := hI i
    simp only [hst, bind, Except.bind, pure, Except.pure]
    exact ⟨L, _, hL, rfl, (dep_main ..).trans (congrArg _ hmain), hagr⟩

@[simp] theorem objToks_some (x : ArgTok) : objToks (some x) = [.arg x] := rfl
@[simp] theorem objToks_none : objToks none = [] := rfl
@[simp] theorem argTok_ct_P (a : ArgTok) : (a.ct == CT.P) = false := by cases a <;> rfl
@[simp] theorem argTok_ct_ne_P (a : ArgTok) : ¬ (a.ct = CT.P) := by cases a <;> simp [ArgTok.ct]
@[simp] theorem dIt_head : dIt.head = .arg .it := rfl

/-- **normal form of the dependency notation**, for any non-empty list of words -/
theorem dep_nf_words (sp : Spec) (ty : Typ) (ws : List Tok) (hne : ws ≠ []) :
    ∃ L out, linDep sp ty ws = some L ∧ realizeDepW sp ty ws = .ok out ∧
      out.main = L.map (Tok.resolve out.agr) ∧ out.agr = agrDep sp ty ws := by
  obtain ⟨init, last, rfl⟩ : ∃ init last, ws = init ++ [last] :=
    ⟨ws.dropLast, ws.getLast hne, (List.dropLast_concat_getLast hne).symm⟩
  rw [realizeDepW_eq, mid_state_dep]
  unfold linDep agrDep
  have hp := fun sj obj ql agr g => finishDep_ok (lin := (linDepPlain sj obj ql · (init ++ [last])))
    (agr' := (agrDepPlain agr · (init ++ [last]))) ty _ ⟨_, rfl, mainD_plain sj obj ql init last agr g, rfl⟩
    (processIntDep_plain ty · sj obj ql init last agr g)
  cases ty.pas
  · exact hp ..
  · cases sp.obj with
    | none =>
      exact finishDep_ok (lin := (linDepDummy _ _ · (init ++ [last]))) (agr' := fun _ => _) ty _
        ⟨_, rfl, (mainD_dummy ..).1, rfl⟩ (processIntDep_dummy ty · ..)
    | some o => cases o <;> exact hp ..

end Pyrealb.ClauseEn
