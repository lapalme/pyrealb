import Pyrealb.Model.Number
import Pyrealb.Lemmas.Basic
/-! `words` (Python `str.split()`) against concatenation and `strip`. -/
namespace Pyrealb.Number
open Pyrealb

/-- for a literal too long for the unifier to spell out: compare as `String`s -/
theorem ok_s_of_str {e : Except Crash Str} {x : String} (h : e.map Str.str = .ok x) : e = .ok (s x) := by
  cases e with
  | error c => cases h
  | ok v => cases h; simp [s, Str.str]

theorem splitKeep_ne_nil (p : Char → Bool) (x : Str) : splitKeep p x ≠ [] := by
  cases x with
  | nil => simp [splitKeep]
  | cons a r =>
    simp only [splitKeep]
    split
    · simp
    · split <;> simp

theorem splitKeep_append_sep (p : Char → Bool) (a b : Str) (c : Char) (hc : p c = true) :
    splitKeep p (a ++ c :: b) = splitKeep p a ++ splitKeep p b := by
  induction a with
  | nil => simp [splitKeep, hc]
  | cons x a ih =>
    simp only [List.cons_append, splitKeep]
    by_cases hx : p x = true
    · simp [hx, ih]
    · simp only [hx, ih]
      cases h : splitKeep p a with
      | nil => exact absurd h (splitKeep_ne_nil p a)
      | cons w ws => simp

theorem words_append_sep (a b : Str) (c : Char) (hc : isPySpace c = true) :
    words (a ++ c :: b) = words a ++ words b := by
  simp [words, splitKeep_append_sep isPySpace a b c hc]

theorem words_cons_space (c : Char) (x : Str) (hc : isPySpace c = true) : words (c :: x) = words x := by
  simp [words, splitKeep, hc]

theorem words_spaces_append (sp x : Str) (h : ∀ c ∈ sp, isPySpace c = true) : words (sp ++ x) = words x := by
  induction sp with
  | nil => simp
  | cons c sp ih =>
    rw [List.cons_append, words_cons_space c _ (h c (by simp))]
    exact ih (fun d hd => h d (by simp [hd]))

theorem words_append_spaces (x sp : Str) (h : ∀ c ∈ sp, isPySpace c = true) : words (x ++ sp) = words x := by
  cases sp with
  | nil => simp
  | cons c sp =>
    have e : words (sp ++ []) = words [] := words_spaces_append sp [] (fun d hd => h d (by simp [hd]))
    rw [List.append_nil] at e
    rw [words_append_sep x sp c (h c (by simp)), e]
    simp [words, splitKeep]

theorem words_space (a b : Str) : words (a ++ [' '] ++ b) = words a ++ words b := by
  rw [List.append_assoc, List.singleton_append, words_append_sep _ _ ' ' (by decide)]

theorem words_space_end (a : Str) : words (a ++ [' ']) = words a :=
  words_append_spaces _ _ (by simp; decide)

theorem lstrip_spec (x : Str) : ∃ sp, (∀ c ∈ sp, isPySpace c = true) ∧ x = sp ++ lstrip x := by
  induction x with
  | nil => exact ⟨[], by simp, by simp [lstrip]⟩
  | cons c x ih =>
    by_cases hc : isPySpace c = true
    · obtain ⟨sp, hsp, hx⟩ := ih
      refine ⟨c :: sp, ?_, ?_⟩
      · intro d hd
        rcases List.mem_cons.mp hd with rfl | hd
        · exact hc
        · exact hsp d hd
      · simp only [lstrip, hc, if_true, List.cons_append]
        rw [← hx]
    · exact ⟨[], by simp, by simp [lstrip, hc]⟩

theorem words_strip (x : Str) : words (strip x) = words x := by
  obtain ⟨sp1, h1, e1⟩ := lstrip_spec x
  obtain ⟨sp2, h2, e2⟩ := lstrip_spec (lstrip x).reverse
  have e3 : lstrip x = strip x ++ sp2.reverse := by
    have := congrArg List.reverse e2
    simpa [strip] using this
  have h2' : ∀ c ∈ sp2.reverse, isPySpace c = true := fun c hc => h2 c (by simpa using hc)
  conv => rhs; rw [e1, e3]
  rw [words_spaces_append _ _ h1, words_append_spaces _ _ h2']

end Pyrealb.Number
