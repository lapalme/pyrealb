import Pyrealb.Model.ExprSource
import Pyrealb.Lemmas.Basic
/-! Helper lemmas for C12: the abstraction `abs`, string literals as character lists, association lists (`lookup`,
    `setKey`). -/
namespace Pyrealb.Expr
open Pyrealb

/-! ### the abstraction that determines realization: the tree with its option STATE, call HISTORY erased -/

def Node.abs (n : Node) : Node := { n with hist := [] }

mutual
def Expr.abs : Expr → Expr
  | .term n l i => .term n.abs l i
  | .phr n es => .phr n.abs (absList es)
  | .dep n t ds => .dep n.abs t.abs (absList ds)
def absList : List Expr → List Expr
  | [] => []
  | e :: r => e.abs :: absList r
end

theorem absList_eq_map (es : List Expr) : absList es = es.map Expr.abs := by
  induction es with
  | nil => simp [absList]
  | cons e r ih => simp [absList, ih]

@[simp] theorem abs_kind (e : Expr) : e.abs.kind = e.kind := by
  cases e <;> simp [Expr.abs, Expr.kind, Expr.node, Node.abs]
@[simp] theorem abs_props (e : Expr) : e.abs.props = e.props := by
  cases e <;> simp [Expr.abs, Expr.props, Expr.node, Node.abs]
@[simp] theorem abs_lang (e : Expr) : e.abs.lang = e.lang := by
  cases e <;> simp [Expr.abs, Expr.lang, Expr.node, Node.abs]

/-- comparing two literals as lists is comparing them as strings, which `simp` decides -/
@[simp] theorem s_inj (a b : String) : (s a = s b) = (a = b) := by simp [s, String.toList_inj]

theorem span_append {p : Char → Bool} (l rest : Str) (hl : l.all p = true) (hr : ∀ c r, rest = c :: r → p c = false) :
    (l ++ rest).takeWhile p = l ∧ (l ++ rest).dropWhile p = rest := by
  have h := List.all_eq_true.mp hl
  have hr' : rest.takeWhile p = [] ∧ rest.dropWhile p = rest := by
    cases rest with
    | nil => exact ⟨rfl, rfl⟩
    | cons c r => simp [hr c r rfl]
  rw [List.takeWhile_append_of_pos h, List.dropWhile_append_of_pos h, hr'.1, hr'.2, List.append_nil]
  exact ⟨rfl, rfl⟩

theorem lookup_append {α} (k : Str) (a b : List (Str × α)) :
    lookup k (a ++ b) = (lookup k a).or (lookup k b) := by
  induction a with
  | nil => simp [lookup]
  | cons x r ih =>
    obtain ⟨k', v'⟩ := x
    by_cases hk : k' = k <;> simp [lookup, hk, ih]

theorem lookup_append_left {α} (k : Str) (a b : List (Str × α)) (v : α) (h : lookup k a = some v) :
    lookup k (a ++ b) = some v := by
  rw [lookup_append, h]; rfl

theorem lookup_append_right {α} (k : Str) (a b : List (Str × α)) (h : lookup k a = none) :
    lookup k (a ++ b) = lookup k b := by
  rw [lookup_append, h]; rfl

def keys {α} (l : List (Str × α)) : List Str := l.map (·.1)

theorem lookup_none_of_not_mem {α} (k : Str) (l : List (Str × α)) (h : k ∉ keys l) : lookup k l = none := by
  induction l with
  | nil => simp [lookup]
  | cons x r ih =>
    obtain ⟨k', v'⟩ := x
    simp [keys] at h
    have h1 : k' ≠ k := fun e => h.1 e.symm
    simp [lookup, h1]
    apply ih
    simpa [keys] using h.2

theorem setKey_append_of_not_mem {α} (k : Str) (v : α) (pre q : List (Str × α)) (h : k ∉ keys pre) :
    setKey k v (pre ++ q) = pre ++ setKey k v q := by
  induction pre with
  | nil => rfl
  | cons x r ih =>
    obtain ⟨k', v'⟩ := x
    simp [keys] at h
    have h1 : k' ≠ k := fun e => h.1 e.symm
    simp [setKey, h1]
    apply ih
    simpa [keys] using h.2

/-- `d[k] = v` on a dictionary without the key appends -/
theorem setKey_of_not_mem {α} (k : Str) (v : α) (l : List (Str × α)) (h : k ∉ keys l) : setKey k v l = l ++ [(k, v)] := by
  have := setKey_append_of_not_mem k v l [] h
  rwa [List.append_nil] at this

/-- `d[k] = v` when `d[k]` is already `v` -/
theorem setKey_same {α} (k : Str) (v : α) (l : List (Str × α)) (h : lookup k l = some v) : setKey k v l = l := by
  induction l with
  | nil => simp [lookup] at h
  | cons x r ih =>
    obtain ⟨k', v'⟩ := x
    by_cases hk : k' = k
    · simp [lookup, hk] at h; simp [setKey, hk, h]
    · simp [lookup, hk] at h; simp [setKey, hk]; exact ih h

theorem lookup_setKey {α} (k : Str) (v : α) (l : List (Str × α)) : lookup k (setKey k v l) = some v := by
  induction l with
  | nil => simp [setKey, lookup]
  | cons x r ih =>
    obtain ⟨k', v'⟩ := x
    by_cases hk : k' = k
    · simp [setKey, hk, lookup]
    · simp [setKey, hk, lookup, ih]

theorem lookup_mem_of_nodup {α} (k : Str) (v : α) (l : List (Str × α)) (hd : (keys l).Nodup) (hm : (k, v) ∈ l) :
    lookup k l = some v := by
  induction l with
  | nil => simp at hm
  | cons x r ih =>
    obtain ⟨k', v'⟩ := x
    simp [keys] at hd
    rcases List.mem_cons.mp hm with h | h
    · cases h; simp [lookup]
    · have : k' ≠ k := by
        intro e; subst e
        exact hd.1 v h
      simp [lookup, this]
      apply ih _ h
      simpa [keys] using hd.2

end Pyrealb.Expr
