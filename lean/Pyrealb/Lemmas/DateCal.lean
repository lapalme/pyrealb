import Pyrealb.Model.Date
/-! Calendar arithmetic for the date model: `toordinal` counts days (unbounded, all years ≥ 1). -/
namespace Pyrealb.Date

def yearLen (y : Nat) : Nat := if isLeap y then 366 else 365

theorem isLeap_iff (y : Nat) : isLeap y = true ↔ (y % 4 = 0 ∧ (y % 100 ≠ 0 ∨ y % 400 = 0)) := by
  simp [isLeap]

/-- the leap rule is inclusion–exclusion along a chain `C → B → A` -/
theorem leap_count (A B C : Prop) [Decidable A] [Decidable B] [Decidable C] (h1 : B → A) (h2 : C → B) :
    (if A ∧ (¬B ∨ C) then 366 else 365) = 365 + (if A then 1 else 0) - (if B then 1 else 0) + (if C then 1 else 0) ∧
    (if B then 1 else 0) ≤ (if A then 1 else 0) := by
  by_cases A <;> by_cases B <;> by_cases C <;> simp_all

theorem daysBeforeYear_succ (y : Nat) (h : 1 ≤ y) : daysBeforeYear (y + 1) = daysBeforeYear y + yearLen y := by
  obtain ⟨p, rfl⟩ := Nat.exists_eq_add_of_le' h
  have l : p / 100 ≤ p / 4 := Nat.div_le_div_left (by decide) (by decide)
  have ⟨e, le⟩ := leap_count (4 ∣ p + 1) (100 ∣ p + 1) (400 ∣ p + 1) (Nat.dvd_trans ⟨25, rfl⟩) (Nat.dvd_trans ⟨4, rfl⟩)
  -- each quotient grows by the indicator of divisibility (`Nat.succ_div`); `omega` on `/4`, `/100`, `/400` of both
  -- `p` and `p + 1` does not terminate in reasonable time
  simp only [daysBeforeYear, yearLen, isLeap_iff, ne_eq, ← Nat.dvd_iff_mod_eq_zero, Nat.add_sub_cancel, Nat.succ_div, e]
  generalize p / 4 = a, p / 100 = b, p / 400 = c at *
  omega

theorem daysBeforeYear_mono {a b : Nat} (ha : 1 ≤ a) (h : a ≤ b) : daysBeforeYear a ≤ daysBeforeYear b := by
  induction h with
  | refl => exact Nat.le_refl _
  | step hm ih => rw [daysBeforeYear_succ _ (Nat.le_trans ha hm)]; exact Nat.le_add_right_of_le ih

/-! The month tables depend on the year through the leap flag only: with the flag generalised their arithmetic is a
    finite check. -/

theorem daysBeforeMonth_succ (y : Nat) {m : Nat} (h : m < 12) (h1 : 1 ≤ m) :
    daysBeforeMonth y (m + 1) = daysBeforeMonth y m + daysInMonth y m := by
  unfold daysBeforeMonth daysInMonth; generalize isLeap y = l
  revert l m; decide +kernel

theorem daysBeforeMonth_lt (y : Nat) {b : Nat} (hb : b < 13) {a : Nat} (ha : a < b) (h1 : 1 ≤ a) :
    daysBeforeMonth y a + daysInMonth y a ≤ daysBeforeMonth y b := by
  unfold daysBeforeMonth daysInMonth; generalize isLeap y = l
  revert b hb a ha h1 l; decide +kernel

theorem daysBeforeMonth_le_yearLen (y : Nat) {m : Nat} (h : m < 13) (h1 : 1 ≤ m) :
    daysBeforeMonth y m + daysInMonth y m ≤ yearLen y ∧ (m = 12 → daysBeforeMonth y m + daysInMonth y m = yearLen y) := by
  unfold daysBeforeMonth daysInMonth yearLen; generalize isLeap y = l
  revert l m; decide +kernel

theorem daysInMonth_pos (y m : Nat) : 1 ≤ daysInMonth y m := by
  unfold daysInMonth; repeat' split
  all_goals decide

theorem valid_iff (d : Date) : d.valid = true ↔
    (1 ≤ d.year ∧ d.year ≤ 9999 ∧ 1 ≤ d.month ∧ d.month ≤ 12 ∧ 1 ≤ d.day ∧ d.day ≤ daysInMonth d.year d.month) := by
  simp [Date.valid, and_assoc]

/-- **+1 across every day, month, year and leap boundary** -/
theorem toordinal_next (d : Date) (h : d.valid = true) : toordinal d.next = toordinal d + 1 := by
  obtain ⟨hy, _, hm1, hm12, hd1, hdm⟩ := (valid_iff d).mp h
  unfold Date.next toordinal
  split
  · dsimp only; omega
  · split
    · have := daysBeforeMonth_succ d.year ‹_› hm1
      dsimp only; omega
    · have hm : d.month = 12 := by omega
      have h1 := daysBeforeYear_succ d.year hy
      have h2 := (daysBeforeMonth_le_yearLen d.year (by omega) hm1).2 hm
      have h3 : daysBeforeMonth (d.year + 1) 1 = 0 := rfl
      dsimp only; omega

def Date.lt (a b : Date) : Prop :=
  a.year < b.year ∨ (a.year = b.year ∧ (a.month < b.month ∨ (a.month = b.month ∧ a.day < b.day)))

instance (a b : Date) : Decidable (a.lt b) := by unfold Date.lt; infer_instance

/-- **`toordinal` is strictly monotone** for the calendar order -/
theorem toordinal_strictMono (a b : Date) (ha : a.valid = true) (hb : b.valid = true) (h : a.lt b) :
    toordinal a < toordinal b := by
  obtain ⟨hya, _, hma1, hma12, hda1, hdma⟩ := (valid_iff a).mp ha
  obtain ⟨hyb, _, hmb1, hmb12, hdb1, hdmb⟩ := (valid_iff b).mp hb
  unfold toordinal
  rcases h with h | ⟨hy, h | ⟨hm, h⟩⟩
  · have h1 := (daysBeforeMonth_le_yearLen a.year (Nat.lt_succ_of_le hma12) hma1).1
    have h2 := daysBeforeYear_succ a.year hya
    have h3 := daysBeforeYear_mono (a := a.year + 1) (Nat.le_succ_of_le hya) h
    omega
  · have := daysBeforeMonth_lt b.year (Nat.lt_succ_of_le hmb12) h hma1
    rw [hy] at hdma ⊢
    omega
  · rw [hy, hm]; omega

theorem lt_trichotomy (a b : Date) : a.lt b ∨ a = b ∨ b.lt a := by
  obtain ⟨y1, m1, d1⟩ := a
  obtain ⟨y2, m2, d2⟩ := b
  simp only [Date.lt, Date.mk.injEq]
  omega

theorem toordinal_inj (a b : Date) (ha : a.valid = true) (hb : b.valid = true) (h : toordinal a = toordinal b) : a = b := by
  rcases lt_trichotomy a b with h1 | h1 | h1
  · have := toordinal_strictMono a b ha hb h1; omega
  · exact h1
  · have := toordinal_strictMono b a hb ha h1; omega

theorem toordinal_pos (d : Date) (h : d.valid = true) : 1 ≤ toordinal d := by
  have := (valid_iff d).mp h; unfold toordinal; omega

theorem next_valid (d : Date) (h : d.valid = true) (hmax : d.year < 9999) : d.next.valid = true := by
  obtain ⟨hy, _, hm1, hm12, hd1, hdm⟩ := (valid_iff d).mp h
  rw [valid_iff]
  unfold Date.next
  split
  · dsimp only; omega
  · split
    · have := daysInMonth_pos d.year (d.month + 1)
      dsimp only; omega
    · have := daysInMonth_pos (d.year + 1) 1
      dsimp only; omega

theorem lt_next (d : Date) : d.lt d.next := by
  unfold Date.next Date.lt
  split
  · dsimp only; omega
  · split <;> dsimp only <;> omega

theorem weekday_next (d : Date) (h : d.valid = true) : weekday d.next = (weekday d + 1) % 7 := by
  unfold weekday; rw [toordinal_next d h]; omega

theorem weekday_shift (a b : Date) :
    (weekday a : Int) = ((weekday b : Int) + ((toordinal a : Int) - (toordinal b : Int))) % 7 := by
  unfold weekday; omega

end Pyrealb.Date
