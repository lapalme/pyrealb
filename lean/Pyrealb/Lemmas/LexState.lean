import Pyrealb.Model.LexState
/-! Abstract view of the lexicon state (two independent maps `Lang → Lemma → Option (Cat → Option Val)`),
the invariants, and the step lemmas used by `Props/C19`. -/
namespace Pyrealb.LexState

section Dict
variable {κ : Type} [DecidableEq κ] {α : Type}

theorem dget_dset (k k' : κ) (v : α) (d : List (κ × α)) :
    dget k' (dset k v d) = if k' = k then some v else dget k' d := by
  induction d with
  | nil => simp [dset, dget, eq_comm]
  | cons kv r ih =>
    obtain ⟨k₀, v₀⟩ := kv
    by_cases h : k₀ = k
    · subst h; by_cases h2 : k' = k₀ <;> simp [dset, dget, h2, eq_comm]
    · by_cases h2 : k₀ = k'
      · subst h2; simp [dset, dget, h]
      · simp [dset, dget, h, h2, ih]

theorem dget_ddel (k k' : κ) (d : List (κ × α)) : dget k' (ddel k d) = if k' = k then none else dget k' d := by
  induction d with
  | nil => simp [ddel, dget]
  | cons kv r ih =>
    obtain ⟨k₀, v₀⟩ := kv
    by_cases h : k₀ = k
    · subst h
      by_cases h2 : k' = k₀
      · simpa [ddel, List.filter_cons, h2] using ih
      · simpa [ddel, List.filter_cons, dget, h2, Ne.symm h2] using ih
    · by_cases h2 : k₀ = k'
      · subst h2; simp [ddel, dget, h]
      · simpa [ddel, List.filter_cons, dget, h, h2] using ih

theorem dget_none_of_not_mem (k : κ) (d : List (κ × α)) (h : k ∉ dkeys d) : dget k d = none := by
  induction d with
  | nil => rfl
  | cons kv r ih =>
    obtain ⟨k', v'⟩ := kv
    simp only [dkeys, List.map_cons, List.mem_cons, not_or] at h
    have h1 : k' ≠ k := fun e => h.1 e.symm
    simp only [dget, h1, if_false]
    exact ih h.2
end Dict

abbrev EntryMap := Cat → Option Val
/-- an entry dict read as a finite map -/
def entryView (e : Entry) : EntryMap := fun c => dget c e
def mset (m : EntryMap) (k : Cat) (v : Val) : EntryMap := fun c => if c = k then some v else m c
/-- "merge per category": every (category, value) item of the new information replaces that category -/
def mergeMap (old : EntryMap) (new : Entry) : EntryMap := new.foldl (fun m kv => mset m kv.1 kv.2) old

/-- what is stored for a lemma: which object and its content -/
def entryAt (st : State) (l : Lang) (lemma : Lemma) : Option (Ref × Entry) :=
  (dget lemma (st.lexOf l)).map (fun r => (r, content st.heap r))

abbrev Abs := Lang → Lemma → Option EntryMap
/-- the two lexicons as two independent finite maps -/
def view (st : State) : Abs := fun l lemma => (entryAt st l lemma).map (fun p => entryView p.2)
def aset (A : Abs) (l : Lang) (lemma : Lemma) (x : Option EntryMap) : Abs :=
  fun l' lemma' => if l' = l ∧ lemma' = lemma then x else A l' lemma'
/-- `add`: a new lemma stores the information, an existing one merges it per category -/
def storeOrMerge : Option EntryMap → Entry → EntryMap
  | none, e => entryView e
  | some old, e => mergeMap old e

theorem entryView_dset (k : Cat) (v : Val) (d : Entry) : entryView (dset k v d) = mset (entryView d) k v := by
  funext c
  simp [entryView, mset, dget_dset]

theorem mergeMap_cons (old : EntryMap) (kv : Cat × Val) (r : Entry) :
    mergeMap old (kv :: r) = mergeMap (mset old kv.1 kv.2) r := rfl

theorem entryView_dupdate (d new : Entry) : entryView (dupdate d new) = mergeMap (entryView d) new := by
  induction new generalizing d with
  | nil => rfl
  | cons kv r ih => rw [mergeMap_cons, ← entryView_dset]; exact ih _

theorem mergeMap_not_mem (old : EntryMap) (new : Entry) (c : Cat) (h : c ∉ dkeys new) :
    mergeMap old new c = old c := by
  induction new generalizing old with
  | nil => rfl
  | cons kv r ih =>
    simp only [dkeys, List.map_cons, List.mem_cons, not_or] at h
    rw [mergeMap_cons, ih _ h.2]
    simp [mset, h.1]

theorem mergeMap_nodup (old : EntryMap) (new : Entry) (c : Cat) (hn : (dkeys new).Nodup) :
    mergeMap old new c = (match dget c new with | some v => some v | none => old c) := by
  induction new generalizing old with
  | nil => rfl
  | cons kv r ih =>
    obtain ⟨k, v⟩ := kv
    simp only [dkeys, List.map_cons, List.nodup_cons] at hn
    rw [mergeMap_cons, ih _ hn.2]
    by_cases h : k = c
    · subst h
      have hnone : dget k r = none := dget_none_of_not_mem k r hn.1
      simp [dget, hnone, mset]
    · have h' : c ≠ k := fun e => h e.symm
      simp [dget, h, mset, h']

@[simp] theorem lexOf_setLex (st : State) (l l' : Lang) (lx : Lexicon) :
    (st.setLex l lx).lexOf l' = if l' = l then lx else st.lexOf l' := by
  cases l <;> cases l' <;> simp [State.setLex, State.lexOf]
@[simp] theorem lexOf_setHeap (st : State) (h : Heap) (l : Lang) : (st.setHeap h).lexOf l = st.lexOf l := by
  cases l <;> rfl
@[simp] theorem lexOf_setCur (st : State) (c l : Lang) : (st.setCur c).lexOf l = st.lexOf l := by
  cases l <;> rfl
@[simp] theorem lexOf_setFresh (st : State) (r : Ref) (l : Lang) : (st.setFresh r).lexOf l = st.lexOf l := by
  cases l <;> rfl
@[simp] theorem heap_setLex (st : State) (l : Lang) (lx : Lexicon) : (st.setLex l lx).heap = st.heap := by
  cases l <;> rfl
@[simp] theorem heap_setHeap (st : State) (h : Heap) : (st.setHeap h).heap = h := rfl
@[simp] theorem heap_setCur (st : State) (c : Lang) : (st.setCur c).heap = st.heap := rfl
@[simp] theorem heap_setFresh (st : State) (r : Ref) : (st.setFresh r).heap = st.heap := rfl
@[simp] theorem cur_setLex (st : State) (l : Lang) (lx : Lexicon) : (st.setLex l lx).cur = st.cur := by
  cases l <;> rfl
@[simp] theorem cur_setHeap (st : State) (h : Heap) : (st.setHeap h).cur = st.cur := rfl
@[simp] theorem cur_setCur (st : State) (c : Lang) : (st.setCur c).cur = c := rfl
@[simp] theorem cur_setFresh (st : State) (r : Ref) : (st.setFresh r).cur = st.cur := rfl
@[simp] theorem fresh_setLex (st : State) (l : Lang) (lx : Lexicon) : (st.setLex l lx).fresh = st.fresh := by
  cases l <;> rfl
@[simp] theorem fresh_setHeap (st : State) (h : Heap) : (st.setHeap h).fresh = st.fresh := rfl
@[simp] theorem fresh_setCur (st : State) (c : Lang) : (st.setCur c).fresh = st.fresh := rfl
@[simp] theorem fresh_setFresh (st : State) (r : Ref) : (st.setFresh r).fresh = r := rfl
@[simp] theorem rulesOf_setLex (st : State) (l l' : Lang) (lx : Lexicon) :
    (st.setLex l lx).rulesOf l' = st.rulesOf l' := by
  cases l <;> cases l' <;> rfl
@[simp] theorem rulesOf_setHeap (st : State) (h : Heap) (l : Lang) : (st.setHeap h).rulesOf l = st.rulesOf l := by
  cases l <;> rfl
@[simp] theorem rulesOf_setCur (st : State) (c l : Lang) : (st.setCur c).rulesOf l = st.rulesOf l := by
  cases l <;> rfl
@[simp] theorem rulesOf_setFresh (st : State) (r : Ref) (l : Lang) : (st.setFresh r).rulesOf l = st.rulesOf l := by
  cases l <;> rfl

/-- no dict object is stored under two (language, lemma) keys -/
def Unshared (st : State) : Prop :=
  ∀ l₁ lemma₁ l₂ lemma₂ r, dget lemma₁ (st.lexOf l₁) = some r → dget lemma₂ (st.lexOf l₂) = some r →
    l₁ = l₂ ∧ lemma₁ = lemma₂
/-- the object the library creates next is not stored anywhere yet -/
def Bounded (st : State) : Prop := ∀ l lemma r, dget lemma (st.lexOf l) = some r → r < st.fresh
def Good (st : State) : Prop := Unshared st ∧ Bounded st

/-- the invariant speaks of the two lexicon dicts and of the counter only, and survives the loss of bindings -/
theorem good_of_sub {st st' : State}
    (hs : ∀ l lemma r, dget lemma (st'.lexOf l) = some r → dget lemma (st.lexOf l) = some r)
    (hf : st'.fresh = st.fresh) (hg : Good st) : Good st' :=
  ⟨fun l₁ m₁ l₂ m₂ r h1 h2 => hg.1 l₁ m₁ l₂ m₂ r (hs _ _ _ h1) (hs _ _ _ h2), fun l m r h => hf ▸ hg.2 l m r (hs _ _ _ h)⟩

theorem view_of_lookup {st st' : State} {l : Lang} {lemma : Lemma} {x : Option (Ref × Entry)}
    (h : ∀ l' lemma', entryAt st' l' lemma' = if l' = l ∧ lemma' = lemma then x else entryAt st l' lemma') :
    view st' = aset (view st) l lemma (x.map fun p => entryView p.2) := by
  funext l' lemma'
  simp only [view, aset, h]
  split <;> rfl

theorem dget_storeArg (st : State) (l : Lang) (lemma : Lemma) (a : DictArg) (l' : Lang) (lemma' : Lemma) :
    dget lemma' ((storeArg st l lemma a).lexOf l') =
      if l' = l ∧ lemma' = lemma then some st.fresh else dget lemma' (st.lexOf l') := by
  unfold storeArg
  simp only [lexOf_setFresh, lexOf_setHeap, lexOf_setLex]
  by_cases hl : l' = l
  · subst hl; simp [dget_dset]
  · simp [hl]

theorem lookup_storeArg (st : State) (hb : Bounded st) (l : Lang) (lemma : Lemma) (a : DictArg) (l' : Lang) (lemma' : Lemma) :
    entryAt (storeArg st l lemma a) l' lemma' =
      if l' = l ∧ lemma' = lemma then some (st.fresh, argContent st a) else entryAt st l' lemma' := by
  unfold entryAt
  rw [dget_storeArg]
  by_cases hc : l' = l ∧ lemma' = lemma
  · simp [hc, storeArg, content]
  · simp only [hc, if_false]
    cases hd : dget lemma' (st.lexOf l') with
    | none => rfl
    | some r =>
      have hne : r ≠ st.fresh := Nat.ne_of_lt (hb l' lemma' r hd)
      simp [storeArg, content, hne]

theorem good_storeArg (st : State) (hg : Good st) (l : Lang) (lemma : Lemma) (a : DictArg) :
    Good (storeArg st l lemma a) := by
  have hf : (storeArg st l lemma a).fresh = st.fresh + 1 := by simp [storeArg]
  refine ⟨fun l₁ m₁ l₂ m₂ r h1 h2 => ?_, fun l' lemma' r hd => ?_⟩
  · -- the new object is stored under one key only, and no old key holds it
    rw [dget_storeArg] at h1 h2
    by_cases c1 : l₁ = l ∧ m₁ = lemma <;> by_cases c2 : l₂ = l ∧ m₂ = lemma <;>
      simp only [c1, c2, and_self, if_true, if_false, Option.some.injEq] at h1 h2
    · exact ⟨c1.1.trans c2.1.symm, c1.2.trans c2.2.symm⟩
    · exact absurd (h1 ▸ hg.2 _ _ _ h2) (Nat.lt_irrefl _)
    · exact absurd (h2 ▸ hg.2 _ _ _ h1) (Nat.lt_irrefl _)
    · exact hg.1 _ _ _ _ _ h1 h2
  · rw [dget_storeArg] at hd
    rw [hf]
    by_cases hc : l' = l ∧ lemma' = lemma
    · simp only [hc, and_self, if_true, Option.some.injEq] at hd
      exact hd ▸ Nat.lt_succ_self _
    · simp only [hc, if_false] at hd
      exact Nat.lt_succ_of_lt (hg.2 _ _ _ hd)

/-- what `addToLexicon(lemma, a, l)` leaves under `(l, lemma)` -/
def stored (st : State) (l : Lang) (lemma : Lemma) (a : DictArg) : Ref × Entry :=
  match dget lemma (st.lexOf l) with
  | some r => (r, dupdate (content st.heap r) (argContent st a))
  | none => (st.fresh, argContent st a)

theorem addCore_fst (st : State) (l : Lang) (lemma : Lemma) (a : DictArg) :
    (addCore st l lemma a).1 = .dict (stored st l lemma a).1 (stored st l lemma a).2 := by
  unfold addCore stored
  cases dget lemma (st.lexOf l) <;> rfl

theorem entryView_stored (st : State) (l : Lang) (lemma : Lemma) (a : DictArg) :
    entryView (stored st l lemma a).2 = storeOrMerge (view st l lemma) (argContent st a) := by
  unfold stored view entryAt
  cases dget lemma (st.lexOf l) with
  | none => simp [storeOrMerge]
  | some r => simp [storeOrMerge, entryView_dupdate]

theorem stored_of_none (st : State) (l : Lang) (lemma : Lemma) (a : DictArg) (h : view st l lemma = none) :
    stored st l lemma a = (st.fresh, argContent st a) := by
  unfold stored
  unfold view entryAt at h
  cases hd : dget lemma (st.lexOf l) with
  | none => rfl
  | some r => simp [hd] at h

theorem storeOrMerge_nodup (old : Option EntryMap) (e : Entry) (c : Cat) (v : Val) (hn : (dkeys e).Nodup)
    (hv : dget c e = some v) : storeOrMerge old e c = some v := by
  cases old with
  | none => exact hv
  | some m => simp [storeOrMerge, mergeMap_nodup _ _ _ hn, hv]

theorem lookup_addCore_same (st : State) (hb : Bounded st) (l : Lang) (lemma : Lemma) (a : DictArg) :
    entryAt (addCore st l lemma a).2 l lemma = some (stored st l lemma a) := by
  unfold addCore stored
  cases hd : dget lemma (st.lexOf l) with
  | none =>
    simp only
    rw [lookup_storeArg st hb]
    simp
  | some r =>
    simp only
    unfold entryAt
    simp [hd, content]

theorem lookup_addCore_other (st : State) (hg : Good st) (l : Lang) (lemma : Lemma) (a : DictArg)
    (l' : Lang) (lemma' : Lemma) (hne : ¬ (l' = l ∧ lemma' = lemma)) :
    entryAt (addCore st l lemma a).2 l' lemma' = entryAt st l' lemma' := by
  unfold addCore
  cases hd : dget lemma (st.lexOf l) with
  | none =>
    simp only
    rw [lookup_storeArg st hg.2]
    simp [hne]
  | some r =>
    simp only
    unfold entryAt
    simp only [lexOf_setHeap, heap_setHeap]
    cases hd' : dget lemma' (st.lexOf l') with
    | none => rfl
    | some r' =>
      have hrr : r' ≠ r := by
        intro e
        subst e
        exact hne (hg.1 _ _ _ _ _ hd' hd)
      simp [content, hrr]

theorem good_addCore (st : State) (hg : Good st) (l : Lang) (lemma : Lemma) (a : DictArg) :
    Good (addCore st l lemma a).2 := by
  unfold addCore
  cases dget lemma (st.lexOf l) with
  | none => exact good_storeArg st hg l lemma a
  | some r => exact good_of_sub (by simp) (by simp) hg

theorem view_addCore (st : State) (hg : Good st) (l : Lang) (lemma : Lemma) (a : DictArg) :
    view (addCore st l lemma a).2 = aset (view st) l lemma (some (storeOrMerge (view st l lemma) (argContent st a))) := by
  rw [← entryView_stored]
  refine view_of_lookup (x := some (stored st l lemma a)) fun l' lemma' => ?_
  split
  · next hc => rw [hc.1, hc.2]; exact lookup_addCore_same st hg.2 l lemma a
  · next hc => exact lookup_addCore_other st hg l lemma a l' lemma' hc

def foldStore (st : State) (l : Lang) (nl : List (Lemma × DictArg)) : State :=
  nl.foldl (fun s p => storeArg s l p.1 p.2) st

theorem foldStore_cons (st : State) (l : Lang) (p : Lemma × DictArg) (r : List (Lemma × DictArg)) :
    foldStore st l (p :: r) = foldStore (storeArg st l p.1 p.2) l r := rfl

theorem good_foldStore (st : State) (hg : Good st) (l : Lang) (nl : List (Lemma × DictArg)) :
    Good (foldStore st l nl) := by
  induction nl generalizing st with
  | nil => exact hg
  | cons p r ih => exact ih (storeArg st l p.1 p.2) (good_storeArg st hg l p.1 p.2)

theorem lookup_foldStore_other (st : State) (hg : Good st) (l : Lang) (nl : List (Lemma × DictArg))
    (l' : Lang) (lemma' : Lemma) (hne : ¬ (l' = l ∧ lemma' ∈ nl.map Prod.fst)) :
    entryAt (foldStore st l nl) l' lemma' = entryAt st l' lemma' := by
  induction nl generalizing st with
  | nil => rfl
  | cons p r ih =>
    have h1 : ¬ (l' = l ∧ lemma' ∈ r.map Prod.fst) := fun h => hne ⟨h.1, by simp [h.2]⟩
    have h2 : ¬ (l' = l ∧ lemma' = p.1) := fun h => hne ⟨h.1, by simp [h.2]⟩
    rw [foldStore_cons, ih _ (good_storeArg st hg l p.1 p.2) h1, lookup_storeArg st hg.2]
    simp [h2]

/-- the contents of the dicts of `newLexicon`, read when each is copied -/
def absItems (st : State) (l : Lang) : List (Lemma × DictArg) → List (Lemma × Entry)
  | [] => []
  | (lemma, a) :: rest => (lemma, argContent st a) :: absItems (storeArg st l lemma a) l rest

/-- `update`: every lemma of the new lexicon gets the given entry (replacing an existing one) -/
def specUpdate (A : Abs) (l : Lang) (items : List (Lemma × Entry)) : Abs :=
  items.foldl (fun A p => aset A l p.1 (some (entryView p.2))) A

theorem view_storeArg (st : State) (hb : Bounded st) (l : Lang) (lemma : Lemma) (a : DictArg) :
    view (storeArg st l lemma a) = aset (view st) l lemma (some (entryView (argContent st a))) :=
  view_of_lookup (lookup_storeArg st hb l _ a)

theorem view_foldStore (st : State) (hg : Good st) (l : Lang) (nl : List (Lemma × DictArg)) :
    view (foldStore st l nl) = specUpdate (view st) l (absItems st l nl) := by
  induction nl generalizing st with
  | nil => rfl
  | cons p r ih =>
    obtain ⟨lemma, a⟩ := p
    rw [foldStore_cons, ih _ (good_storeArg st hg l lemma a), view_storeArg st hg.2]
    rfl

def removeAt (st : State) (l : Lang) (lemma : Lemma) : State := st.setLex l (ddel lemma (st.lexOf l))

theorem lookup_removeAt (st : State) (l : Lang) (lemma : Lemma) (l' : Lang) (lemma' : Lemma) :
    entryAt (removeAt st l lemma) l' lemma' = if l' = l ∧ lemma' = lemma then none else entryAt st l' lemma' := by
  unfold entryAt removeAt
  simp only [lexOf_setLex, heap_setLex]
  by_cases hl : l' = l
  · subst hl
    by_cases hm : lemma' = lemma <;> simp [hm, dget_ddel]
  · simp [hl]

theorem good_removeAt (st : State) (hg : Good st) (l : Lang) (lemma : Lemma) : Good (removeAt st l lemma) := by
  refine good_of_sub (fun l' lemma' r hd => ?_) (by simp [removeAt]) hg
  rw [removeAt, lexOf_setLex] at hd
  split at hd
  · next hl =>
    rw [dget_ddel] at hd
    split at hd
    · cases hd
    · exact hl ▸ hd
  · exact hd

theorem view_removeAt (st : State) (l : Lang) (lemma : Lemma) :
    view (removeAt st l lemma) = aset (view st) l lemma none :=
  view_of_lookup (lookup_removeAt st l lemma)

/-- the state after a language-resolved call -/
def execNext (st : State) (l : Lang) (o : LOp) : State :=
  match exec st l o with
  | .ok (_, s) => s
  | .error _ => st

theorem next_lex_ok (st : State) (o : LOp) (lang : Option LangArg) (l : Lang) (h : resolve st.cur lang = .ok l) :
    next st (.lex o lang) = execNext st l o := by
  simp only [next, step, h]
  rfl

theorem next_lex_err (st : State) (o : LOp) (lang : Option LangArg) (c : Crash) (h : resolve st.cur lang = .error c) :
    next st (.lex o lang) = st := by
  simp [next, step, h]

@[simp] theorem execNext_add (st : State) (l : Lang) (lemma : Lemma) (a : DictArg) :
    execNext st l (.add lemma a) = (addCore st l lemma a).2 := rfl
@[simp] theorem execNext_addSingle_nil (st : State) (l : Lang) : execNext st l (.addSingle []) = st := rfl
@[simp] theorem execNext_addSingle_cons (st : State) (l : Lang) (lemma : Lemma) (a : DictArg) (rest) :
    execNext st l (.addSingle ((lemma, a) :: rest)) = (addCore st l lemma a).2 := rfl
@[simp] theorem execNext_remove (st : State) (l : Lang) (lemma : Lemma) :
    execNext st l (.remove lemma) = removeAt st l lemma := rfl
@[simp] theorem execNext_update (st : State) (l : Lang) (nl) :
    execNext st l (.update nl) = foldStore st l nl := rfl
@[simp] theorem execNext_getLemma (st : State) (l : Lang) (lemma : Lemma) :
    execNext st l (.getLemma lemma) = st := rfl
@[simp] theorem execNext_getLexicon (st : State) (l : Lang) : execNext st l .getLexicon = st := rfl
@[simp] theorem execNext_getRules (st : State) (l : Lang) : execNext st l .getRules = st := rfl

/-- the lemmas a call is about -/
def LOp.lemmas : LOp → List Lemma
  | .add lemma _ => [lemma]
  | .addSingle [] => []
  | .addSingle ((lemma, _) :: _) => [lemma]
  | .remove lemma => [lemma]
  | .update nl => nl.map Prod.fst
  | _ => []

theorem good_execNext (st : State) (hg : Good st) (l : Lang) (o : LOp) : Good (execNext st l o) := by
  cases o with
  | add lemma a => exact good_addCore st hg l lemma a
  | addSingle items =>
    cases items with
    | nil => exact hg
    | cons p r => exact good_addCore st hg l p.1 p.2
  | remove lemma => exact good_removeAt st hg l lemma
  | update nl => exact good_foldStore st hg l nl
  | getLemma lemma => simpa using hg
  | getLexicon => exact hg
  | getRules => exact hg

theorem next_ctl (st : State) (c : Ctl) :
    (∀ l, (next st (.ctl c)).lexOf l = st.lexOf l) ∧ (next st (.ctl c)).heap = st.heap ∧
    (∀ l, (next st (.ctl c)).rulesOf l = st.rulesOf l) ∧ (next st (.ctl c)).fresh = st.fresh := by
  cases c with
  | loadEn => simp [next, step]
  | loadFr => simp [next, step]
  | load la => cases la <;> simp [next, step]
  | getLanguage => simp [next, step]

theorem lookup_congr (st st' : State) (hl : ∀ l, st'.lexOf l = st.lexOf l) (hh : st'.heap = st.heap) (l : Lang) (lemma : Lemma) :
    entryAt st' l lemma = entryAt st l lemma := by
  simp [entryAt, hl, hh]

/-- since 3c7823e: NO call creates sharing — the invariant of every reachable state -/
theorem good_next (st : State) (hg : Good st) (op : Op) : Good (next st op) := by
  cases op with
  | ctl c => exact good_of_sub (fun l _ _ h => (next_ctl st c).1 l ▸ h) (next_ctl st c).2.2.2 hg
  | lex o lang =>
    cases hr : resolve st.cur lang with
    | error c => rw [next_lex_err st o lang c hr]; exact hg
    | ok l => rw [next_lex_ok st o lang l hr]; exact good_execNext st hg l o

theorem run_cons (st : State) (op : Op) (ops : List Op) : run st (op :: ops) = run (next st op) ops := rfl

theorem good_run (st : State) (hg : Good st) (ops : List Op) : Good (run st ops) := by
  induction ops generalizing st with
  | nil => exact hg
  | cons op r ih => exact ih (next st op) (good_next st hg op)

theorem lookup_execNext_other (st : State) (hg : Good st) (l : Lang) (o : LOp) (l' : Lang) (lemma' : Lemma)
    (hne : ¬ (l' = l ∧ lemma' ∈ o.lemmas)) : entryAt (execNext st l o) l' lemma' = entryAt st l' lemma' := by
  cases o with
  | add lemma a =>
    exact lookup_addCore_other st hg l lemma a l' lemma' (by simpa [LOp.lemmas] using hne)
  | addSingle items =>
    cases items with
    | nil => rfl
    | cons p r =>
      obtain ⟨lemma, a⟩ := p
      exact lookup_addCore_other st hg l lemma a l' lemma' (by simpa [LOp.lemmas] using hne)
  | remove lemma =>
    simp only [execNext_remove, lookup_removeAt]
    have : ¬ (l' = l ∧ lemma' = lemma) := by simpa [LOp.lemmas] using hne
    simp [this]
  | update nl => exact lookup_foldStore_other st hg l nl l' lemma' hne
  | getLemma lemma => simp
  | getLexicon => rfl
  | getRules => rfl

/-- A call for language `l` writes the lexicon of `l`, the heap and the counter of fresh objects, and nothing else:
    an observation `f` of the state that these three writes leave alone is left alone by the call. -/
theorem frame_execNext {α : Type} (f : State → α) (l : Lang) (h1 : ∀ st lx, f (st.setLex l lx) = f st)
    (h2 : ∀ st h, f (st.setHeap h) = f st) (h3 : ∀ st r, f (st.setFresh r) = f st) (st : State) (o : LOp) :
    f (execNext st l o) = f st := by
  have hstore : ∀ st lemma a, f (storeArg st l lemma a) = f st := fun st lemma a => by rw [storeArg, h3, h2, h1]
  have hadd : ∀ lemma a, f (addCore st l lemma a).2 = f st := fun lemma a => by
    unfold addCore
    cases dget lemma (st.lexOf l) with
    | none => exact hstore st lemma a
    | some r => exact h2 st _
  cases o with
  | add lemma a => exact hadd lemma a
  | addSingle items =>
    cases items with
    | nil => rfl
    | cons p r => exact hadd p.1 p.2
  | remove lemma => exact h1 st _
  | update nl =>
    rw [execNext_update]
    clear hadd
    induction nl generalizing st with
    | nil => rfl
    | cons p r ih => exact (ih (storeArg st l p.1 p.2)).trans (hstore st p.1 p.2)
  | getLemma lemma => rfl
  | getLexicon => rfl
  | getRules => rfl

theorem lexOf_execNext_other (st : State) (l : Lang) (o : LOp) (l' : Lang) (hl : l' ≠ l) :
    (execNext st l o).lexOf l' = st.lexOf l' :=
  frame_execNext (·.lexOf l') l (by simp [hl]) (by simp) (by simp) st o

theorem rules_execNext (st : State) (l : Lang) (o : LOp) (l' : Lang) : (execNext st l o).rulesOf l' = st.rulesOf l' :=
  frame_execNext (·.rulesOf l') l (by simp) (by simp) (by simp) st o

theorem cur_execNext (st : State) (l : Lang) (o : LOp) : (execNext st l o).cur = st.cur :=
  frame_execNext (·.cur) l (by simp) (by simp) (by simp) st o

end Pyrealb.LexState
