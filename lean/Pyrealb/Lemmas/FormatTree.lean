import Pyrealb.Lemmas.FormatTags
/-! One `doFormat` step and the whole realization tree against tags (for C10).  A step turns the text `x` of its
    input into `B ++ tags(cap/poss(x)) ++ A` with `B`, `A` free of angle brackets, so a property of texts closed under
    concatenation that holds of angle-free text passes through a step as soon as it passes through the tags and
    `cap`/`poss`; the tree theorems are instances of one induction (`RealInv`). -/
namespace Pyrealb.Format

def TokAF (l : List Tok) : Prop := ∀ t ∈ l, AngleFree t.real

/-- the signs resolve (no `KeyError`) to strings free of angle brackets -/
def BasOK (tb : Tables) (signs : List Str) : Prop :=
  ∃ bas, baAll tb signs = .ok bas ∧ ∀ p ∈ bas, AngleFree p.1 ∧ AngleFree p.2

def OptsOK (tb : Tables) (o : Opts) : Prop :=
  (∀ t ∈ optList o.tags, TagOK t) ∧ BasOK tb (optList o.a) ∧ BasOK tb (optList o.b) ∧ BasOK tb (ensOf o)

def AngOK (cm : CaseMap) : Prop :=
  (∀ c, c ≠ '<' → c ≠ '>' → cm.upper c ≠ '<' ∧ cm.upper c ≠ '>' ∧ cm.lower c ≠ '<' ∧ cm.lower c ≠ '>') ∧
  cm.upper '<' = '<' ∧ cm.upper '>' = '>'

def eraseOpts (o : Opts) : Opts := { o with tags := none }

theorem tokAF_iff (l : List Tok) : TokAF l ↔ AngleFree (flat l) := by
  induction l with
  | nil => simp [TokAF, AngleFree.nil]
  | cons t r ih => simp only [flat_cons, angleFree_append, ← ih, TokAF, List.forall_mem_cons]

theorem bas_af (bas : List (Str × Str)) (h : ∀ p ∈ bas, AngleFree p.1 ∧ AngleFree p.2) :
    AngleFree (revB bas) ∧ AngleFree (fwdB bas) ∧ AngleFree (fwdA bas) := by
  induction bas with
  | nil => exact ⟨.nil, .nil, .nil⟩
  | cons p r ih =>
    obtain ⟨i1, i2, i3⟩ := ih fun q hq => h q (List.mem_cons_of_mem _ hq)
    obtain ⟨h1, h2⟩ := h p (by simp)
    exact ⟨i1.append h1, h1.append i2, h2.append i3⟩

/-- the strings the signs of well-formed options resolve to -/
theorem OptsOK.signs {tb : Tables} {o : Opts} (ho : OptsOK tb o) : ∃ as bs es,
    baAll tb (optList o.a) = .ok as ∧ baAll tb (optList o.b) = .ok bs ∧ baAll tb (ensOf o) = .ok es ∧
      AngleFree (revB es ++ revB bs) ∧ AngleFree (fwdB as ++ fwdA es) := by
  obtain ⟨_, ⟨as, ha, haf⟩, ⟨bs, hb, hbf⟩, ⟨es, he, hef⟩⟩ := ho
  exact ⟨as, bs, es, ha, hb, he, (bas_af es hef).1.append (bas_af bs hbf).1,
    (bas_af as haf).2.1.append (bas_af es hef).2.2⟩

/-- the text of a formatted non-empty list: the signs of `b`/`en` stay in front of the opening tags, those of
    `a`/`en` behind the closing tags -/
theorem doFormat_flat (tb : Tables) (cm : CaseMap) (o : Opts) (l : List Tok) (as bs es : List (Str × Str))
    (hne : l ≠ []) (ha : baAll tb (optList o.a) = .ok as) (hb : baAll tb (optList o.b) = .ok bs)
    (he : baAll tb (ensOf o) = .ok es) :
    ∃ out, doFormat tb cm o id l = .ok out ∧ out ≠ [] ∧
      flat out = (revB es ++ revB bs) ++
        (tagsB (optList o.tags) ++ flat (capPoss cm o (removeEmpty l)) ++ tagsA (optList o.tags)) ++
        (fwdB as ++ fwdA es) := by
  have hre := removeEmpty_ne_nil l hne
  have hcp := capPoss_ne_nil cm o _ hre
  refine ⟨_, by rw [doFormat_ne _ _ _ _ _ hre]; exact formatCore_eq tb cm o _ hre as bs es ha hb he,
    wrapAll_ne_nil _ _ _ hcp, ?_⟩
  rw [flat_wrapAll _ _ _ hcp]
  simp [List.append_assoc]

theorem fmt_step {R : Str → Prop} (happ : ∀ x y, R x → R y → R (x ++ y)) (htext : ∀ x, AngleFree x → R x)
    {tb : Tables} {cm : CaseMap} {o : Opts} (ho : OptsOK tb o) (l out : List Tok)
    (h : doFormat tb cm o id l = .ok out)
    (hmid : R (tagsB (optList o.tags) ++ flat (capPoss cm o (removeEmpty l)) ++ tagsA (optList o.tags))) :
    R (flat out) := by
  by_cases hne : l = []
  · subst hne
    cases h
    exact htext _ .nil
  · obtain ⟨as, bs, es, ha, hb, he, hB, hA⟩ := ho.signs
    obtain ⟨out', e, _, hf⟩ := doFormat_flat tb cm o l as bs es hne ha hb he
    rw [h] at e
    cases e
    rw [hf]
    exact happ _ _ (happ _ _ (htext _ hB) hmid) (htext _ hA)

/-- such a property passes through `cap(True)`/`poss` as soon as it survives the capital on a prefix: `poss` only
    appends angle-free text to the whole -/
theorem capPoss_flat {R : Str → Prop} (cm : CaseMap) (happ : ∀ x y, R x → R y → R (x ++ y))
    (htext : ∀ x, AngleFree x → R x) (hcap : ∀ x rest, R (x ++ rest) → R (capFirst cm x ++ rest))
    (o : Opts) (l : List Tok) (h : R (flat l)) : R (flat (capPoss cm o l)) := by
  have h1 : R (flat (if o.poss then modLast addPoss l else l)) := by
    split
    · by_cases hne : l = []
      · subst hne; exact h
      · obtain ⟨pre, last, e1, e2⟩ := flat_modLast addPoss l hne
        rw [e1] at h
        rw [e2]
        unfold addPoss
        split <;> rw [← List.append_assoc] <;> exact happ _ _ h (htext _ (by decide))
    · exact h
  unfold capPoss
  simp only
  generalize (if o.poss then modLast addPoss l else l) = l1 at h1
  split
  · cases l1 with
    | nil => exact h1
    | cons t r => rw [flat_modFirst]; exact hcap _ _ (by simpa using h1)
  · exact h1

theorem capPoss_cases (cm : CaseMap) (o : Opts) : (o.cap = .t ∨ o.poss = true) ∨ ∀ l, capPoss cm o l = l := by
  by_cases h1 : o.cap = .t
  · exact .inl (.inl h1)
  · cases h2 : o.poss with
    | true => exact .inl (.inr rfl)
    | false => exact .inr fun l => by simp [capPoss, h1, h2]

theorem upperAt_af {cm : CaseMap} (hc : AngOK cm) (x : Str) (i : Nat) (h : AngleFree x) : AngleFree (upperAt cm x i) := by
  rcases upperAt_eq cm x i with e | ⟨pre, c, rest, rfl, e, _⟩ <;> rw [e]
  · exact h
  · simp only [angleFree_append, angleFree_cons] at h ⊢
    exact ⟨h.1, (hc.1 c h.2.1 h.2.2.1).1, (hc.1 c h.2.1 h.2.2.1).2.1, h.2.2.2⟩

theorem capPoss_af {cm : CaseMap} (hc : AngOK cm) (o : Opts) (l : List Tok) (h : AngleFree (flat l)) :
    AngleFree (flat (capPoss cm o l)) :=
  capPoss_flat cm (fun _ _ => .append) (fun _ => id)
    (fun x rest h => by
      rw [angleFree_append] at h ⊢
      exact ⟨upperAt_af hc x _ h.1, h.2⟩) o l h

/-- upper-casing the character found by `sepWordRE` is invisible to the scanner: it lies outside every tag
    (`q`: the scanner's state; inside a tag `g1Len` knows that the tag is closed further on) -/
theorem balRun_upperAt (cm : CaseMap) (hc : AngOK cm) (x rest : Str) (q : Option Str) (st : List Str)
    (hq : q.isSome = true → '>' ∈ x) :
    balRun q st (upperAt cm x (g1Len cm q.isSome x) ++ rest) = balRun q st (x ++ rest) := by
  induction x generalizing q st with
  | nil => rw [upperAt_nil]
  | cons c r ih =>
    cases q with
    | none =>
      simp only [Option.isSome_none, g1Len]
      split
      · rename_i hs
        rw [Nat.add_comm, upperAt_cons_succ]
        have hc1 : c ≠ '<' := by intro e; subst e; simp [isSkip] at hs
        simp only [List.cons_append, balRun, hc1, if_false]
        split
        · rfl
        · exact ih none st nofun
      · split
        · rename_i hs
          obtain ⟨e, hcl⟩ := hs
          subst e
          rw [Nat.add_comm, upperAt_cons_succ]
          simp only [List.cons_append, balRun, if_true]
          refine ih (some []) st fun _ => ?_
          cases r with
          | nil => simp [closesTag] at hcl
          | cons d r' =>
            simp only [closesTag, Bool.and_eq_true, List.contains_iff_mem] at hcl
            exact List.mem_cons_of_mem _ hcl.2
        · rw [upperAt_zero]
          by_cases e1 : c = '<'
          · subst e1; rw [hc.2.1]
          · by_cases e2 : c = '>'
            · subst e2; rw [hc.2.2]
            · have := hc.1 c e1 e2
              simp only [List.cons_append, balRun, this.1, this.2.1, e1, e2, if_false]
    | some buf =>
      simp only [Option.isSome_some, g1Len]
      split
      · rename_i e
        subst e
        rw [Nat.add_comm, upperAt_cons_succ]
        simp only [List.cons_append, balRun, if_true]
        split
        · exact ih none _ nofun
        · rfl
      · rename_i e
        rw [Nat.add_comm, upperAt_cons_succ]
        simp only [List.cons_append, balRun, e, if_false]
        refine ih (some _) st fun _ => ?_
        rcases List.mem_cons.mp (hq rfl) with h | h
        · exact absurd h.symm e
        · exact h

theorem neutral_capPoss {cm : CaseMap} (hc : AngOK cm) (o : Opts) (l : List Tok) (h : Neutral (flat l)) :
    Neutral (flat (capPoss cm o l)) :=
  capPoss_flat cm (fun _ _ => neutral_append) (fun _ => neutral_text)
    (fun x rest h st r => by
      rw [List.append_assoc, ← h st r, List.append_assoc]
      exact balRun_upperAt cm hc x (rest ++ r) none st nofun) o l h

theorem step_af {tb : Tables} {cm : CaseMap} (hcm : AngOK cm) {o : Opts} (ho : OptsOK tb o)
    (htag : (optList o.tags).isEmpty = true) (l out : List Tok) (hl : AngleFree (flat l))
    (h : doFormat tb cm o id l = .ok out) : AngleFree (flat out) :=
  fmt_step (fun _ _ => .append) (fun _ => id) ho l out h (by
    rw [List.isEmpty_iff.mp htag]
    simpa [tagsB, tagsA] using capPoss_af hcm o _ (flat_removeEmpty l ▸ hl))

theorem step_bal {tb : Tables} {cm : CaseMap} (hcm : AngOK cm) {o : Opts} (ho : OptsOK tb o) (l out : List Tok)
    (hb : Bal (flat l)) (hcap : (o.cap = .t ∨ o.poss = true) → AngleFree (flat l))
    (h : doFormat tb cm o id l = .ok out) : Bal (flat out) :=
  fmt_step (fun _ _ => .app) (fun _ => .text) ho l out h (wrap_tags (fun _ _ => .wrap) _ ho.1 _ (by
    rcases capPoss_cases cm o with hc | e
    · exact .text (capPoss_af hcm o _ (flat_removeEmpty l ▸ hcap hc))
    · rw [e, flat_removeEmpty]; exact hb))

theorem step_neutral {tb : Tables} {cm : CaseMap} (hcm : AngOK cm) {o : Opts} (ho : OptsOK tb o) (l out : List Tok)
    (hn : Neutral (flat l)) (h : doFormat tb cm o id l = .ok out) : Neutral (flat out) :=
  fmt_step (fun _ _ => neutral_append) (fun _ => neutral_text) ho l out h
    (wrap_tags neutral_wrap _ ho.1 _ (neutral_capPoss hcm o _ (flat_removeEmpty l ▸ hn)))

/-- what the tag-deletion theorem says about one (sub)tree -/
def StripRel (toks toks' : List Tok) : Prop :=
  flat toks' = strip false (flat toks) ∧ inAngle false (flat toks) = false ∧ (toks = [] ↔ toks' = [])

theorem step_strip {tb : Tables} {cm : CaseMap} (hcm : AngOK cm) {o : Opts} (ho : OptsOK tb o) (l l' out : List Tok)
    (h : doFormat tb cm o id l = .ok out) (hs : StripRel l l')
    (hcap : (o.cap = .t ∨ o.poss = true) → l' = l ∧ AngleFree (flat l)) :
    ∃ out', doFormat tb cm (eraseOpts o) id l' = .ok out' ∧ StripRel out out' := by
  by_cases hne : l = []
  · have hne' := hs.2.2.mp hne
    subst hne hne'
    cases h
    exact ⟨[], rfl, rfl, rfl, Iff.rfl⟩
  · obtain ⟨as, bs, es, ha, hb, he, hB, hA⟩ := ho.signs
    obtain ⟨out1, e1, n1, f1⟩ := doFormat_flat tb cm o l as bs es hne ha hb he
    obtain ⟨out', e2, n2, f2⟩ := doFormat_flat tb cm (eraseOpts o) l' as bs es (fun e => hne (hs.2.2.mpr e)) ha hb he
    rw [h] at e1
    cases e1
    have mid : Strips (flat (capPoss cm o (removeEmpty l))) (flat (capPoss cm o (removeEmpty l'))) := by
      rcases capPoss_cases cm o with hc | e
      · obtain ⟨rfl, haf⟩ := hcap hc
        exact .text (capPoss_af hcm o _ (flat_removeEmpty l' ▸ haf))
      · rw [e, e, flat_removeEmpty, flat_removeEmpty]; exact ⟨hs.1.symm, hs.2.1⟩
    obtain ⟨t1, t2⟩ := tags_strips _ ho.1
    have := ((Strips.text hB).append ((t1.append mid).append t2)).append (.text hA)
    rw [← f1] at this
    refine ⟨out', e2, ?_, this.2, by simp [n1, n2]⟩
    rw [f2, this.1]
    rfl

mutual
  /-- no `tag` option anywhere in the subtree -/
  def Tree.tagFree : Tree → Bool
    | .leaf _ o => (optList o.tags).isEmpty
    | .node o kids => (optList o.tags).isEmpty && kids.tagFree
  def Forest.tagFree : Forest → Bool
    | .nil => true
    | .cons t f => t.tagFree && f.tagFree
end

mutual
  /-- the same tree without its `tag` options -/
  def Tree.erase : Tree → Tree
    | .leaf t o => .leaf t (eraseOpts o)
    | .node o kids => .node (eraseOpts o) kids.erase
  def Forest.erase : Forest → Forest
    | .nil => .nil
    | .cons t f => .cons t.erase f.erase
end

mutual
  /-- well-formed input: leaf texts, sign strings, tag names and attributes free of angle brackets, signs that
      resolve; `cap(True)` / `poss` only above tag-free subtrees (a tag makes an empty token non-empty, so changes which
      token gets the capital or the possessive: `C10.witnessCapEmptyTag`) -/
  def Tree.OK (tb : Tables) : Tree → Prop
    | .leaf t o => AngleFree t.real ∧ OptsOK tb o
    | .node o kids => OptsOK tb o ∧ kids.OK tb ∧ ((o.cap = .t ∨ o.poss = true) → kids.tagFree = true)
  def Forest.OK (tb : Tables) : Forest → Prop
    | .nil => True
    | .cons t f => t.OK tb ∧ f.OK tb
end

mutual
  /-- well-formed input without the side condition on `cap(True)` / `poss` (the full clauses quantify over these) -/
  def Tree.WF (tb : Tables) : Tree → Prop
    | .leaf t o => AngleFree t.real ∧ OptsOK tb o
    | .node o kids => OptsOK tb o ∧ kids.WF tb
  def Forest.WF (tb : Tables) : Forest → Prop
    | .nil => True
    | .cons t f => t.WF tb ∧ f.WF tb
end

/-- what an induction over the realization has to show: `P` of the tokens of a tree, `Q` of those of a forest -/
structure RealInv (tb : Tables) (cm : CaseMap) (P : Tree → List Tok → Prop) (Q : Forest → List Tok → Prop) :
    Prop where
  leaf : ∀ t o out, doFormat tb cm o id [t] = .ok out → P (.leaf t o) out
  empty : ∀ o, P (.node o .nil) []
  node : ∀ o k ks l out, (Forest.cons k ks).real tb cm = .ok l → Q (.cons k ks) l →
    doFormat tb cm o id l = .ok out → P (.node o (.cons k ks)) out
  nil : Q .nil []
  cons : ∀ t f a b, P t a → Q f b → Q (.cons t f) (a ++ b)

mutual
  theorem RealInv.tree {tb : Tables} {cm : CaseMap} {P : Tree → List Tok → Prop} {Q : Forest → List Tok → Prop}
      (inv : RealInv tb cm P Q) : ∀ (t : Tree) (toks : List Tok), t.real tb cm = .ok toks → P t toks
    | .leaf t o, toks, h => inv.leaf t o toks (by simpa only [Tree.real] using h)
    | .node o .nil, toks, h => by simp only [Tree.real] at h; cases h; exact inv.empty o
    | .node o (.cons k ks), toks, h => by
      simp only [Tree.real] at h
      obtain ⟨l, hk, h⟩ := ex_bind_eq_ok h
      exact inv.node o k ks l toks hk (inv.forest _ l hk) h
  theorem RealInv.forest {tb : Tables} {cm : CaseMap} {P : Tree → List Tok → Prop} {Q : Forest → List Tok → Prop}
      (inv : RealInv tb cm P Q) : ∀ (f : Forest) (toks : List Tok), f.real tb cm = .ok toks → Q f toks
    | .nil, toks, h => by simp only [Forest.real] at h; cases h; exact inv.nil
    | .cons t f, toks, h => by
      simp only [Forest.real] at h
      obtain ⟨a, ht, h⟩ := ex_bind_eq_ok h
      obtain ⟨b, hf, h⟩ := ex_bind_eq_ok h
      cases h
      exact inv.cons t f a b (inv.tree t a ht) (inv.forest f b hf)
end

theorem eraseOpts_id (o : Opts) (h : (optList o.tags).isEmpty = true) (tb : Tables) (cm : CaseMap) (l : List Tok) :
    doFormat tb cm (eraseOpts o) id l = doFormat tb cm o id l := by
  have e1 : optList (eraseOpts o).tags = optList o.tags := by rw [List.isEmpty_iff.mp h]; rfl
  unfold doFormat formatCore
  rw [e1]
  rfl

mutual
  theorem Tree.erase_real (tb : Tables) (cm : CaseMap) : ∀ t : Tree, t.tagFree = true →
      t.erase.real tb cm = t.real tb cm
    | .leaf t o, h => by simp only [Tree.erase, Tree.real]; exact eraseOpts_id o h tb cm _
    | .node o .nil, _ => rfl
    | .node o (.cons k ks), h => by
      simp only [Tree.tagFree, Bool.and_eq_true] at h
      have := Forest.erase_real tb cm (.cons k ks) h.2
      simp only [Tree.erase, Forest.erase, Tree.real] at this ⊢
      rw [this]
      cases (Forest.cons k ks).real tb cm with
      | error e => rfl
      | ok l => exact eraseOpts_id o h.1 tb cm l
  theorem Forest.erase_real (tb : Tables) (cm : CaseMap) : ∀ f : Forest, f.tagFree = true →
      f.erase.real tb cm = f.real tb cm
    | .nil, _ => rfl
    | .cons t f, h => by
      simp only [Forest.tagFree, Bool.and_eq_true] at h
      simp only [Forest.erase, Forest.real, Tree.erase_real tb cm t h.1, Forest.erase_real tb cm f h.2]
end

theorem real_af_inv (tb : Tables) (cm : CaseMap) (hcm : AngOK cm) : RealInv tb cm
    (fun t toks => t.OK tb → t.tagFree = true → AngleFree (flat toks))
    (fun f toks => f.OK tb → f.tagFree = true → AngleFree (flat toks)) where
  leaf t o out h hok htf := step_af hcm hok.2 htf [t] out (by simpa using hok.1) h
  empty _ _ _ := .nil
  node o k ks l out _ ih h hok htf := by
    simp only [Tree.tagFree, Bool.and_eq_true] at htf
    exact step_af hcm hok.1 htf.1 l out (ih hok.2.1 htf.2) h
  nil _ _ := .nil
  cons t f a b iha ihb hok htf := by
    simp only [Forest.tagFree, Bool.and_eq_true] at htf
    rw [flat_append]
    exact (iha hok.1 htf.1).append (ihb hok.2 htf.2)

theorem Tree.real_af (tb : Tables) (cm : CaseMap) (hcm : AngOK cm) : ∀ (t : Tree) (toks : List Tok),
      t.OK tb → t.tagFree = true → t.real tb cm = .ok toks → TokAF toks :=
  fun t toks hok htf h => (tokAF_iff toks).mpr ((real_af_inv tb cm hcm).tree t toks h hok htf)

theorem real_bal_inv (tb : Tables) (cm : CaseMap) (hcm : AngOK cm) : RealInv tb cm
    (fun t toks => t.OK tb → Bal (flat toks)) (fun f toks => f.OK tb → Bal (flat toks)) where
  leaf t o out h hok := step_bal hcm hok.2 [t] out (by simpa using Bal.text hok.1) (fun _ => by simpa using hok.1) h
  empty _ _ := .text .nil
  node o k ks l out hk ih h hok := step_bal hcm hok.1 l out (ih hok.2.1)
    (fun hc => (real_af_inv tb cm hcm).forest _ l hk hok.2.1 (hok.2.2 hc)) h
  nil _ := .text .nil
  cons t f a b iha ihb hok := by rw [flat_append]; exact .app (iha hok.1) (ihb hok.2)

theorem Forest.real_bal (tb : Tables) (cm : CaseMap) (hcm : AngOK cm) : ∀ (f : Forest) (toks : List Tok),
      f.OK tb → f.real tb cm = .ok toks → Bal (flat toks) :=
  fun f toks hok h => (real_bal_inv tb cm hcm).forest f toks h hok

theorem real_strip_inv (tb : Tables) (cm : CaseMap) (hcm : AngOK cm) : RealInv tb cm
    (fun t toks => t.OK tb → ∃ toks', t.erase.real tb cm = .ok toks' ∧ StripRel toks toks')
    (fun f toks => f.OK tb → ∃ toks', f.erase.real tb cm = .ok toks' ∧ StripRel toks toks') where
  leaf t o out h hok :=
    step_strip hcm hok.2 [t] [t] out h ⟨by simp [(Strips.text hok.1).1], by simp [(Strips.text hok.1).2], Iff.rfl⟩
      (fun _ => ⟨rfl, by simpa using hok.1⟩)
  empty _ _ := ⟨[], rfl, rfl, rfl, Iff.rfl⟩
  node o k ks l out hk ih h hok := by
    obtain ⟨l', hl', hs⟩ := ih hok.2.1
    obtain ⟨out', h1, h2⟩ := step_strip hcm hok.1 l l' out h hs fun hc => by
      have htf := hok.2.2 hc
      rw [Forest.erase_real tb cm _ htf, hk] at hl'
      cases hl'
      exact ⟨rfl, (real_af_inv tb cm hcm).forest _ l hk hok.2.1 htf⟩
    refine ⟨out', ?_, h2⟩
    simp only [Tree.erase, Forest.erase, Tree.real] at hl' ⊢
    rw [hl']
    exact h1
  nil _ := ⟨[], rfl, rfl, rfl, Iff.rfl⟩
  cons t f a b iha ihb hok := by
    obtain ⟨a', ha', a1, a2, a3⟩ := iha hok.1
    obtain ⟨b', hb', b1, b2, b3⟩ := ihb hok.2
    have := Strips.append ⟨a1.symm, a2⟩ ⟨b1.symm, b2⟩
    refine ⟨a' ++ b', by simp [Forest.erase, Forest.real, ha', hb'], ?_, ?_, by simp [a3, b3]⟩
    · rw [flat_append, flat_append, this.1]
    · rw [flat_append]; exact this.2

theorem Forest.real_strip (tb : Tables) (cm : CaseMap) (hcm : AngOK cm) : ∀ (f : Forest) (toks : List Tok),
      f.OK tb → f.real tb cm = .ok toks → ∃ toks', f.erase.real tb cm = .ok toks' ∧ StripRel toks toks' :=
  fun f toks hok h => (real_strip_inv tb cm hcm).forest f toks h hok

theorem real_neutral_inv (tb : Tables) (cm : CaseMap) (hcm : AngOK cm) : RealInv tb cm
    (fun t toks => t.WF tb → Neutral (flat toks)) (fun f toks => f.WF tb → Neutral (flat toks)) where
  leaf t o out h hok := step_neutral hcm hok.2 [t] out (by simpa using neutral_text hok.1) h
  empty _ _ := neutral_text .nil
  node o k ks l out _ ih h hok := step_neutral hcm hok.1 l out (ih hok.2) h
  nil _ := neutral_text .nil
  cons t f a b iha ihb hok := by rw [flat_append]; exact neutral_append (iha hok.1) (ihb hok.2)

theorem Forest.real_neutral (tb : Tables) (cm : CaseMap) (hcm : AngOK cm) : ∀ (f : Forest) (toks : List Tok),
      f.WF tb → f.real tb cm = .ok toks → Neutral (flat toks) :=
  fun f toks hok h => (real_neutral_inv tb cm hcm).forest f toks h hok

end Pyrealb.Format
