import Pyrealb.Lemmas.JsonBasic
/-! `json.loads ∘ json.dumps` is the identity on the value shapes that occur (C12, JSON text route):
    the printer `printJ` and the reader `readJ` of `Model/Json`, by induction on the value. -/
namespace Pyrealb.Expr
open Pyrealb

theorem hexVal_hexDigit : ∀ n : Fin 16, hexVal (hexDigit n.val) = some n.val := by decide

theorem hexVal_hexDigit' (n : Nat) (h : n < 16) : hexVal (hexDigit n) = some n := hexVal_hexDigit ⟨n, h⟩

theorem readJStr_cons (c : Char) (r : Str) : readJStr (c :: r) =
    if c = '"' then some ([], r)
    else if c = '\\' then
      match r with
      | [] => none
      | e :: r1 =>
        if e = 'u' then
          match r1 with
          | a :: b :: c :: d :: r2 =>
            match hexVal a, hexVal b, hexVal c, hexVal d, readJStr r2 with
            | some a, some b, some c, some d, some (x, rest) =>
              some (Char.ofNat (((a * 16 + b) * 16 + c) * 16 + d) :: x, rest)
            | _, _, _, _, _ => none
          | _ => none
        else
          match unescJ e, readJStr r1 with
          | some ch, some (x, rest) => some (ch :: x, rest)
          | _, _ => none
    else if c.toNat < 32 then none
    else match readJStr r with
      | some (x, rest) => some (c :: x, rest)
      | none => none := by
  rw [readJStr.eq_def]
  rfl

theorem readJStr_escChar (c : Char) {tl x rest : Str} (h : readJStr tl = some (x, rest)) :
    readJStr (escJChar c ++ tl) = some (c :: x, rest) := by
  unfold escJChar
  by_cases h1 : c = '"'; · subst h1; simp [readJStr_cons, unescJ, h]
  rw [if_neg h1]
  by_cases h2 : c = '\\'; · subst h2; simp [readJStr_cons, unescJ, h]
  rw [if_neg h2]
  by_cases h3 : c = '\n'; · subst h3; simp [readJStr_cons, unescJ, h]
  rw [if_neg h3]
  by_cases h4 : c = '\r'; · subst h4; simp [readJStr_cons, unescJ, h]
  rw [if_neg h4]
  by_cases h5 : c = '\t'; · subst h5; simp [readJStr_cons, unescJ, h]
  rw [if_neg h5]
  by_cases h6 : c.toNat = 8
  · have : c = Char.ofNat 8 := by rw [← h6]; simp
    subst this; simp [readJStr_cons, unescJ, h]
  rw [if_neg h6]
  by_cases h7 : c.toNat = 12
  · have : c = Char.ofNat 12 := by rw [← h7]; simp
    subst this; simp [readJStr_cons, unescJ, h]
  rw [if_neg h7]
  by_cases h8 : c.toNat < 32
  · -- `\u00XY` : the two hexadecimal digits give the code back
    have hc : Char.ofNat (c.toNat / 16 * 16 + c.toNat % 16) = c := by
      rw [Nat.div_add_mod' c.toNat 16]; simp
    simp [h8, readJStr_cons, hexVal_hexDigit' _ (show c.toNat / 16 < 16 by omega),
      hexVal_hexDigit' _ (show c.toNat % 16 < 16 by omega), show hexVal '0' = some 0 by decide, h, hc]
  · simp [h1, h2, h8, readJStr_cons, h]

theorem readJStr_esc (x rest : Str) : readJStr (escJ x ++ '"' :: rest) = some (x, rest) := by
  induction x with
  | nil => simp [escJ, readJStr_cons]
  | cons c r ih => rw [escJ, List.append_assoc]; exact readJStr_escChar c ih

theorem natDigits_eq (n : Nat) : natDigits n =
    if n < 10 then [Char.ofNat (48 + n)] else natDigits (n / 10) ++ [Char.ofNat (48 + n % 10)] := by
  rw [natDigits]
  split <;> rfl

theorem digit_facts : ∀ k : Fin 10, isDigit (Char.ofNat (48 + k.val)) = true ∧ digitVal (Char.ofNat (48 + k.val)) = k.val := by
  decide

theorem natOfDigits_append (a : Str) (c : Char) : natOfDigits (a ++ [c]) = natOfDigits a * 10 + digitVal c := by
  simp [natOfDigits, List.foldl_append]

theorem natDigits_spec (n : Nat) : (natDigits n).all isDigit = true ∧ natOfDigits (natDigits n) = n := by
  induction n using Nat.strongRecOn with
  | _ n ih =>
    rw [natDigits_eq]
    split
    · rename_i h
      obtain ⟨h1, h2⟩ := digit_facts ⟨n, h⟩
      simp only at h1 h2
      simp [natOfDigits, h1, h2]
    · rename_i h
      obtain ⟨i1, i2⟩ := ih (n / 10) (by omega)
      obtain ⟨h1, h2⟩ := digit_facts ⟨n % 10, by omega⟩
      simp only at h1 h2
      rw [natOfDigits_append, i2, h2]
      exact ⟨by simp [i1, h1], by omega⟩

theorem natDigits_all (n : Nat) : (natDigits n).all isDigit = true := (natDigits_spec n).1

theorem natDigits_ne_nil (n : Nat) : natDigits n ≠ [] := by
  rw [natDigits_eq]; split <;> simp

theorem natDigits_head (n : Nat) : ∃ c r, natDigits n = c :: r ∧ isDigit c = true := by
  have hall := natDigits_all n
  cases hd : natDigits n with
  | nil => exact absurd hd (natDigits_ne_nil n)
  | cons c r =>
    rw [hd, List.all_cons, Bool.and_eq_true] at hall
    exact ⟨c, r, rfl, hall.1⟩

def NoDigitHead (rest : Str) : Prop := ∀ c r, rest = c :: r → isDigit c = false

theorem readNat_append (ds rest : Str) (hd : ds.all isDigit = true) (hr : NoDigitHead rest) :
    readNat (ds ++ rest) = (natOfDigits ds, rest) := by
  obtain ⟨h1, h2⟩ := span_append ds rest hd hr
  rw [readNat, h1, h2]

theorem readNat_natDigits (n : Nat) (rest : Str) (hr : NoDigitHead rest) : readNat (natDigits n ++ rest) = (n, rest) := by
  rw [readNat_append _ _ (natDigits_all n) hr, (natDigits_spec n).2]

mutual
def JVal.need : JVal → Nat
  | .arr l => needList l + 1
  | .obj kv => needObj kv + 1
  | _ => 1
def needList : List JVal → Nat
  | [] => 0
  | v :: r => max v.need (needList r) + 1
def needObj : List (Str × JVal) → Nat
  | [] => 0
  | (_, v) :: r => max v.need (needObj r) + 1
end

theorem s_null : s "null" = ['n', 'u', 'l', 'l'] := s_ofList _
theorem s_true : s "true" = ['t', 'r', 'u', 'e'] := s_ofList _
theorem s_false : s "false" = ['f', 'a', 'l', 's', 'e'] := s_ofList _
theorem s_comma : s ", " = [',', ' '] := s_ofList _
theorem s_colon : s ": " = [':', ' '] := s_ofList _

theorem digit_ne (c : Char) (h : isDigit c = true) :
    c ≠ '"' ∧ c ≠ '[' ∧ c ≠ '{' ∧ c ≠ '-' ∧ c ≠ ' ' := by
  refine ⟨?_, ?_, ?_, ?_, ?_⟩ <;> (intro he; subst he; exact absurd h (by decide))

theorem readJV_space (fuel : Nat) (x : Str) : readJV fuel (' ' :: x) = readJV fuel x := by
  cases fuel with
  | zero => simp [readJV]
  | succ f => simp [readJV, skipWs]

theorem readJItems_space (fuel : Nat) (x : Str) : readJItems fuel (' ' :: x) = readJItems fuel x := by
  cases fuel with
  | zero => simp [readJItems]
  | succ f => simp [readJItems, readJV_space]

theorem readJMembers_space (fuel : Nat) (x : Str) : readJMembers fuel (' ' :: x) = readJMembers fuel x := by
  cases fuel with
  | zero => simp [readJMembers]
  | succ f => simp [readJMembers, skipWs]

theorem noDigit_cons (c : Char) (r : Str) (h : isDigit c = false) : NoDigitHead (c :: r) := by
  intro c' r' he; cases he; exact h

theorem skipWs_cons (c : Char) (r : Str) (h : c ≠ ' ') : skipWs (c :: r) = c :: r := by
  unfold skipWs
  split
  · rename_i heq; cases heq; exact absurd rfl h
  · rfl

theorem intStr_read (i : Int) (fuel : Nat) (rest : Str) (hr : NoDigitHead rest) :
    readJV (fuel + 1) (intStr i ++ rest) = some (.int i, rest) := by
  cases i with
  | ofNat n =>
    obtain ⟨c, r, hd, hc⟩ := natDigits_head n
    have hrd := readNat_natDigits n rest hr
    obtain ⟨h1, h2, h3, h4, h5⟩ := digit_ne c hc
    simp only [hd, List.cons_append] at hrd
    simp only [intStr, hd, readJV, List.cons_append, skipWs_cons c _ h5, h1, h2, h3, h4, hc, if_true, if_false, hrd]
    rfl
  | negSucc n =>
    obtain ⟨c, r, hd, hc⟩ := natDigits_head (n + 1)
    have hrd := readNat_natDigits (n + 1) rest hr
    have hm : ('-' : Char) ≠ ' ' := by decide
    simp only [hd, List.cons_append] at hrd
    simp [intStr, hd, readJV, skipWs_cons '-' _ hm, hc, hrd, Int.negSucc_eq]


theorem printJ_head (v : JVal) (tl : Str) : ∃ c r, printJ v ++ tl = c :: r ∧ c ≠ ' ' ∧ c ≠ ']' ∧ c ≠ '}' := by
  cases v with
  | null => exact ⟨'n', _, by rw [printJ, s_null]; rfl, by decide⟩
  | bool b =>
    cases b
    · exact ⟨'f', _, by rw [printJ, s_false]; rfl, by decide⟩
    · exact ⟨'t', _, by rw [printJ, s_true]; rfl, by decide⟩
  | int i =>
    cases i with
    | ofNat n =>
      obtain ⟨c, r, hd, hc⟩ := natDigits_head n
      refine ⟨c, r ++ tl, by simp [printJ, intStr, hd], (digit_ne c hc).2.2.2.2, ?_, ?_⟩ <;>
        (intro he; subst he; exact absurd hc (by decide))
    | negSucc n => exact ⟨'-', _, rfl, by decide⟩
  | str x => exact ⟨'"', _, rfl, by decide⟩
  | arr l => exact ⟨'[', _, rfl, by decide⟩
  | obj kv => exact ⟨'{', _, rfl, by decide⟩
  | dt y mo d h mi sec => exact ⟨'<', _, by rw [printJ, s_ofList]; rfl, by decide⟩

theorem printJList_head (v : JVal) (r : List JVal) (tl : Str) :
    skipWs (printJList (v :: r) ++ tl) = printJList (v :: r) ++ tl ∧ ∀ r', printJList (v :: r) ++ tl ≠ ']' :: r' := by
  obtain ⟨tl', htl⟩ : ∃ tl', printJList (v :: r) ++ tl = printJ v ++ tl' := by
    cases r <;> exact ⟨_, by simp only [printJList, List.append_assoc]; rfl⟩
  obtain ⟨c, q, hq, h1, h2, _⟩ := printJ_head v tl'
  rw [htl, hq]
  exact ⟨skipWs_cons c q h1, fun r' he => by cases he; exact h2 rfl⟩

theorem printJObj_head (m : Str × JVal) (r : List (Str × JVal)) (tl : Str) :
    skipWs (printJObj (m :: r) ++ tl) = printJObj (m :: r) ++ tl ∧ ∀ r', printJObj (m :: r) ++ tl ≠ '}' :: r' := by
  obtain ⟨q, hq⟩ : ∃ q, printJObj (m :: r) ++ tl = '"' :: q := by
    cases r <;> exact ⟨_, by simp only [printJObj, quoteJ, List.cons_append, List.append_assoc]; rfl⟩
  rw [hq]
  exact ⟨skipWs_cons '"' q (by decide), fun r' he => by cases he⟩

theorem need_pos (v : JVal) : 1 ≤ v.need := by
  cases v <;> exact Nat.succ_le_succ (Nat.zero_le _)

mutual
theorem readJV_print : ∀ (v : JVal) (fuel : Nat) (rest : Str), v.serializable = true → v.need ≤ fuel →
    NoDigitHead rest → readJV fuel (printJ v ++ rest) = some (v, rest)
  | v, 0, _, _, hf, _ => absurd (Nat.le_trans (need_pos v) hf) (Nat.not_succ_le_zero _)
  | .null, f + 1, rest, _, _, _ => by simp [printJ, s_null, readJV, skipWs, isDigit, startsWith]
  | .bool true, f + 1, rest, _, _, _ => by simp [printJ, s_null, s_true, readJV, skipWs, isDigit, startsWith]
  | .bool false, f + 1, rest, _, _, _ => by
    simp [printJ, s_null, s_true, s_false, readJV, skipWs, isDigit, startsWith]
  | .int i, f + 1, rest, _, _, hr => by simpa [printJ] using intStr_read i f rest hr
  | .str x, f + 1, rest, _, _, _ => by simp [printJ, quoteJ, readJV, skipWs, readJStr_esc]
  | .dt .., _ + 1, _, hs, _, _ => by simp [JVal.serializable] at hs
  | .arr [], f + 1, rest, _, _, _ => by simp [printJ, printJList, readJV, skipWs]
  | .arr (v :: r), f + 1, rest, hs, hf, _ => by
    have h := readJItems_print (v :: r) f rest (by simp) (by simpa [JVal.serializable] using hs)
      (Nat.le_of_succ_le_succ hf)
    -- `hsk2` is what lets `simp` take the second alternative of the reader's `match` on the text after `[`
    obtain ⟨hsk1, hsk2⟩ := printJList_head v r (']' :: rest)
    simp only [printJ, List.cons_append, List.append_assoc, List.nil_append, readJV, skipWs_cons '[' _ (by decide),
      Char.reduceEq, if_true, if_false, hsk1]
    simp [h]
  | .obj [], f + 1, rest, _, _, _ => by simp [printJ, printJObj, readJV, skipWs]
  | .obj (m :: r), f + 1, rest, hs, hf, _ => by
    have h := readJMembers_print (m :: r) f rest (by simp) (by simpa [JVal.serializable] using hs)
      (Nat.le_of_succ_le_succ hf)
    obtain ⟨hsk1, hsk2⟩ := printJObj_head m r ('}' :: rest)
    simp only [printJ, List.cons_append, List.append_assoc, List.nil_append, readJV, skipWs_cons '{' _ (by decide),
      Char.reduceEq, if_true, if_false, hsk1]
    simp [h]
theorem readJItems_print : ∀ (l : List JVal) (fuel : Nat) (rest : Str), l ≠ [] → serializableList l = true →
    needList l ≤ fuel → readJItems fuel (printJList l ++ ']' :: rest) = some (l, rest)
  | [], _, _, h, _, _ => absurd rfl h
  | _ :: _, 0, _, _, _, hf => absurd hf (Nat.not_succ_le_zero _)
  | [v], f + 1, rest, _, hs, hf => by
    have h := readJV_print v f (']' :: rest) (by simpa [serializableList] using hs)
      (Nat.max_le.mp (Nat.le_of_succ_le_succ hf)).1 (noDigit_cons _ _ (by decide))
    simp [printJList, readJItems, h, skipWs]
  | v :: w :: r, f + 1, rest, _, hs, hf => by
    obtain ⟨hn, hn'⟩ := Nat.max_le.mp (Nat.le_of_succ_le_succ hf)
    simp only [serializableList, Bool.and_eq_true] at hs
    have h := readJV_print v f (',' :: ' ' :: (printJList (w :: r) ++ ']' :: rest)) hs.1 hn
      (noDigit_cons _ _ (by decide))
    have h2 := readJItems_print (w :: r) f rest (by simp) (by simpa [serializableList] using hs.2) hn'
    simp only [printJList, s_comma, List.append_assoc, List.cons_append, List.nil_append]
    simp [readJItems, h, skipWs, readJItems_space, h2]
theorem readJMembers_print : ∀ (kv : List (Str × JVal)) (fuel : Nat) (rest : Str), kv ≠ [] → serializableObj kv = true →
    needObj kv ≤ fuel → readJMembers fuel (printJObj kv ++ '}' :: rest) = some (kv, rest)
  | [], _, _, h, _, _ => absurd rfl h
  | _ :: _, 0, _, _, _, hf => absurd hf (Nat.not_succ_le_zero _)
  | [(k, v)], f + 1, rest, _, hs, hf => by
    have h := readJV_print v f ('}' :: rest) (by simpa [serializableObj] using hs)
      (Nat.max_le.mp (Nat.le_of_succ_le_succ hf)).1 (noDigit_cons _ _ (by decide))
    simp only [printJObj, quoteJ, s_colon, List.append_assoc, List.cons_append, List.nil_append]
    simp [readJMembers, skipWs, readJStr_esc, readJV_space, h]
  | (k, v) :: m :: r, f + 1, rest, _, hs, hf => by
    obtain ⟨hn, hn'⟩ := Nat.max_le.mp (Nat.le_of_succ_le_succ hf)
    simp only [serializableObj, Bool.and_eq_true] at hs
    have h := readJV_print v f (',' :: ' ' :: (printJObj (m :: r) ++ '}' :: rest)) hs.1 hn
      (noDigit_cons _ _ (by decide))
    have h2 := readJMembers_print (m :: r) f rest (by simp) (by simpa [serializableObj] using hs.2) hn'
    simp only [printJObj, quoteJ, s_colon, s_comma, List.append_assoc, List.cons_append, List.nil_append]
    simp [readJMembers, skipWs, readJStr_esc, readJV_space, h, readJMembers_space, h2]
end

theorem len_datetime : (s "<datetime>").length = 10 := by rw [s_ofList]; rfl

mutual
theorem need_le : ∀ v : JVal, v.need ≤ (printJ v).length
  | .null => by simp [JVal.need, printJ, s_null]
  | .bool true => by simp [JVal.need, printJ, s_true]
  | .bool false => by simp [JVal.need, printJ, s_false]
  | .int i => by
    cases i with
    | ofNat n =>
      obtain ⟨c, r, h, _⟩ := natDigits_head n
      simp [JVal.need, printJ, intStr, h]
    | negSucc n => simp [JVal.need, printJ, intStr]
  | .str x => by simp [JVal.need, printJ, quoteJ]
  | .dt .. => by simp [JVal.need, printJ, len_datetime]
  | .arr l => by
    have := needList_le l
    simp [JVal.need, printJ]
    omega
  | .obj kv => by
    have := needObj_le kv
    simp [JVal.need, printJ]
    omega
theorem needList_le : ∀ l : List JVal, needList l ≤ (printJList l).length + 1
  | [] => by simp [needList]
  | [v] => by
    have := need_le v
    simp [needList, printJList]
    omega
  | v :: w :: r => by
    have h1 := need_le v
    have h2 := needList_le (w :: r)
    simp only [needList, printJList, List.length_append, s_comma, List.length_cons, List.length_nil] at h2 ⊢
    omega
theorem needObj_le : ∀ kv : List (Str × JVal), needObj kv ≤ (printJObj kv).length + 1
  | [] => by simp [needObj]
  | [(k, v)] => by
    have := need_le v
    simp [needObj, printJObj]
    omega
  | (k, v) :: m :: r => by
    have h1 := need_le v
    have h2 := needObj_le (m :: r)
    simp only [needObj, printJObj, List.length_append, s_comma, s_colon, List.length_cons, List.length_nil] at h2 ⊢
    omega
end

/-- **`json.loads(json.dumps(j)) == j`** for every structure without a `datetime` (strings: every code point) -/
theorem readJ_printJ (v : JVal) (hs : v.serializable = true) : readJ (printJ v) = some v := by
  unfold readJ
  have h := readJV_print v ((printJ v).length + 1) [] hs (by have := need_le v; omega) (by intro c r he; cases he)
  simp only [List.append_nil] at h
  rw [h]
  simp [skipWs]

end Pyrealb.Expr
