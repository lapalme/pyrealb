import Pyrealb.Model.Elision
/-! String lemmas about `sepWord` (the model of `sepWordREC`): rewriting the first word of a realization
    (`m[1] + new + m[3]`) leaves groups 1 and 3 unchanged and makes `new` the first word; the same for the
    first word of a token (`view`). -/
namespace Pyrealb.Elision
open Pyrealb

theorem skipLen_le (wd : Char → Bool) (x : Str) (st : Sk) : skipLen wd st x ≤ x.length := by
  fun_induction skipLen wd st x <;> simp only [List.length_cons, List.length_nil] <;> omega

theorem tag_has_gt (wd : Char → Bool) : ∀ (x : Str), x.drop (skipLen wd .tag x) ≠ [] →
    '>' ∈ x.take (skipLen wd .tag x)
  | [], h => absurd rfl h
  | c :: cs, h => by
    rw [skipLen] at h ⊢
    by_cases hc : (c == '>') = true
    · rw [if_pos hc, Nat.add_comm, List.take_succ_cons]
      rw [beq_iff_eq.mp hc]; exact List.mem_cons_self
    · rw [if_neg hc, Nat.add_comm] at h ⊢
      exact List.mem_cons_of_mem _ (tag_has_gt wd cs h)

theorem tagOK_prefix (a b y : Str) (h : tagOK (a ++ b) = true) (hg : '>' ∈ a) : tagOK (a ++ y) = true := by
  cases a with
  | nil => cases hg
  | cons d a' =>
    simp only [List.cons_append, tagOK, Bool.and_eq_true, bne_iff_ne, ne_eq, List.contains_iff_mem,
      List.mem_append] at h ⊢
    refine ⟨h.1, Or.inl ?_⟩
    cases List.mem_cons.mp hg with
    | inl e => exact absurd e.symm h.1
    | inr e => exact e

/-- the prefix consumed by the skip does not depend on what follows, as long as a word character follows -/
theorem skip_stable (wd : Char → Bool) (hlt : wd '<' = false) (x : Str) (st : Sk) (y : Str)
    (hx : ∃ c r, x.drop (skipLen wd st x) = c :: r ∧ wd c = true) (hy : ∃ c r, y = c :: r ∧ wd c = true) :
    skipLen wd st (x.take (skipLen wd st x) ++ y) = skipLen wd st x := by
  fun_induction skipLen wd st x with
  | case1 => obtain ⟨c, r, h, _⟩ := hx; cases h
  | case2 c cs hc ht ih =>
    rw [Nat.add_comm, List.drop_succ_cons] at hx
    rw [Nat.add_comm, List.take_succ_cons, List.cons_append, skipLen, if_pos hc, ih hx, Nat.add_comm, if_pos]
    -- the tag is still complete
    obtain ⟨c', r', h', _⟩ := hx
    refine tagOK_prefix _ (cs.drop (skipLen wd .tag cs)) y (by rw [List.take_append_drop]; exact ht)
      (tag_has_gt wd cs (by rw [h']; exact List.cons_ne_nil _ _))
  | case3 c cs hc ht =>
    obtain ⟨c', r', h', hw⟩ := hx
    cases h'
    rw [beq_iff_eq.mp hc, hlt] at hw; cases hw
  | case4 c cs hc hw =>
    obtain ⟨c', r', rfl, hw'⟩ := hy
    have hc' : ¬ (c' == '<') = true := by
      intro h; rw [beq_iff_eq.mp h, hlt] at hw'; cases hw'
    rw [List.take_zero, List.nil_append, skipLen, if_neg hc', if_pos hw']
  | case5 c cs hc hw ih =>
    rw [Nat.add_comm, List.drop_succ_cons] at hx
    rw [Nat.add_comm, List.take_succ_cons, List.cons_append, skipLen, if_neg hc, if_neg hw, ih hx, Nat.add_comm]
  | case6 => obtain ⟨c, r, h, _⟩ := hx; cases h
  | case7 c cs hc ih =>
    rw [Nat.add_comm, List.drop_succ_cons] at hx
    rw [Nat.add_comm, List.take_succ_cons, List.cons_append, skipLen, if_pos hc, ih hx, Nat.add_comm]
  | case8 c cs hc ih =>
    rw [Nat.add_comm, List.drop_succ_cons] at hx
    rw [Nat.add_comm, List.take_succ_cons, List.cons_append, skipLen, if_neg hc, ih hx, Nat.add_comm]

theorem takeWhile_append_stop {α} (p : α → Bool) (a b : List α) (ha : ∀ c ∈ a, p c = true)
    (hb : ∀ c t, b = c :: t → p c = false) : (a ++ b).takeWhile p = a ∧ (a ++ b).dropWhile p = b := by
  rw [List.takeWhile_append_of_pos ha, List.dropWhile_append_of_pos ha]
  cases b with
  | nil => simp
  | cons c t => simp [hb c t rfl]

theorem head_takeWhile {α} (q : α → Bool) (l : List α) (c : α) (t : List α) (h : l.takeWhile q = c :: t) :
    ∃ t', l = c :: t' := by
  obtain ⟨s, hs⟩ := List.takeWhile_prefix q (l := l)
  rw [h] at hs; exact ⟨t ++ s, hs.symm⟩

theorem mem_takeWhile_pos {α} (p : α → Bool) (l : List α) (c : α) (h : c ∈ l.takeWhile p) : p c = true :=
  List.all_eq_true.mp List.all_takeWhile c h

theorem takeWhile_all {α} (p : α → Bool) (l : List α) (h : ∀ c ∈ l, p c = true) : l.takeWhile p = l := by
  have := List.takeWhile_append_of_pos (l₂ := []) h
  simpa using this

theorem takeWhile_idem {α} (p : α → Bool) (l : List α) : (l.takeWhile p).takeWhile p = l.takeWhile p :=
  takeWhile_all p _ (mem_takeWhile_pos p l)

theorem isWd_lt (ℓ : Lang) : isWd ℓ '<' = false := by cases ℓ <;> decide

theorem sepWord_some (ℓ : Lang) (x p w r : Str) (h : sepWord ℓ x = ⟨p, some w, r⟩) :
    p = x.take (skipLen (isWd ℓ) .out x) ∧ (x.drop (skipLen (isWd ℓ) .out x)).takeWhile (isWd ℓ) = w ∧
    r = ((x.drop (skipLen (isWd ℓ) .out x)).dropWhile (isWd ℓ)).takeWhile (· != '\n') ∧
    ∃ c t, x.drop (skipLen (isWd ℓ) .out x) = c :: t ∧ isWd ℓ c = true := by
  simp only [sepWord, Sep.mk.injEq] at h
  obtain ⟨hp, hw, hr⟩ := h
  split at hw
  · cases hw
  · cases hw
    refine ⟨hp.symm, rfl, hr.symm, ?_⟩
    cases hd : (x.drop (skipLen (isWd ℓ) .out x)).takeWhile (isWd ℓ) with
    | nil => rename_i hne; rw [hd] at hne; exact absurd rfl hne
    | cons c t =>
      obtain ⟨t', ht'⟩ := head_takeWhile _ _ c t hd
      exact ⟨c, t', ht', mem_takeWhile_pos _ _ c (by rw [hd]; exact List.mem_cons_self)⟩

theorem sepWord_word_spec (ℓ : Lang) (x p w r : Str) (h : sepWord ℓ x = ⟨p, some w, r⟩) :
    w ≠ [] ∧ (∀ c ∈ w, isWd ℓ c = true) ∧ (∀ c t, r = c :: t → isWd ℓ c = false) ∧
    (∀ c ∈ r, c ≠ '\n') := by
  obtain ⟨_, hw, hr, c, t, hx, hc⟩ := sepWord_some ℓ x p w r h
  refine ⟨?_, ?_, ?_, ?_⟩
  · rw [← hw, hx, List.takeWhile_cons_of_pos hc]; exact List.cons_ne_nil _ _
  · intro c hc; rw [← hw] at hc; exact mem_takeWhile_pos _ _ c hc
  · intro c t hrt
    rw [hr] at hrt
    obtain ⟨t', ht'⟩ := head_takeWhile _ _ c t hrt
    have := List.head?_dropWhile_not (isWd ℓ) (x.drop (skipLen (isWd ℓ) .out x))
    rw [ht'] at this; exact this
  · intro c hc; rw [hr] at hc
    simpa using mem_takeWhile_pos _ _ c hc

/-- `sepWordREC.match(m[1] + new + m[3])` has groups `m[1]`, `new`, `m[3]` -/
theorem sepWord_rebuild (ℓ : Lang) (x p w r w' : Str) (h : sepWord ℓ x = ⟨p, some w, r⟩)
    (hne : w' ≠ []) (hall : ∀ c ∈ w', isWd ℓ c = true) :
    sepWord ℓ (p ++ w' ++ r) = ⟨p, some w', r⟩ := by
  obtain ⟨_, _, hrhead, hrnl⟩ := sepWord_word_spec ℓ x p w r h
  obtain ⟨hp, _, _, hx⟩ := sepWord_some ℓ x p w r h
  have hy : ∃ c t, w' ++ r = c :: t ∧ isWd ℓ c = true := by
    cases hc : w' with
    | nil => exact absurd hc hne
    | cons c t => exact ⟨c, t ++ r, rfl, hall c (by rw [hc]; exact List.mem_cons_self)⟩
  have hk := skip_stable (isWd ℓ) (isWd_lt ℓ) x .out (w' ++ r) hx hy
  rw [← hp] at hk
  have hlen : p.length = skipLen (isWd ℓ) .out x := by
    rw [hp, List.length_take]; exact Nat.min_eq_left (skipLen_le _ _ _)
  have tw := takeWhile_append_stop (isWd ℓ) w' r hall hrhead
  have hrr : r.takeWhile (fun c => c != '\n') = r := by
    apply takeWhile_all
    intro c hc; simpa using hrnl c hc
  simp only [sepWord, List.append_assoc, hk, Sep.mk.injEq]
  rw [← hlen]
  simp only [List.take_left', List.drop_left', tw.1, tw.2, hrr, and_true, true_and]
  simp [hne]

@[simp] theorem setReal_ct (t : Tok) (x : Str) : (t.setReal x).ct = t.ct := rfl
@[simp] theorem setReal_lier (t : Tok) (x : Str) : (t.setReal x).lier = t.lier := rfl
@[simp] theorem setReal_sg (t : Tok) (x : Str) : (t.setReal x).sg = t.sg := rfl
@[simp] theorem setReal_hW (t : Tok) (x : Str) : (t.setReal x).hW = t.hW := rfl
@[simp] theorem setReal_hR (t : Tok) (x : Str) : (t.setReal x).hR = t.hR := rfl
@[simp] theorem setReal_real (t : Tok) (x : Str) : (t.setReal x).real = some x := rfl
@[simp] theorem setReal_fr (t : Tok) (x : Str) : (t.setReal x).fr = t.fr := rfl

theorem view_spec (ℓ : Lang) (t : Tok) (v : View) (h : view ℓ t = some v) :
    ∃ x, t.real = some x ∧ sepWord ℓ x = ⟨v.pre, some v.w, v.rest⟩ := by
  unfold view at h
  cases hr : t.real with
  | none => rw [hr] at h; cases h
  | some x =>
    simp only [hr] at h
    refine ⟨x, rfl, ?_⟩
    cases hs : sepWord ℓ x with
    | mk p w0 r =>
      rw [hs] at h
      cases w0 with
      | none => cases h
      | some w => cases h; rfl

theorem view_wd (ℓ : Lang) (t : Tok) (v : View) (h : view ℓ t = some v) :
    v.w ≠ [] ∧ ∀ c ∈ v.w, isWd ℓ c = true := by
  obtain ⟨x, _, hs⟩ := view_spec ℓ t v h
  have := sepWord_word_spec ℓ x _ _ _ hs
  exact ⟨this.1, this.2.1⟩

theorem view_setReal (ℓ : Lang) (t : Tok) (v : View) (h : view ℓ t = some v) (w' : Str)
    (hne : w' ≠ []) (hall : ∀ c ∈ w', isWd ℓ c = true) :
    view ℓ (t.setReal (v.rebuild w')) = some ⟨v.pre, w', v.rest⟩ := by
  obtain ⟨x, _, hs⟩ := view_spec ℓ t v h
  have := sepWord_rebuild ℓ x _ _ _ w' hs hne hall
  simp only [view, View.rebuild, setReal_real, this]

end Pyrealb.Elision
