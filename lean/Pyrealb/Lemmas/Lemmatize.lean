import Pyrealb.Model.LemmatizeWF
import Pyrealb.Props.C01
/-! C18, conjugation.  Every pair the expansion lists is `stem ++ c` for a cell `c` of the verb's table, with an
    expression whose options read back as the cell's coordinates (`expand_mem`; conversely `expand_complete`); on a
    cell the realizers answer `stem ++ c` (`en_cell`, `fr_cell`, from the C01 theorems). -/
namespace Pyrealb.Lemmatize
open Pyrealb Pyrealb.Conj

theorem strip_noLead {x : Str} (h : noLeadSpace x = true) : stripLeadingSpace x = x := by
  cases x with
  | nil => rfl
  | cons c r =>
    simp only [noLeadSpace, List.head?_cons, bne_iff_ne, ne_eq, Option.some.injEq] at h
    unfold stripLeadingSpace
    split
    · rename_i r' heq
      cases heq
      exact absurd rfl h
    · rfl

theorem noLead_stem_append {lemma x : Str} (k : Nat) (h1 : noLeadSpace lemma = true) (h2 : noLeadSpace x = true) :
    noLeadSpace (dropRight lemma k ++ x) = true := by
  unfold dropRight
  cases lemma with
  | nil => simpa using h2
  | cons c r =>
    cases hm : (c :: r).length - k with
    | zero => simpa using h2
    | succ m =>
      simp only [List.take_succ_cons, List.cons_append, noLeadSpace, List.head?_cons] at h1 ⊢
      exact h1

theorem surfaceEn_single (x : Str) (h : noLeadSpace x = true) :
    surfaceEn (ConjEn.EnOut.toks { pre := [], self := x, warns := 0 }) = x := by
  simp [surfaceEn, ConjEn.EnOut.toks, removeEmpty, detok, strip_noLead h]

theorem surfaceFr_single (a : Tok) (h : noLeadSpace a.real = true) : surfaceFr [a] = .ok a.real := by
  simp [surfaceFr, removeEmpty, detok, strip_noLead h, pure, Except.pure, bind, Except.bind]

theorem cell_noLead {tb : Table} {t : Tense} {i : Nat} {c : Str} (h : cellsNoLeadSpace tb = true)
    (hc : C01.cell tb t i = some c) : noLeadSpace c = true := by
  unfold C01.cell at hc
  unfold cellsNoLeadSpace at h
  rw [List.all_eq_true] at h
  cases hrow : tb.row? t.code with
  | none => simp [hrow] at hc
  | some row =>
    have hok := h _ (lookup_mem (show lookup t.code tb.rows = some row from hrow))
    rw [hrow] at hc
    cases row with
    | null => cases hc
    | str x => cases hc; exact hok
    | list l =>
      simp only [Conj.Row.cellsOK, List.all_eq_true] at hok
      cases hl : l[i]? with
      | none => simp [hl] at hc
      | some o =>
        simp only [hl, Option.join_some] at hc
        subst hc
        exact hok _ (List.mem_of_getElem? hl)

structure VerbOK (wf : Table → Bool) (rules : Rules) (v : Verb) (tb : Table) : Prop where
  tab : lookup v.tab rules = some tb
  wf : wf tb = true
  ending : endsWith v.lemma tb.ending = true
  nosp : noLeadSpace v.lemma = true

theorem wfConjEn_elim {tb : Table} (h : wfConjEn tb = true) :
    wfTableEn tb = true ∧ cellsNoLeadSpace tb = true ∧ (tb.rows.map (·.1)).Nodup := by
  unfold wfConjEn keysNodup at h
  simp only [Bool.and_eq_true, decide_eq_true_eq] at h
  exact ⟨h.1.1, h.1.2, h.2⟩

theorem wfConjFr_elim {tb : Table} (h : wfConjFr tb = true) :
    wfTableFr tb = true ∧ cellsNoLeadSpace tb = true ∧ (tb.rows.map (·.1)).Nodup ∧ ipOK tb = true := by
  unfold wfConjFr keysNodup at h
  simp only [Bool.and_eq_true, decide_eq_true_eq] at h
  exact ⟨h.1.1.1, h.1.1.2, h.1.2, h.2⟩

theorem en_cell {rules : Rules} {env : ConjEn.EnEnv} {v : Verb} {tb : Table} (h : VerbOK wfConjEn rules v tb)
    {tt : Tense} (ht : tt = .p ∨ tt = .ps ∨ tt = .pr ∨ tt = .pp ∨ tt = .b) (pe : Person) (n : Num) {c : Str}
    (hc : C01.cell tb tt (idx6 pe n) = some c) :
    ConjEn.realize rules env v.lemma (some v) pe n tt = .ok ⟨dropRight v.lemma tb.ending.length ++ c, 0⟩ := by
  obtain ⟨hwf, hsp, _⟩ := wfConjEn_elim h.wf
  unfold ConjEn.realize ConjEn.conjugate
  rw [C01.conjugateWith_cell _ rules env v tb pe n tt h.tab hwf h.ending ht]
  simp only [C01.form, hc, C01.stemOf]
  rw [surfaceEn_single _ (noLead_stem_append _ h.nosp (cell_noLead hsp hc))]

def meTok (v : Verb) (form : Str) (lier : Bool := false) : Tok :=
  { real := form, isV := true, hAsp := v.hAsp, lier := lier }

/-- the tokens `conjugate` returns for a simple tense whose cell exists -/
def cellToks (env : ConjFr.FrEnv) (v : Verb) (o : VOpts) (form : Str) : List Tok :=
  if v.pat = some ConjFr.reflPat then
    match o.t with
    | .pp => [meTok v form]
    | .ip => [meTok v form true, { real := env.tonicPro o.pe o.n o.g, isPro := true }]
    | _ => [{ real := env.reflPro o.pe o.n o.g, isPro := true }, meTok v form]
  else [meTok v form]

/-- the occurrence of the verb itself in the specification of C01 -/
def occOf (v : Verb) (tb : Table) : C01.OccFr :=
  { lemma := v.lemma, tb := tb, refl := decide (v.pat = some ConjFr.reflPat),
    invariable := decide (v.pat = some ConjFr.intrPat ∧ v.aux.getD (s "av") = s "av"), hAsp := v.hAsp }

theorem fr_simple {rules : Rules} {env : ConjFr.FrEnv} {v : Verb} {tb : Table} (h : VerbOK wfConjFr rules v tb)
    (pe : Person) (n : Num) (g : Gender) {t : Tense} (ht : ConjFr.tempsAux t = none) :
    ConjFr.conjugate rules env v.lemma (some v) none pe n g t = .ok (C01.specSimple env (occOf v tb) pe n g t) := by
  unfold ConjFr.conjugate
  rw [C01.mkVerb_wf none h.tab h.ending]
  simp only [ht]
  exact C01.conjugateSimple_spec rules env _ (occOf v tb) v.tab pe n g t rfl h.tab (wfConjFr_elim h.wf).1 rfl rfl rfl
    rfl rfl (fun _ => rfl)

theorem ip_person {tb : Table} (R : FrRows tb) (hip : ipOK tb = true) {pe : Person} {n : Num} {c : Str}
    (hc : C01.cell tb .ip (idx6 pe n) = some c) : (pe = .p2 ∧ n = .s) ∨ (pe = .p1 ∧ n = .p) ∨ (pe = .p2 ∧ n = .p) := by
  obtain ⟨a1, a2, a3, a4, a5, a6, hrow⟩ := R.fin .ip (by simp)
  rw [C01.cell6 hrow] at hc
  have hrow' : tb.row? "ip".toList = some (.list [a1, a2, a3, a4, a5, a6]) := hrow
  simp only [ipOK, hrow', List.getElem?_cons_zero, List.getElem?_cons_succ, Bool.and_eq_true, beq_iff_eq,
    Option.some.injEq] at hip
  obtain ⟨⟨rfl, rfl⟩, rfl⟩ := hip
  cases pe <;> cases n <;> simp [pick6] at hc ⊢

/-- French, simple tenses: on a cell that exists and that the realizer does not refuse (participle of an
    intransitive verb conjugated with avoir), `conjugate` returns the verb's form with its pronoun -/
theorem fr_cell {rules : Rules} {env : ConjFr.FrEnv} {v : Verb} {tb : Table} (h : VerbOK wfConjFr rules v tb)
    (o : VOpts) (hk : C01.kindFr o.t = .finite ∨ C01.kindFr o.t = .imper ∨ C01.kindFr o.t = .part ∨ C01.kindFr o.t = .nonfin)
    {c : Str} (hc : C01.cell tb o.t (C01.cellIdx o.t o.pe o.n o.g) = some c)
    (hveto : o.t = .pp → ¬ (ConjFr.idx4 o.n o.g ≠ 0 ∧ v.pat = some ConjFr.intrPat ∧ v.aux.getD (s "av") = s "av")) :
    ConjFr.conjugate rules env v.lemma (some v) none o.pe o.n o.g o.t =
      .ok ⟨cellToks env v o (dropRight v.lemma tb.ending.length ++ c), 0⟩ := by
  obtain ⟨hwf, _, _, hip⟩ := wfConjFr_elim h.wf
  obtain ⟨t, pe, n, g⟩ := o
  have hper : t = .ip → (pe = .p2 ∧ n = .s) ∨ (pe = .p1 ∧ n = .p) ∨ (pe = .p2 ∧ n = .p) := by
    rintro rfl; exact ip_person (wfTableFr_elim hwf) hip hc
  have hri : ConjFr.reflPat ≠ ConjFr.intrPat := by decide
  rw [fr_simple h pe n g (by cases t <;> simp [C01.kindFr] at hk <;> rfl)]
  by_cases hr : v.pat = some ConjFr.reflPat <;>
    cases t <;> simp [C01.kindFr] at hk <;> simp [C01.cellIdx] at hc <;>
      simp [C01.specSimple, C01.kindFr, occOf, hc, hr, hri, hper, hveto, cellToks, meTok, C01.stemOf]

theorem tenseRows_ok {lang : Decl.Lang} {lemma radical : Str} {frV : Option Verb} :
    ∀ {rows : List (Str × Row)} {l : List Pair}, tenseRows lang lemma radical frV rows = .ok l →
    (∀ p ∈ l, ∃ kr ∈ rows, ∃ a, tenseRow lang lemma radical frV kr.1 kr.2 = .ok a ∧ p ∈ a) ∧
    (∀ kr ∈ rows, ∃ a, tenseRow lang lemma radical frV kr.1 kr.2 = .ok a ∧ ∀ p ∈ a, p ∈ l)
  | [], l, h => by
    cases h
    exact ⟨fun _ hp => (nomatch hp), fun _ hm => (nomatch hm)⟩
  | (t, row) :: rest, l, h => by
    unfold tenseRows at h
    split at h
    · cases h
    · rename_i a ha
      split at h
      · cases h
      · rename_i b hb
        cases h
        obtain ⟨ih1, ih2⟩ := tenseRows_ok hb
        refine ⟨fun p hp => ?_, fun kr hm => ?_⟩
        · rcases List.mem_append.mp hp with hp | hp
          · exact ⟨_, List.mem_cons_self, a, ha, hp⟩
          · obtain ⟨kr, hm, a', ha', hp'⟩ := ih1 p hp
            exact ⟨kr, List.mem_cons_of_mem _ hm, a', ha', hp'⟩
        · rcases List.mem_cons.mp hm with rfl | hm
          · exact ⟨a, ha, fun p hp => List.mem_append_left _ hp⟩
          · obtain ⟨a', ha', hsub⟩ := ih2 kr hm
            exact ⟨a', ha', fun p hp => List.mem_append_right _ (hsub p hp)⟩

theorem idx6_personOf {i : Nat} (h : i < 6) : idx6 (personOf i) (if i ≥ 3 then .p else .s) = i := by
  have : i = 0 ∨ i = 1 ∨ i = 2 ∨ i = 3 ∨ i = 4 ∨ i = 5 := by omega
  rcases this with rfl | rfl | rfl | rfl | rfl | rfl <;> rfl

theorem vOpts_strExp {t : Str} {tt : Tense} (ht : Tense.ofCode? t = some tt) (lemma : Str) :
    vOpts {} (if t ≠ "p".toList then (expInit "V".toList lemma).opt "t" (.str t) else expInit "V".toList lemma).opts
      = some { t := tt } := by
  have e1 : "p".toList = ['p'] := rfl
  rw [e1]
  by_cases hpt : t = ['p']
  · subst hpt; cases ht; rfl
  · simp [hpt, expInit, Exp.opt, vOpts, vOpt, ht]

theorem vOpts_finite {lemma t : Str} {tt : Tense} (ht : Tense.ofCode? t = some tt) {i : Nat} (h : i < 6) :
    vOpts {} (finiteExp lemma t i).opts = some { t := tt, pe := personOf i, n := if i ≥ 3 then .p else .s } := by
  have : i = 0 ∨ i = 1 ∨ i = 2 ∨ i = 3 ∨ i = 4 ∨ i = 5 := by omega
  by_cases hpt : t = ['p']
  · subst hpt
    cases ht
    rcases this with rfl | rfl | rfl | rfl | rfl | rfl <;> rfl
  · rcases this with rfl | rfl | rfl | rfl | rfl | rfl <;>
      simp [finiteExp, expInit, Exp.opt, hpt, vOpts, vOpt, ht, personOf, ovStr]

theorem finiteExp_head (lemma t : Str) (i : Nat) :
    (finiteExp lemma t i).pos = "V".toList ∧ (finiteExp lemma t i).lemma = lemma := by
  by_cases h1 : t = ['p'] <;> by_cases h2 : i % 3 + 1 ≠ 3 <;> by_cases h3 : i ≥ 3 <;>
    simp [finiteExp, h1, h2, h3, expInit, Exp.opt]

theorem ppGrid_idx {idx : Nat} {fem plu : Bool} (h : (idx, fem, plu) ∈ ppGrid) :
    ConjFr.idx4 (if plu then Num.p else Num.s) (if fem then Gender.f else Gender.m) = idx := by
  simp only [ppGrid, List.mem_cons, Prod.mk.injEq, List.not_mem_nil, or_false] at h
  rcases h with ⟨rfl, rfl, rfl⟩ | ⟨rfl, rfl, rfl⟩ | ⟨rfl, rfl, rfl⟩ | ⟨rfl, rfl, rfl⟩ <;> rfl

/-- every pair listed for row `tt` of table `tb` is `radical ++ c` for a cell `c` of the row, with an expression of
    the verb whose options read back as the coordinates of the cell (person and number; number and gender in a row
    of four cells); for an intransitive verb conjugated with avoir only the first participle cell is listed -/
theorem tenseRow_mem {lang : Decl.Lang} {lemma radical t : Str} {frV : Option Verb} {tb : Table} {tt : Tense}
    {row : Row} {a : List Pair} (hrow : tb.row? tt.code = some row) (hoc : Tense.ofCode? t = some tt)
    (hstr : ∀ x, row = .str x → ¬ (t = "pp".toList ∧ lang = .fr)) (h4 : ∀ l, row = .list l → l.length = 4 → tt = .pp)
    (ha : tenseRow lang lemma radical frV t row = .ok a) {p : Pair} (hp : p ∈ a) :
    p.2.pos = "V".toList ∧ p.2.lemma = lemma ∧ ∃ c o, p.1 = radical ++ c ∧ vOpts {} p.2.opts = some o ∧ o.t = tt ∧
      (((∀ l, row = .list l → l.length = 6) ∧ C01.cell tb tt (idx6 o.pe o.n) = some c) ∨
        ((∃ l, row = .list l ∧ l.length = 4) ∧ C01.cell tb tt (ConjFr.idx4 o.n o.g) = some c ∧
          ∀ v, frV = some v → v.pat = some ["intr".toList] → v.aux.getD "av".toList = "av".toList →
            ConjFr.idx4 o.n o.g = 0)) := by
  unfold C01.cell
  rw [hrow]
  cases row with
  | null => cases ha; cases hp
  | str x =>
    have hne : ¬ (t = "pp".toList ∧ lang = .fr ∧ radical ++ x ≠ "été".toList) := fun hh => hstr x rfl ⟨hh.1, hh.2.1⟩
    simp only [tenseRow, strBranch, hne, if_false, Except.ok.injEq] at ha
    subst ha
    cases List.mem_singleton.mp hp
    exact ⟨by dsimp only; split <;> rfl, by dsimp only; split <;> rfl, x, { t := tt }, rfl, vOpts_strExp hoc _, rfl,
      Or.inl ⟨fun _ hl => (nomatch hl), rfl⟩⟩
  | list l =>
    unfold tenseRow at ha
    by_cases h6 : l.length = 6
    · simp only [h6, if_true, Except.ok.injEq] at ha
      subst ha
      obtain ⟨i, hi, hf⟩ := List.mem_filterMap.mp hp
      have hi' := List.mem_range.mp hi
      rcases hc : l[i]? with _ | _ | c <;> simp only [hc, Option.some.injEq, reduceCtorEq] at hf
      subst hf
      refine ⟨(finiteExp_head _ _ _).1, (finiteExp_head _ _ _).2, c, _, rfl, vOpts_finite hoc hi', rfl,
        Or.inl ⟨fun _ hl => by cases hl; exact h6, ?_⟩⟩
      simp only [idx6_personOf hi', hc, Option.join_some]
    · by_cases h4l : l.length = 4
      · cases h4 l rfl h4l
        simp only [h4l, Nat.reduceEqDiff, ↓reduceIte, fourBranch] at ha
        cases frV with
        | none => cases ha
        | some v =>
          simp only [] at ha
          by_cases hintr : v.pat = some ["intr".toList] ∧ v.aux.getD "av".toList = "av".toList
          · simp only [hintr, and_self, if_true] at ha
            rcases hc0 : l[0]? with _ | _ | c <;> simp only [hc0, Except.ok.injEq, reduceCtorEq] at ha
            subst ha
            cases List.mem_singleton.mp hp
            exact ⟨rfl, rfl, c, { t := .pp }, rfl, rfl, rfl, Or.inr ⟨⟨l, rfl, h4l⟩, by simp [ConjFr.idx4, hc0],
              fun _ _ _ _ => rfl⟩⟩
          · simp only [hintr, if_false, Except.ok.injEq] at ha
            subst ha
            obtain ⟨⟨idx, fem, plu⟩, hg, hf⟩ := List.mem_filterMap.mp hp
            rcases hci : l[idx]? with _ | _ | c <;> simp only [hci, Option.some.injEq, reduceCtorEq] at hf
            subst hf
            refine ⟨by cases fem <;> cases plu <;> rfl, by cases fem <;> cases plu <;> rfl, c,
              { t := .pp, g := if fem then .f else .m, n := if plu then .p else .s }, rfl,
              by cases fem <;> cases plu <;> rfl, rfl, Or.inr ⟨⟨l, rfl, h4l⟩, ?_, ?_⟩⟩
            · simp only [ppGrid_idx hg, hci, Option.join_some]
            · rintro v' hv' h1 h2
              cases hv'
              exact absurd ⟨h1, h2⟩ hintr
      · simp only [h6, h4l, if_false, Except.ok.injEq] at ha
        subst ha
        cases hp

theorem wfTableEn_rows {tb : Table} (h : wfTableEn tb = true) {kr : Str × Row} (hm : kr ∈ tb.rows) :
    ∃ tt, Tense.ofCode? kr.1 = some tt ∧ ∀ l, kr.2 = .list l → l.length = 6 := by
  simp only [wfTableEn, Bool.and_eq_true, List.all_eq_true] at h
  have hr := h.2 kr hm
  cases hoc : Tense.ofCode? kr.1 with
  | none => simp [wfRowEn, hoc] at hr
  | some tt =>
    rw [← ofCode_some hoc] at hr
    refine ⟨tt, rfl, fun l hl => ?_⟩
    rcases wfRowEn_elim hr with ⟨_, x, hx⟩ | ⟨_, ⟨x, hx⟩ | ⟨a1, a2, a3, a4, a5, a6, hx⟩⟩ <;> rw [hx] at hl <;> cases hl
    rfl

theorem wfTableFr_rows {tb : Table} (h : wfTableFr tb = true) {kr : Str × Row} (hm : kr ∈ tb.rows) :
    ∃ tt, Tense.ofCode? kr.1 = some tt ∧ ∀ l, kr.2 = .list l → l.length = 6 ∨ l.length = 4 := by
  simp only [wfTableFr, Bool.and_eq_true, List.all_eq_true] at h
  have hr := h.1.2 kr hm
  cases hoc : Tense.ofCode? kr.1 with
  | none => simp [wfRowFr, hoc] at hr
  | some tt =>
    rw [← ofCode_some hoc] at hr
    refine ⟨tt, rfl, fun l hl => ?_⟩
    rcases wfRowFr_elim hr with ⟨_, l', hx, h6⟩ | ⟨_, l', hx, h4⟩ | ⟨_, ⟨x, hx⟩ | hx⟩ | ⟨_, x, hx⟩ <;> rw [hx] at hl <;>
      cases hl
    · exact Or.inl h6
    · exact Or.inr h4

theorem expand_mem {lang : Decl.Lang} {wf : Table → Bool} {rules : Rules} {v : Verb} {tb : Table}
    {frV : Option Verb} {l : List Pair} (h : VerbOK wf rules v tb) (hT : tb.hasT = true)
    (hnd : (tb.rows.map (·.1)).Nodup) (hcode : ∀ kr ∈ tb.rows, ∃ tt, Tense.ofCode? kr.1 = some tt)
    (hshape : ∀ (tt : Tense) (row : Row), tb.row? tt.code = some row →
      (∀ l, row = .list l → l.length = 4 → tt = .pp) ∧ (∀ x, row = .str x → ¬ (tt = .pp ∧ lang = .fr)))
    (hl : expandConjugation lang rules v.lemma v.tab frV = .ok l) {p : Pair} (hp : p ∈ l) :
    p.2.pos = "V".toList ∧ p.2.lemma = v.lemma ∧ ∃ row c o, tb.row? o.t.code = some row ∧
      p.1 = dropRight v.lemma tb.ending.length ++ c ∧ vOpts {} p.2.opts = some o ∧
      (((∀ l, row = .list l → l.length = 6) ∧ C01.cell tb o.t (idx6 o.pe o.n) = some c) ∨
        ((∃ l, row = .list l ∧ l.length = 4) ∧ C01.cell tb o.t (ConjFr.idx4 o.n o.g) = some c ∧
          ∀ v', frV = some v' → v'.pat = some ["intr".toList] → v'.aux.getD "av".toList = "av".toList →
            ConjFr.idx4 o.n o.g = 0)) := by
  unfold expandConjugation at hl
  simp only [h.tab, h.ending, hT, if_true] at hl
  obtain ⟨kr, hm, a, ha, hpa⟩ := (tenseRows_ok hl).1 p hp
  obtain ⟨tt, hoc⟩ := hcode kr hm
  have hrow : tb.row? tt.code = some kr.2 := by rw [ofCode_some hoc]; exact lookup_of_mem_nodup hm hnd
  obtain ⟨h4, hs⟩ := hshape tt kr.2 hrow
  have hstr : ∀ x, kr.2 = .str x → ¬ (kr.1 = "pp".toList ∧ lang = .fr) := by
    rintro x hx ⟨ht, hfr⟩
    rw [ht] at hoc
    cases hoc
    exact hs x hx ⟨rfl, hfr⟩
  obtain ⟨hpos, hlem, c, o, hp1, hvo, rfl, hc⟩ := tenseRow_mem hrow hoc hstr h4 ha hpa
  exact ⟨hpos, hlem, kr.2, c, o, hrow, hp1, hvo, hc⟩

theorem expandConj_en {env : Env} {v : Verb} {tb : Table} {frV : Option Verb} {l : List Pair} (lex : Decl.Lex)
    (hlang : env.lang = .en) (h : VerbOK wfConjEn env.conj v tb)
    (hl : expandConjugation .en env.conj v.lemma v.tab frV = .ok l) :
    ∀ p ∈ l, realizeExp env lex (some v) p.2 = .ok (p.1, 0) := by
  intro p hp
  obtain ⟨hwf, _, hnd⟩ := wfConjEn_elim h.wf
  have R := wfTableEn_elim hwf
  have hlist : ∀ (tt : Tense) (row : Row), tb.row? tt.code = some row → ∀ l, row = .list l → l.length = 6 := by
    intro tt row hrow l hl
    rcases R.row tt row hrow with ⟨_, x, hx⟩ | ⟨_, ⟨x, hx⟩ | ⟨a1, a2, a3, a4, a5, a6, hx⟩⟩ <;> rw [hx] at hl <;> cases hl
    rfl
  obtain ⟨hpos, hlem, row, c, o, hrow, hp1, hvo, hc⟩ := expand_mem (lang := .en) h R.hasT hnd
    (fun kr hm => (wfTableEn_rows hwf hm).imp fun _ h => h.1)
    (fun tt row hrow => ⟨fun l hl h4 => by have := hlist tt row hrow l hl; omega, fun _ _ hh => Decl.Lang.noConfusion hh.2⟩) hl hp
  have hc : C01.cell tb o.t (idx6 o.pe o.n) = some c :=
    hc.elim (·.2) fun ⟨⟨l, hl, h4⟩, _⟩ => by have := hlist _ row hrow l hl; omega
  have htt : o.t = .p ∨ o.t = .ps ∨ o.t = .pr ∨ o.t = .pp ∨ o.t = .b := by
    rcases R.row _ row hrow with ⟨h1 | h1 | h1, _⟩ | ⟨h1 | h1, _⟩ <;> simp [h1]
  unfold realizeExp
  simp only [hpos, if_true]
  unfold realizeV
  rw [hlem, hvo]
  simp only [hlang]
  rw [en_cell h htt o.pe o.n hc, hp1]

theorem frRow_shape {tb : Table} (R : FrRows tb) {tt : Tense} {row : Row} (hrow : tb.row? tt.code = some row) :
    (C01.kindFr tt = .finite ∨ C01.kindFr tt = .imper ∨ C01.kindFr tt = .part ∨ C01.kindFr tt = .nonfin) ∧
      (∀ l, row = .list l → l.length = if tt = .pp then 4 else 6) ∧ (∀ x, row = .str x → tt ≠ .pp) := by
  rcases R.row tt row hrow with ⟨hm, l, rfl, hl⟩ | ⟨rfl, l, rfl, hl⟩ | ⟨rfl, ⟨x, rfl⟩ | rfl⟩ | ⟨rfl, x, rfl⟩
  · have hne : tt ≠ .pp := by rintro rfl; simp at hm
    refine ⟨by cases tt <;> simp at hm <;> simp [C01.kindFr], fun l' hl' => ?_, fun _ hx => (nomatch hx)⟩
    cases hl'
    rw [if_neg hne, hl]
  · exact ⟨by simp [C01.kindFr], fun l' hl' => by cases hl'; rw [if_pos rfl, hl], fun _ hx => (nomatch hx)⟩
  · exact ⟨by simp [C01.kindFr], fun _ hl' => (nomatch hl'), fun _ _ => by decide⟩
  · exact ⟨by simp [C01.kindFr], fun _ hl' => (nomatch hl'), fun _ hx => (nomatch hx)⟩
  · exact ⟨by simp [C01.kindFr], fun _ hl' => (nomatch hl'), fun _ _ => by decide⟩

/-- **French**: every pair of the expansion, at the level of the token list returned by `conjugate` -/
theorem expandConj_fr_toks {env : Env} {v : Verb} {tb : Table} {l : List Pair}
    (h : VerbOK wfConjFr env.conj v tb)
    (hl : expandConjugation .fr env.conj v.lemma v.tab (some v) = .ok l) :
    ∀ p ∈ l, noLeadSpace p.1 = true ∧ p.2.pos = "V".toList ∧ p.2.lemma = v.lemma ∧
      ∃ o : VOpts, vOpts {} p.2.opts = some o ∧
        ConjFr.conjugate env.conj env.fr v.lemma (some v) none o.pe o.n o.g o.t = .ok ⟨cellToks env.fr v o p.1, 0⟩ := by
  intro p hp
  obtain ⟨hwf, hsp, hnd, _⟩ := wfConjFr_elim h.wf
  have R := wfTableFr_elim hwf
  obtain ⟨hpos, hlem, row, c, o, hrow, hp1, hvo, hcell⟩ := expand_mem (lang := .fr) h R.hasT hnd
    (fun kr hm => (wfTableFr_rows hwf hm).imp fun _ h => h.1)
    (fun tt row hrow => ⟨fun l hl h4 => by
        have := (frRow_shape R hrow).2.1 l hl
        by_cases hpp : tt = .pp
        · exact hpp
        · rw [if_neg hpp] at this; omega,
      fun x hx hh => (frRow_shape R hrow).2.2 x hx hh.1⟩) hl hp
  obtain ⟨hk, hlen, _⟩ := frRow_shape R hrow
  -- the participle row has four cells, so its cell is the one of number and gender
  have hc : C01.cell tb o.t (C01.cellIdx o.t o.pe o.n o.g) = some c ∧
      (o.t = .pp → ¬ (ConjFr.idx4 o.n o.g ≠ 0 ∧ v.pat = some ConjFr.intrPat ∧ v.aux.getD (s "av") = s "av")) := by
    unfold C01.cellIdx
    rcases hcell with ⟨h6, hc6⟩ | ⟨⟨l, rfl, h4⟩, hc4, hveto⟩
    · obtain ⟨a1, a2, a3, a4, h4row⟩ := R.pp
      have hpp : o.t ≠ .pp := by
        rintro hpp
        rw [hpp, h4row] at hrow
        cases hrow
        cases h6 _ rfl
      exact ⟨by rw [if_neg hpp]; exact hc6, fun h => absurd h hpp⟩
    · have hpp : o.t = .pp := by have := hlen l rfl; by_cases hpp : o.t = .pp <;> simp [hpp] at this ⊢; omega
      exact ⟨by rw [if_pos hpp]; exact hc4, fun _ ⟨hi, hintr, hav⟩ => hi (hveto v rfl hintr hav)⟩
  rw [hp1]
  exact ⟨noLead_stem_append _ h.nosp (cell_noLead hsp hc.1), hpos, hlem, o, hvo, fr_cell h o hk hc.1 hc.2⟩

/-- the non-null cells of a row with their index -/
def icells : Row → List (Nat × Str)
  | .null => []
  | .str x => [(0, x)]
  | .list l => (List.range l.length).filterMap (fun i => match l[i]? with
      | some (some c) => some (i, c)
      | _ => none)

theorem icells_list {l : List (Option Str)} {i : Nat} {c : Str} (h : (i, c) ∈ icells (.list l)) :
    i < l.length ∧ l[i]? = some (some c) := by
  obtain ⟨j, hj, hf⟩ := List.mem_filterMap.mp h
  rcases hc : l[j]? with _ | _ | c' <;> simp only [hc, Option.some.injEq, reduceCtorEq, Prod.mk.injEq] at hf
  obtain ⟨rfl, rfl⟩ := hf
  exact ⟨List.mem_range.mp hj, hc⟩

theorem ppGrid_has {i : Nat} (h : i < 4) : ∃ fem plu, (i, fem, plu) ∈ ppGrid := by
  have : i = 0 ∨ i = 1 ∨ i = 2 ∨ i = 3 := by omega
  rcases this with rfl | rfl | rfl | rfl
  · exact ⟨false, false, by simp [ppGrid]⟩
  · exact ⟨true, false, by simp [ppGrid]⟩
  · exact ⟨false, true, by simp [ppGrid]⟩
  · exact ⟨true, true, by simp [ppGrid]⟩

/-- one row whose list has six or four cells: every non-null cell is listed, except cells 1–3 of a four-cell row
    when the French lexicon says `pat == ["intr"]` and the auxiliary is avoir -/
theorem tenseRow_complete {lang : Decl.Lang} {lemma radical t : Str} {v : Verb} {row : Row} {a : List Pair}
    (hlen : ∀ l, row = .list l → l.length = 6 ∨ l.length = 4)
    (ha : tenseRow lang lemma radical (some v) t row = .ok a) {i : Nat} {c : Str} (hic : (i, c) ∈ icells row)
    (hx : (∃ l, row = .list l ∧ l.length = 4) → v.pat = some ["intr".toList] →
      v.aux.getD "av".toList = "av".toList → i = 0) :
    ∃ e, (radical ++ c, e) ∈ a := by
  cases row with
  | null => cases hic
  | str x =>
    simp only [icells, List.mem_singleton, Prod.mk.injEq] at hic
    obtain ⟨rfl, rfl⟩ := hic
    simp only [tenseRow, Except.ok.injEq] at ha
    subst ha
    unfold strBranch
    dsimp only
    split <;> exact ⟨_, List.mem_cons_self⟩
  | list l =>
    obtain ⟨hil, hc⟩ := icells_list hic
    rcases hlen l rfl with h6 | h4
    · simp only [tenseRow, h6, if_true, Except.ok.injEq] at ha
      subst ha
      exact ⟨finiteExp lemma t i, List.mem_filterMap.mpr ⟨i, List.mem_range.mpr (h6 ▸ hil), by simp [hc]⟩⟩
    · simp only [tenseRow, h4, fourBranch, Nat.reduceEqDiff, ↓reduceIte] at ha
      by_cases hintr : v.pat = some ["intr".toList] ∧ v.aux.getD "av".toList = "av".toList
      · cases hx ⟨l, rfl, h4⟩ hintr.1 hintr.2
        simp only [hintr, and_self, if_true, hc, Except.ok.injEq] at ha
        subst ha
        exact ⟨_, List.mem_singleton.mpr rfl⟩
      · simp only [hintr, if_false, Except.ok.injEq] at ha
        subst ha
        obtain ⟨fem, plu, hg⟩ := ppGrid_has (show i < 4 by omega)
        exact ⟨ppExp lemma fem plu, List.mem_filterMap.mpr ⟨(i, fem, plu), hg, by simp [hc]⟩⟩

theorem expand_complete {lang : Decl.Lang} {wf : Table → Bool} {rules : Rules} {v : Verb} {tb : Table} {l : List Pair}
    (h : VerbOK wf rules v tb) (hT : tb.hasT = true)
    (hlen : ∀ kr ∈ tb.rows, ∀ l, kr.2 = .list l → l.length = 6 ∨ l.length = 4)
    (hl : expandConjugation lang rules v.lemma v.tab (some v) = .ok l) {kr : Str × Row} (hm : kr ∈ tb.rows)
    {i : Nat} {c : Str} (hic : (i, c) ∈ icells kr.2)
    (hx : (∃ l, kr.2 = .list l ∧ l.length = 4) → v.pat = some ["intr".toList] →
      v.aux.getD "av".toList = "av".toList → i = 0) :
    ∃ e, (dropRight v.lemma tb.ending.length ++ c, e) ∈ l := by
  unfold expandConjugation at hl
  simp only [h.tab, h.ending, hT, if_true] at hl
  obtain ⟨a, ha, hsub⟩ := (tenseRows_ok hl).2 kr hm
  obtain ⟨e, he⟩ := tenseRow_complete (hlen kr hm) ha hic hx
  exact ⟨e, hsub _ he⟩

end Pyrealb.Lemmatize
