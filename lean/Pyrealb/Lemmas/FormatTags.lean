import Pyrealb.Lemmas.FormatStop
/-! Tags in formatted token lists (for C10).  Every property of the text that the tree theorems carry is closed under
    concatenation, holds of angle-free text and survives a wrapping in tags. -/
namespace Pyrealb.Format

/-- the text of a token list without any joining space -/
def flat (l : List Tok) : Str := (l.map (·.real)).flatten

@[simp] theorem flat_nil : flat [] = [] := rfl
@[simp] theorem flat_cons (t : Tok) (l : List Tok) : flat (t :: l) = t.real ++ flat l := by simp [flat]
theorem flat_append (a b : List Tok) : flat (a ++ b) = flat a ++ flat b := by simp [flat]

theorem flat_modFirst (f : Str → Str) (t : Tok) (r : List Tok) : flat (modFirst f (t :: r)) = f t.real ++ flat r := by
  simp [modFirst]

theorem flat_modLast (f : Str → Str) (l : List Tok) (h : l ≠ []) :
    ∃ pre last, flat l = pre ++ last ∧ flat (modLast f l) = pre ++ f last := by
  induction l with
  | nil => exact absurd rfl h
  | cons t r ih =>
    cases r with
    | nil => exact ⟨[], t.real, by simp, by simp [modLast]⟩
    | cons u r =>
      obtain ⟨pre, last, h1, h2⟩ := ih (by simp)
      exact ⟨t.real ++ pre, last, by rw [flat_cons, h1, List.append_assoc],
        by simp only [modLast, flat_cons]; rw [h2, List.append_assoc]⟩

theorem flat_wrapAll (B A : Str) (l : List Tok) (h : l ≠ []) : flat (wrapAll B A l) = B ++ flat l ++ A := by
  cases l with
  | nil => exact absurd rfl h
  | cons t r =>
    cases r with
    | nil => simp [wrapAll]
    | cons u r =>
      obtain ⟨pre, last, h1, h2⟩ := flat_modLast (· ++ A) (u :: r) (by simp)
      simp only [wrapAll, flat_cons] at h1 ⊢
      rw [h2, h1]
      simp

theorem flat_filter (l : List Tok) : flat (l.filter (fun u => u.real ≠ [])) = flat l := by
  induction l with
  | nil => rfl
  | cons t r ih =>
    by_cases h : t.real = []
    · rw [List.filter_cons_of_neg (by simp [h]), ih]; simp [h]
    · rw [List.filter_cons_of_pos (by simp [h]), flat_cons, ih, flat_cons]

theorem flat_removeEmpty (l : List Tok) : flat (removeEmpty l) = flat l := by
  induction l with
  | nil => rfl
  | cons t r ih =>
    cases r with
    | nil => rfl
    | cons u r =>
      simp only [removeEmpty]
      split
      · rename_i h; rw [ih]; simp [h]
      · simp only [flat_cons]; rw [flat_filter]; simp

theorem removeEmpty_ne_nil (l : List Tok) (h : l ≠ []) : removeEmpty l ≠ [] := by
  induction l with
  | nil => exact absurd rfl h
  | cons t r ih =>
    cases r with
    | nil => simp [removeEmpty]
    | cons u r =>
      simp only [removeEmpty]
      split
      · exact ih (by simp)
      · simp

def AngleFree (x : Str) : Prop := '<' ∉ x ∧ '>' ∉ x

instance (x : Str) : Decidable (AngleFree x) := by unfold AngleFree; infer_instance

theorem AngleFree.nil : AngleFree [] := by simp [AngleFree]
theorem angleFree_append {x y : Str} : AngleFree (x ++ y) ↔ AngleFree x ∧ AngleFree y := by
  simp only [AngleFree, List.mem_append, not_or]
  exact and_and_and_comm
theorem angleFree_cons {c : Char} {x : Str} : AngleFree (c :: x) ↔ c ≠ '<' ∧ c ≠ '>' ∧ AngleFree x := by
  simp only [AngleFree, List.mem_cons, not_or, ne_comm (a := c)]
  exact ⟨fun h => ⟨h.1.1, h.2.1, h.1.2, h.2.2⟩, fun h => ⟨⟨h.1, h.2.2.1⟩, h.2.1, h.2.2.2⟩⟩
theorem AngleFree.append {x y : Str} (hx : AngleFree x) (hy : AngleFree y) : AngleFree (x ++ y) :=
  angleFree_append.mpr ⟨hx, hy⟩

/-- deletion of everything between `<` and `>` (brackets included) -/
def strip : Bool → Str → Str
  | _, [] => []
  | st, c :: r => (if c ≠ '<' ∧ c ≠ '>' ∧ st = false then [c] else []) ++ strip (angStep st c) r

theorem inAngle_append (st : Bool) (x y : Str) : inAngle st (x ++ y) = inAngle (inAngle st x) y := by
  simp [inAngle, List.foldl_append]

theorem strip_append (st : Bool) (x y : Str) : strip st (x ++ y) = strip st x ++ strip (inAngle st x) y := by
  induction x generalizing st with
  | nil => rfl
  | cons c r ih => simp only [List.cons_append, strip, inAngle_cons, ih, List.append_assoc]

/-- deleting the tags of `x` gives `y`, and `x` does not end inside a bracket -/
def Strips (x y : Str) : Prop := strip false x = y ∧ inAngle false x = false

theorem Strips.nil : Strips [] [] := ⟨rfl, rfl⟩

theorem Strips.append {x y x' y' : Str} (h : Strips x y) (h' : Strips x' y') : Strips (x ++ x') (y ++ y') :=
  ⟨by rw [strip_append, h.2, h.1, h'.1], by rw [inAngle_append, h.2, h'.2]⟩

theorem strip_inside {x : Str} (h : AngleFree x) (st : Bool) : strip st x = (if st then [] else x) ∧ inAngle st x = st := by
  induction x with
  | nil => cases st <;> exact ⟨rfl, rfl⟩
  | cons c r ih =>
    obtain ⟨h1, h2, h3⟩ := angleFree_cons.mp h
    have e : angStep st c = st := by simp [angStep, h1, h2]
    rw [strip, inAngle_cons, e, (ih h3).1, (ih h3).2]
    cases st <;> simp [h1, h2]

theorem Strips.text {x : Str} (h : AngleFree x) : Strips x x := strip_inside h false

theorem Strips.tag {body : Str} (h : AngleFree body) : Strips ('<' :: (body ++ ['>'])) [] := by
  obtain ⟨i1, i2⟩ := strip_inside h true
  constructor
  · simp only [strip, angStep, if_true]
    rw [strip_append, i1, i2]
    simp [strip]
  · simp only [inAngle_cons, angStep, if_true]
    rw [inAngle_append, i2]
    simp [inAngle, angStep]

/-- tag name and attributes free of angle brackets; the name contains no space and does not start with `/` -/
def TagOK (t : Str × List (Str × Str)) : Prop :=
  t.1 ≠ [] ∧ AngleFree t.1 ∧ (∀ kv ∈ t.2, AngleFree kv.1 ∧ AngleFree kv.2) ∧ ' ' ∉ t.1 ∧ t.1.head? ≠ some '/' 

/-- the attributes of an opening tag as `startTag` writes them -/
def attrText (attrs : List (Str × Str)) : Str := (attrs.map (fun kv => ' ' :: kv.1 ++ ['=', '"'] ++ kv.2 ++ ['"'])).flatten

theorem attrs_angleFree (attrs : List (Str × Str)) (h : ∀ kv ∈ attrs, AngleFree kv.1 ∧ AngleFree kv.2) :
    AngleFree (attrText attrs) := by
  induction attrs with
  | nil => exact AngleFree.nil
  | cons kv r ih =>
    obtain ⟨h1, h2⟩ := h kv (by simp)
    refine AngleFree.append ?_ (ih fun x hx => h x (List.mem_cons_of_mem _ hx))
    simp [angleFree_append, angleFree_cons, AngleFree.nil, h1, h2]

theorem startTag_eq (n : Str) (attrs : List (Str × Str)) (rest : Str) :
    startTag n attrs ++ rest = '<' :: ((n ++ attrText attrs) ++ '>' :: rest) := by
  simp [startTag, attrText]

theorem startTag_body {t : Str × List (Str × Str)} (h : TagOK t) : AngleFree (t.1 ++ attrText t.2) :=
  h.2.1.append (attrs_angleFree t.2 h.2.2.1)

theorem startTag_strips {t : Str × List (Str × Str)} (h : TagOK t) : Strips (startTag t.1 t.2) [] := by
  rw [← List.append_nil (startTag t.1 t.2), startTag_eq]; exact Strips.tag (startTag_body h)

theorem endTag_strips {n : Str} (h : AngleFree n) : Strips (endTag n) [] :=
  Strips.tag (body := '/' :: n) (angleFree_cons.mpr ⟨by decide, by decide, h⟩)

theorem wrap_tags {R : Str → Prop} (hwrap : ∀ t x, TagOK t → R x → R (startTag t.1 t.2 ++ x ++ endTag t.1))
    (tags : List (Str × List (Str × Str))) (h : ∀ t ∈ tags, TagOK t) (x : Str) (hx : R x) :
    R (tagsB tags ++ x ++ tagsA tags) := by
  induction tags generalizing x with
  | nil => simpa [tagsB, tagsA] using hx
  | cons t r ih =>
    obtain ⟨n, attrs⟩ := t
    have := ih (fun y hy => h y (List.mem_cons_of_mem _ hy)) _ (hwrap (n, attrs) x (h _ (by simp)) hx)
    simpa [tagsB, tagsA, List.append_assoc] using this

theorem tags_strips (tags : List (Str × List (Str × Str))) (h : ∀ t ∈ tags, TagOK t) :
    Strips (tagsB tags) [] ∧ Strips (tagsA tags) [] := by
  induction tags with
  | nil => exact ⟨.nil, .nil⟩
  | cons t r ih =>
    obtain ⟨i1, i2⟩ := ih fun x hx => h x (List.mem_cons_of_mem _ hx)
    have ht := h t (by simp)
    exact ⟨i1.append (startTag_strips ht), (endTag_strips ht.2.1).append i2⟩

/-- balanced and properly nested: plain text, a well-nested text inside a tag, or a sequence of those -/
inductive Bal : Str → Prop where
  | text {x : Str} : AngleFree x → Bal x
  | wrap {t : Str × List (Str × Str)} {x : Str} : TagOK t → Bal x → Bal (startTag t.1 t.2 ++ x ++ endTag t.1)
  | app {x y : Str} : Bal x → Bal y → Bal (x ++ y)

/-- what a complete tag `<buf>` does to the stack of open tag names; `none` = a closing tag that does not match -/
def tagAct (st : List Str) (buf : Str) : Option (List Str) :=
  match buf with
  | '/' :: n =>
    match st with
    | m :: r => if m = n then some r else none
    | [] => none
  | _ => some (buf.takeWhile (· ≠ ' ') :: st)

/-- scanner: `none` = outside a tag, `some buf` = inside `<…` with the characters read so far -/
def balRun : Option Str → List Str → Str → Bool
  | none, st, [] => st.isEmpty
  | some _, _, [] => false
  | none, st, c :: r =>
    if c = '<' then balRun (some []) st r else if c = '>' then false else balRun none st r
  | some buf, st, c :: r =>
    if c = '>' then
      match tagAct st buf with
      | some st' => balRun none st' r
      | none => false
    else balRun (some (buf ++ [c])) st r

/-- every opening tag is closed by a tag of the same name, innermost first, and nothing is left open -/
def balCheck (x : Str) : Bool := balRun none [] x

def Neutral (x : Str) : Prop := ∀ (st : List Str) (rest : Str), balRun none st (x ++ rest) = balRun none st rest

theorem neutral_text {x : Str} (h : AngleFree x) : Neutral x := by
  intro st rest
  induction x with
  | nil => rfl
  | cons c r ih =>
    obtain ⟨h1, h2, h3⟩ := angleFree_cons.mp h
    simp only [List.cons_append, balRun, h1, h2, if_false]
    exact ih h3

theorem neutral_append {x y : Str} (hx : Neutral x) (hy : Neutral y) : Neutral (x ++ y) := by
  intro st rest; rw [List.append_assoc, hx, hy]

theorem balRun_body (body rest buf : Str) (st : List Str) (h : '>' ∉ body) :
    balRun (some buf) st (body ++ '>' :: rest) =
      match tagAct st (buf ++ body) with
      | some st' => balRun none st' rest
      | none => false := by
  induction body generalizing buf with
  | nil => simp [balRun]
  | cons c r ih =>
    simp only [List.mem_cons, not_or] at h
    simp only [List.cons_append, balRun, Ne.symm h.1, if_false]
    rw [ih _ h.2]
    simp

theorem takeWhile_name (n : Str) (attrs : List (Str × Str)) (hn : ' ' ∉ n) :
    (n ++ attrText attrs).takeWhile (· ≠ ' ') = n := by
  induction n with
  | nil => cases attrs <;> simp [attrText]
  | cons c r ih =>
    simp only [List.mem_cons, not_or] at hn
    rw [List.cons_append, List.takeWhile_cons_of_pos (by simpa using Ne.symm hn.1), ih hn.2]

theorem balRun_start {t : Str × List (Str × Str)} (h : TagOK t) (st : List Str) (rest : Str) :
    balRun none st (startTag t.1 t.2 ++ rest) = balRun none (t.1 :: st) rest := by
  rw [startTag_eq, balRun, if_pos rfl, balRun_body _ _ _ _ (startTag_body h).2, List.nil_append]
  obtain ⟨hne, _, _, hsp, hsl⟩ := h
  have hta : tagAct st (t.1 ++ attrText t.2) = some (t.1 :: st) := by
    have hname := takeWhile_name t.1 t.2 hsp
    cases hn : t.1 with
    | nil => exact absurd hn hne
    | cons c r =>
      rw [hn] at hname hsl
      unfold tagAct
      split
      · rename_i heq; injection heq with h1 _; subst h1; simp at hsl
      · rw [hname]
  rw [hta]

theorem balRun_end {n : Str} (h : AngleFree n) (st : List Str) (rest : Str) :
    balRun none (n :: st) (endTag n ++ rest) = balRun none st rest := by
  have e : endTag n ++ rest = '<' :: (('/' :: n) ++ '>' :: rest) := by simp [endTag]
  rw [e, balRun, if_pos rfl, balRun_body _ _ _ _ (angleFree_cons.mpr ⟨by decide, by decide, h⟩).2]
  simp [tagAct]

theorem neutral_wrap (t : Str × List (Str × Str)) (x : Str) (ht : TagOK t) (hx : Neutral x) :
    Neutral (startTag t.1 t.2 ++ x ++ endTag t.1) := by
  intro st rest
  rw [List.append_assoc, List.append_assoc, balRun_start ht, hx, balRun_end ht.2.1]

theorem neutral_of_bal {x : Str} (h : Bal x) : Neutral x := by
  induction h with
  | text haf => exact neutral_text haf
  | wrap ht _ ih => exact neutral_wrap _ _ ht ih
  | app _ _ ih1 ih2 => exact neutral_append ih1 ih2

theorem balCheck_of_neutral {x : Str} (h : Neutral x) : balCheck x = true := by
  simpa [balCheck, balRun] using h [] []

theorem balCheck_of_bal {x : Str} (h : Bal x) : balCheck x = true :=
  balCheck_of_neutral (neutral_of_bal h)

end Pyrealb.Format
