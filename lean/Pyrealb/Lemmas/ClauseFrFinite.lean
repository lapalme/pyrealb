import Pyrealb.Lemmas.ClauseFrPlain
import Pyrealb.Lemmas.ClauseFrRank
/-! The verb tokens of a list, in order. `doPronounPlacement` neither adds, removes, reorders nor re-tenses a verb (for
    ANY token list); of the tokens of one conjugated verb only the first can be a finite form. -/
namespace Pyrealb.ClauseFr
open Pyrealb

/-- the tenses of the verb tokens of a list, in order -/
def Tok.vt? : Tok → Option Tense
  | .v y _ => some y.t
  | _ => none

def vts (l : List Tok) : List Tense := l.filterMap Tok.vt?

theorem vts_append (a b : List Tok) : vts (a ++ b) = vts a ++ vts b := by simp [vts, List.filterMap_append]

theorem vts_cons (t : Tok) (l : List Tok) : vts (t :: l) = t.vt?.toList ++ vts l := by
  cases h : t.vt? <;> simp [vts, List.filterMap_cons, h]

theorem vts_cons_v (y : VT) (f : Str) (l : List Tok) : vts (.v y f :: l) = y.t :: vts l := rfl

theorem vts_cons_nonV (t : Tok) (l : List Tok) (h : t.isV = false) : vts (t :: l) = vts l := by
  cases t <;> first | rfl | simp [Tok.isV] at h

theorem vts_nil_of_noV (l : List Tok) (h : ∀ t ∈ l, t.isV = false) : vts l = [] := by
  induction l with
  | nil => rfl
  | cons a r ih =>
    rw [vts_cons_nonV a r (h a List.mem_cons_self)]
    exact ih (fun t ht => h t (List.mem_cons_of_mem _ ht))

theorem vts_pyInsert (k : Nat) (q : Tok) (l : List Tok) (h : q.isV = false) : vts (pyInsert k q l) = vts l := by
  cases q with
  | v y f => cases h
  | _ => exact filterMap_pyInsert_none _ k _ l rfl

theorem vts_collect (l : List Tok) : vts (collect l).2 = vts l := by
  fun_induction collect l <;> simp_all +zetaDelta [vts_cons]
  all_goals rfl

theorem vts_collect_fst (l : List Tok) : vts (collect l).1 = [] := by
  apply vts_nil_of_noV
  intro t ht
  have := collect_fst_clitic l t ht
  cases t <;> simp_all [Tok.isClitic, Tok.isV]

theorem vts_sortPros_nil (tb : CTable) (l : List Tok) (h : vts l = []) : vts (sortPros tb l) = [] := by
  have hp : (vts (sortPros tb l)).Perm (vts l) := (sortPros_perm tb l).filterMap _
  rw [h] at hp
  exact List.Perm.eq_nil hp

theorem vts_negModProg (cl cl1 : List Tok) (d : Nat) (h : negModProg cl = some (cl1, d)) : vts cl1 = vts cl := by
  induction cl generalizing cl1 d with
  | nil => simp [negModProg] at h
  | cons c rest ih =>
    cases c with
    | v x f =>
      unfold negModProg at h
      cases hn : x.neg2 with
      | none =>
        simp only [hn, Option.map_eq_some_iff] at h
        obtain ⟨r, hr, heq⟩ := h
        cases heq
        rw [vts_cons_v, vts_cons_v, ih r.1 r.2 (by cases r; exact hr)]
      | some w =>
        simp only [hn] at h
        split at h
        · simp only [Option.some.injEq, Prod.mk.injEq] at h
          rw [← h.1, vts_cons_nonV _ _ rfl, vts_cons_v, vts_cons_v, vts_pyInsert _ _ _ rfl]
        · simp only [Option.map_eq_some_iff] at h
          obtain ⟨r, hr, heq⟩ := h
          cases heq
          rw [vts_cons_v, vts_cons_v, ih r.1 r.2 (by cases r; exact hr)]
    | _ =>
      simp only [negModProg, Option.map_eq_some_iff] at h
      obtain ⟨r, hr, heq⟩ := h
      cases heq
      rw [vts_cons_nonV _ _ rfl, vts_cons_nonV _ _ rfl, ih r.1 r.2 (by cases r; exact hr)]

theorem vts_prosOf (x : VT) (isR : Bool) (pg : Option VT) (post : List Tok) :
    vts (prosOf x isR pg (collect post).1) = [] := by
  apply vts_sortPros_nil
  unfold prosRaw
  rw [vts_append, vts_append, vts_collect_fst, List.append_nil]
  cases x.neg2 <;> repeat' split
  all_goals rfl

theorem vts_placedAt (pre post : List Tok) (x : VT) (f : Str) (isR : Bool) (pg : Option VT) :
    vts (placedAt pre post x f isR pg) = vts pre ++ x.t :: vts post := by
  unfold placedAt
  extract_lets x' after
  have hx' : x'.t = x.t := by unfold x'; split <;> rfl
  have hafter : vts after = vts post := by
    unfold after
    cases x.neg2 with
    | none => exact vts_collect post
    | some w =>
      dsimp only
      split
      · exact vts_collect post
      · rw [vts_pyInsert _ _ _ rfl, vts_collect]
  split
  · simp only [vts_append, vts_prosOf, hafter, List.append_nil, List.append_assoc]
    exact congrArg (fun t => vts pre ++ t :: vts post) hx'
  · simp only [vts_append, vts_prosOf, hafter, List.append_nil, List.append_assoc]
    exact congrArg (fun t => vts pre ++ t :: vts post) hx'

/-- **placement keeps the verbs**: same verb tokens, same order, same tenses -/
theorem vts_place (refl : Bool) (cl out : List Tok) (h : placePronouns refl cl = .ok out) : vts out = vts cl := by
  have fin : ∀ (l1 : List Tok) (i : Nat), placeFrom refl l1 i = .ok out → vts out = vts l1 := by
    intro l1 i hh
    unfold placeFrom at hh
    cases hf : findVerb none (l1.drop i) with
    | none => simp only [hf] at hh; cases hh; rfl
    | some fd =>
      simp only [hf] at hh
      cases hr : isReflexive fd.verb refl with
      | error e => rw [hr] at hh; cases hh
      | ok isR =>
        rw [hr] at hh
        cases hh
        show vts (placedAt _ _ _ _ _ _) = _
        rw [vts_placedAt, vts_append, List.append_assoc, ← vts_cons_v _ fd.form, ← vts_append, ← findVerb_split none _ fd hf,
          ← vts_append, List.take_append_drop]
  rw [placePronouns_eq] at h
  cases hl : negModProg cl with
  | none => rw [hl] at h; exact fin cl 0 h
  | some p => rw [hl] at h; exact (fin p.1 p.2 h).trans (vts_negModProg cl p.1 p.2 hl)

/-- the label of a token that is not a finite form: an infinitive, a past participle, or the participle that
    `conjugate` returns for a verb in a compound tense (that token keeps the compound tense as its label) -/
def NonFin (t : Tense) : Prop := t = .b ∨ t = .pp ∨ t.auxTense.isSome = true

theorem mem_tail_append {α} (a b : List α) (t : α) (h : t ∈ (a ++ b).tail) : t ∈ a.tail ∨ t ∈ b := by
  cases a with
  | nil => exact Or.inr (List.mem_of_mem_tail h)
  | cons x r => simpa using h

theorem tail_sublist_nonfin (l l' : List Tense) (hs : l'.Sublist l) (h : ∀ t ∈ l.tail, NonFin t) :
    ∀ t ∈ l'.tail, NonFin t := by
  cases hs with
  | slnil => simp
  | cons a hs' => exact fun t ht => h t (hs'.subset (List.mem_of_mem_tail ht))
  | cons_cons a hs' => exact fun t ht => h t (hs'.subset ht)

theorem vts_sublist (l l' : List Tok) (h : l'.Sublist l) : (vts l').Sublist (vts l) := h.filterMap _

theorem removeEmptyAux_sublist (k : Nat) (l : List Tok) : (removeEmptyAux k l).Sublist l := by
  induction l generalizing k with
  | nil => exact List.Sublist.slnil
  | cons a r ih =>
    unfold removeEmptyAux
    split
    · exact List.Sublist.cons _ (ih k)
    · exact List.Sublist.cons_cons _ (ih (k + 1))

theorem removeEmpty_sublist (l : List Tok) : (removeEmpty l).Sublist l := removeEmptyAux_sublist 0 l

/-- the tokens of ONE conjugated verb: everything behind its first verb token is a participle; all of it when the verb
    is an infinitive or a participle -/
theorem conj_vts (x : VT) (refl : Bool) (np : Option Tok) (r : List Tok × Bool)
    (hnp : ∀ q, np = some q → q.isV = false) (h : conjugate x refl np = .ok r) :
    (∀ t ∈ (vts r.1).tail, NonFin t) ∧ ((x.t = .b ∨ x.t = .pp) → ∀ t ∈ vts r.1, NonFin t) := by
  rcases conjugate_cases x refl np r h with rfl | ⟨hta, cr, rfl⟩ | ⟨ta, aux, ra, form, hta, rfl, _⟩
  · exact ⟨(fun _ ht => nomatch ht), (fun _ _ ht => nomatch ht)⟩
  · cases cr with
    | morpho => exact ⟨(fun _ ht => nomatch ht), (fun _ _ ht => nomatch ht)⟩
    | form g =>
      refine ⟨(fun _ ht => nomatch ht), fun hx t ht => ?_⟩
      rw [List.mem_singleton.mp ht]
      exact hx.elim Or.inl fun hp => Or.inr (Or.inl hp)
  · have hx : NonFin x.t := Or.inr (Or.inr (by rw [hta]; rfl))
    refine ⟨?_, fun hc => ?_⟩
    · -- behind the auxiliary (and the pronoun it may have taken) there is only the participle
      have key : ∀ mid : List Tok, (∀ q ∈ mid, q.isV = false) → ∀ hd : Tok,
          ∀ t ∈ (vts (hd :: (mid ++ [.v { x with neg2 := none, lier := false } form]))).tail, NonFin t := by
        intro mid hmid hd t ht
        rw [vts_cons, vts_append, vts_nil_of_noV mid hmid] at ht
        cases hv : hd.vt? with
        | none => rw [hv] at ht; cases ht
        | some a => rw [hv] at ht; rw [List.mem_singleton.mp ht]; exact hx
      unfold compoundToks
      by_cases hl : x.lier = true
      · cases np with
        | some q => rw [if_pos hl]; exact key [q] (List.forall_mem_singleton.mpr (hnp _ rfl)) _
        | none => rw [if_pos hl]; exact key [] (fun _ hq => nomatch hq) _
      · rw [if_neg hl]; exact key [] (fun _ hq => nomatch hq) _
    · rcases hc with hc | hc <;> rw [hc] at hta <;> cases hta

end Pyrealb.ClauseFr
