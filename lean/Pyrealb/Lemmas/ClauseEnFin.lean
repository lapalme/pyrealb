import Pyrealb.Model.ClauseEn
/-! Finite enumeration of the flag space of the English clause model, so that `decide` can run over
    "every verb class, every tense, every flag combination". -/
namespace Pyrealb.ClauseEn

def Tense.all : List Tense := [.p, .ps, .f, .c]
def Mod.allOpt : List (Option Mod) := [none, some .poss, some .perm, some .nece, some .obli, some .will]
def Int.all : List Int := [.yon, .wos, .wod, .woi, .was, .wad, .wai, .whe, .why, .whn, .how, .muc, .tag]
def Int.allOpt : List (Option Int) := none :: Int.all.map some
def boolAll : List Bool := [false, true]

theorem VLemma.mem_all (v : VLemma) : v ∈ VLemma.all := by cases v <;> decide
theorem Tense.mem_all (t : Tense) : t ∈ Tense.all := by cases t <;> decide
theorem Mod.mem_allOpt (m : Option Mod) : m ∈ Mod.allOpt := by
  cases m with
  | none => decide
  | some m => cases m <;> decide
theorem Int.mem_all (i : Int) : i ∈ Int.all := by cases i <;> decide
theorem Int.mem_allOpt (i : Option Int) : i ∈ Int.allOpt := by
  cases i with
  | none => decide
  | some i => cases i <;> decide
theorem mem_boolAll (b : Bool) : b ∈ boolAll := by cases b <;> decide

/-- the flags `affixHopping` reads (contr and exc are not among them) -/
def Typ.verbFlags : List Typ :=
  boolAll.flatMap fun neg => boolAll.flatMap fun pas => boolAll.flatMap fun perf => boolAll.flatMap fun prog =>
    Mod.allOpt.flatMap fun m => Int.allOpt.map fun i =>
      { neg := neg, pas := pas, perf := perf, prog := prog, mod := m, int := i }

/-- `ty` with `contr` and `exc` cleared -/
def Typ.core (ty : Typ) : Typ := { ty with contr := false, exc := false }

theorem Typ.core_mem (ty : Typ) : ty.core ∈ Typ.verbFlags := by
  obtain ⟨neg, pas, perf, prog, contr, exc, m, i⟩ := ty
  simp only [Typ.verbFlags, Typ.core, List.mem_flatMap, List.mem_map]
  exact ⟨neg, mem_boolAll _, pas, mem_boolAll _, perf, mem_boolAll _, prog, mem_boolAll _, m, Mod.mem_allOpt _, i,
    Int.mem_allOpt _, rfl⟩

theorem auxChain_core (v : VLemma) (t : AT) (ty : Typ) : auxChain v t ty.core = auxChain v t ty := rfl
theorem affixHopping_core (v : VLemma) (t : AT) (ty : Typ) (r : AgrRef) :
    affixHopping v t ty.core r = affixHopping v t ty r := rfl

theorem forall_verb_flags {P : VLemma → Tense → Typ → Prop}
    (hcore : ∀ v t ty, P v t ty.core → P v t ty)
    (h : ∀ v ∈ VLemma.all, ∀ t ∈ Tense.all, ∀ ty ∈ Typ.verbFlags, P v t ty) :
    ∀ v t ty, P v t ty :=
  fun v t ty => hcore v t ty (h v (VLemma.mem_all v) t (Tense.mem_all t) ty.core (Typ.core_mem ty))

end Pyrealb.ClauseEn
