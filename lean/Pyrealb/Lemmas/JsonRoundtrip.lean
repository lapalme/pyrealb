import Pyrealb.Lemmas.JsonReplay
/-! Decoding the JSON form of an expression, by induction on the expression: `fromJSON (toJSON e)` is `e` up to the
    call histories, and `e` itself when its histories are canonical; it does not depend on the current language. -/
namespace Pyrealb.Expr
open Pyrealb

/-! ### the adjective re-ordering of `Phrase.add` only reads kinds and props: it commutes with `abs` -/

theorem map_eraseIdx' {α β} (f : α → β) : ∀ (l : List α) (i : Nat), (l.map f).eraseIdx i = (l.eraseIdx i).map f
  | [], _ => rfl
  | _ :: _, 0 => rfl
  | a :: l, i+1 => by simp [List.eraseIdx, map_eraseIdx' f l i]
theorem map_insertIdx' {α β} (f : α → β) (a : α) :
    ∀ (l : List α) (i : Nat), (l.map f).insertIdx i (f a) = (l.insertIdx i a).map f
  | l, 0 => by simp
  | [], i+1 => by simp
  | b :: l, i+1 => by simp [map_insertIdx' f a l i]

theorem idxN_abs (es : List Expr) : idxN (es.map Expr.abs) = idxN es := by
  unfold idxN
  induction es with
  | nil => rfl
  | cons e r ih =>
    simp only [List.map_cons, List.findIdx?_cons, abs_kind]
    split
    · rfl
    · rw [ih]

theorem adjPos_abs (lang : Lang) (e : Expr) : adjPos lang e.abs = adjPos lang e := by
  unfold adjPos; rw [abs_props]

theorem allAorN_abs (es : List Expr) (i j : Nat) : allAorN (es.map Expr.abs) i j = allAorN es i j := by
  unfold allAorN
  simp only [← List.map_drop, ← List.map_take, List.all_map]
  congr 1
  funext e
  simp

theorem reorderStep_abs (lang : Lang) (es : List Expr) (i : Nat) :
    reorderStep lang (es.map Expr.abs) i = (reorderStep lang es i).map Expr.abs := by
  unfold reorderStep
  rw [List.getElem?_map]
  cases h : es[i]? with
  | none => simp
  | some e =>
    simp only [Option.map_some, abs_kind, idxN_abs, adjPos_abs, allAorN_abs]
    split
    · cases hidx : idxN es with
      | none => simp
      | some idx =>
        simp only
        split
        · split
          · rw [map_eraseIdx', map_insertIdx']
          · rfl
        · rfl
    · rfl

theorem reorder_abs (lang : Lang) (es : List Expr) : reorder lang (absList es) = absList (reorder lang es) := by
  simp only [absList_eq_map]
  unfold reorder
  rw [List.length_map]
  generalize List.range es.length = idxs
  induction idxs generalizing es with
  | nil => rfl
  | cons i r ih =>
    simp only [List.foldl_cons]
    rw [reorderStep_abs, ih]

theorem key_terminal_elements : (s "terminal" = s "elements") = False := by simp
theorem key_lemma_terminal : (s "lemma" = s "terminal") = False := by simp
theorem key_lemma_elements : (s "lemma" = s "elements") = False := by simp
theorem key_lemma_dependents : (s "lemma" = s "dependents") = False := by simp
theorem key_lang_terminal : (s "lang" = s "terminal") = False := by simp
theorem key_lang_lemma : (s "lang" = s "lemma") = False := by simp
theorem key_lang_dependents : (s "lang" = s "dependents") = False := by simp
theorem key_props_terminal : (s "props" = s "terminal") = False := by simp
theorem key_props_lemma : (s "props" = s "lemma") = False := by simp
theorem key_props_elements : (s "props" = s "elements") = False := by simp
theorem key_props_dependents : (s "props" = s "dependents") = False := by simp
theorem key_phrase_terminal : (s "phrase" = s "terminal") = False := by simp
theorem key_phrase_lemma : (s "phrase" = s "lemma") = False := by simp
theorem key_phrase_dependent : (s "phrase" = s "dependent") = False := by simp
theorem key_phrase_dependents : (s "phrase" = s "dependents") = False := by simp
theorem key_elements_terminal : (s "elements" = s "terminal") = False := by simp
theorem key_elements_lemma : (s "elements" = s "lemma") = False := by simp
theorem key_elements_phrase : (s "elements" = s "phrase") = False := by simp
theorem key_elements_dependent : (s "elements" = s "dependent") = False := by simp
theorem key_elements_dependents : (s "elements" = s "dependents") = False := by simp
theorem key_dependent_lemma : (s "dependent" = s "lemma") = False := by simp
theorem key_dependent_elements : (s "dependent" = s "elements") = False := by simp
theorem key_dependents_terminal : (s "dependents" = s "terminal") = False := by simp
theorem key_dependents_lemma : (s "dependents" = s "lemma") = False := by simp
theorem key_dependents_elements : (s "dependents" = s "elements") = False := by simp
theorem key_dependents_dependent : (s "dependents" = s "dependent") = False := by simp

@[simp] theorem lookup_cons' {α} (k k' : Str) (v : α) (r : List (Str × α)) :
    lookup k ((k', v) :: r) = if k' = k then some v else lookup k r := rfl
@[simp] theorem lookup_nil' {α} (k : Str) : lookup k ([] : List (Str × α)) = none := rfl

theorem lookup_langJ (k : Str) (p : Option Lang) (l : Lang) (h : (s "lang" = k) = False) : lookup k (langJ p l) = none := by
  unfold langJ; split <;> simp [h]
theorem lookup_propsJ (k : Str) (ps : List (Str × PVal)) (h : (s "props" = k) = False) : lookup k (propsJ ps) = none := by
  unfold propsJ; split <;> simp [h]

theorem langField_of (parent : Option Lang) (l : Lang) (kv : List (Str × JVal))
    (h : lookup (s "lang") kv = if parent = some l then none else some (.str l.code)) :
    langField parent kv = (some l, 0) := by
  unfold langField
  rw [h]
  by_cases hp : parent = some l
  · simp [hp]
  · simp only [hp, if_false]
    cases l
    · simp [Lang.code]
    · have : (s "fr" = s "en") = False := by rw [s_ofList, s_ofList]; decide
      simp [Lang.code, this]

theorem lookup_lang_langJ (p : Option Lang) (l : Lang) :
    lookup (s "lang") (langJ p l) = if p = some l then none else some (.str l.code) := by
  unfold langJ; split <;> simp

theorem mkPhr_eq (kind : Str) (lang : Lang) (es : List Expr) :
    mkPhr kind lang es = (.phr ⟨kind, lang, [], []⟩ (reorder lang es), 0) := by
  unfold mkPhr
  cases es with
  | nil => simp [reorder]
  | cons a r =>
    rw [List.getLast?_eq_some_getLast (List.cons_ne_nil a r)]
    simp [addElems, List.dropLast_concat_getLast]

theorem setJSONprops_replays {props : List (Str × PVal)} (e0 : Expr) (kv : List (Str × JVal))
    (hkv : lookup (s "props") kv = lookup (s "props") (propsJ props))
    (hr : Replays e0.kind e0.lang e0.props props) (hnd : (keys props).Nodup) :
    (setJSONprops kv e0).1 = e0.upd props (e0.hist ++ canonCalls props) := by
  unfold setJSONprops
  rw [hkv]
  unfold propsJ
  cases props with
  | nil =>
    generalize hP : e0.props = P at hr
    cases hr
    simp [canonCalls, ← hP, upd_self]
  | cons x r =>
    have := setProps_replays _ hr e0 [] rfl rfl rfl (by simpa using hnd)
    simp only [List.isEmpty_cons, Bool.false_eq_true, if_false, lookup_cons', if_true]
    exact this

mutual
def Expr.height : Expr → Nat
  | .term _ _ _ => 1
  | .phr _ es => heightList es + 1
  | .dep _ t ds => max t.height (heightList ds) + 1
def heightList : List Expr → Nat
  | [] => 0
  | e :: r => max e.height (heightList r)
end

mutual
/-- **the side conditions of the JSON round trip**, node by node: the constituent type is one `fromJSON` accepts;
    `props` is reproduced by re-applying its entries on the freshly constructed constituent (`Replays`, one
    constructor per option kind); a terminal is what its constructor builds from the lemma (normalised lemma, lexicon
    entry of its own language); the children of a phrase are in an order that `Phrase.add` leaves alone; the
    dependents of a dependent are dependents. -/
def WFJ (env : Env) : Expr → Prop
  | .term n lemma info => n.kind ∈ jsonTermKinds ∧ (keys n.props).Nodup ∧
      ∃ P h, (mkTerm env n.lang n.kind lemma).1 = .term ⟨n.kind, n.lang, P, h⟩ lemma info ∧ Replays n.kind n.lang P n.props
  | .phr n es => n.kind ∈ jsonPhraseKinds ∧ (keys n.props).Nodup ∧ Replays n.kind n.lang [] n.props ∧
      reorder n.lang es = es ∧ WFJList env es
  | .dep n t ds => n.kind ∈ jsonDepKinds ∧ (keys n.props).Nodup ∧ Replays n.kind n.lang [] n.props ∧
      WFJ env t ∧ WFJList env ds ∧ (∀ d ∈ ds, isDep d = true)
def WFJList (env : Env) : List Expr → Prop
  | [] => True
  | e :: r => WFJ env e ∧ WFJList env r
end

theorem isDep_abs (e : Expr) : isDep e.abs = isDep e := by cases e <;> rfl

theorem filter_isDep_all {l : List Expr} (h : ∀ d ∈ l, isDep d = true) :
    l.filter isDep = l ∧ (l.filter (fun d => !isDep d)).length = 0 := by
  constructor
  · exact List.filter_eq_self.mpr h
  · simp only [List.length_eq_zero_iff, List.filter_eq_nil_iff]
    intro d hd; simp [h d hd]

mutual
/-- `WFJ` and, in addition, a CANONICAL history at every constituent: the calls the constructor records followed by
    one group of calls per entry of `props`, in the order of `props` (no repeated, interleaved, propagated or
    constructor-implied option) -/
def CanonJ (env : Env) : Expr → Prop
  | .term n lemma info => n.kind ∈ jsonTermKinds ∧ (keys n.props).Nodup ∧
      ∃ P h, (mkTerm env n.lang n.kind lemma).1 = .term ⟨n.kind, n.lang, P, h⟩ lemma info ∧
        Replays n.kind n.lang P n.props ∧ n.hist = h ++ canonCalls n.props
  | .phr n es => n.kind ∈ jsonPhraseKinds ∧ (keys n.props).Nodup ∧ Replays n.kind n.lang [] n.props ∧
      n.hist = canonCalls n.props ∧ reorder n.lang es = es ∧ CanonJList env es
  | .dep n t ds => n.kind ∈ jsonDepKinds ∧ (keys n.props).Nodup ∧ Replays n.kind n.lang [] n.props ∧
      n.hist = canonCalls n.props ∧ CanonJ env t ∧ CanonJList env ds ∧ (∀ d ∈ ds, isDep d = true)
def CanonJList (env : Env) : List Expr → Prop
  | [] => True
  | e :: r => CanonJ env e ∧ CanonJList env r
end

mutual
theorem CanonJ.wfj {env : Env} : ∀ {e : Expr}, CanonJ env e → WFJ env e
  | .term .., ⟨hk, hnd, P, h, hmk, hrep, _⟩ => ⟨hk, hnd, P, h, hmk, hrep⟩
  | .phr .., ⟨hk, hnd, hrep, _, hst, hes⟩ => ⟨hk, hnd, hrep, hst, CanonJList.wfj hes⟩
  | .dep .., ⟨hk, hnd, hrep, _, ht, hds, hdd⟩ => ⟨hk, hnd, hrep, CanonJ.wfj ht, CanonJList.wfj hds, hdd⟩
theorem CanonJList.wfj {env : Env} : ∀ {es : List Expr}, CanonJList env es → WFJList env es
  | [], _ => trivial
  | _ :: _, ⟨he, hr⟩ => ⟨CanonJ.wfj he, CanonJList.wfj hr⟩
end

theorem isDep_of_absList {a b : List Expr} (h : absList a = absList b) (hb : ∀ d ∈ b, isDep d = true) :
    ∀ d ∈ a, isDep d = true := by
  induction a generalizing b with
  | nil => simp
  | cons x r ih =>
    cases b with
    | nil => simp [absList] at h
    | cons y q =>
      simp only [absList, List.cons.injEq] at h
      intro d hd
      rcases List.mem_cons.mp hd with rfl | hd
      · rw [← isDep_abs, h.1, isDep_abs]; exact hb y (by simp)
      · exact ih h.2 (fun d hd => hb d (by simp [hd])) d hd

mutual
/-- decoding the JSON form of an expression gives the expression back up to the histories (every decoded history is
    the canonical one), hence the very same expression when its histories are canonical -/
theorem fromJ_toJSON (env : Env) (cur : Lang) : ∀ (e : Expr) (fuel : Nat) (parent : Option Lang),
    WFJ env e → e.height ≤ fuel →
    ∃ e', (fromJ env cur fuel parent (toJSON parent e)).1 = some e' ∧ e'.abs = e.abs ∧ (CanonJ env e → e' = e)
  | e, 0, _, _, hf => by cases e <;> exact absurd hf (Nat.not_succ_le_zero _)
  | .term n lemma info, fuel + 1, parent, hw, hf => by
    obtain ⟨hk, hnd, P, h, hmk, hrep⟩ := hw
    refine ⟨.term ⟨n.kind, n.lang, n.props, h ++ canonCalls n.props⟩ lemma info, ?_, rfl, ?_⟩
    · rw [toJSON]
      unfold fromJ
      rw [langField_of parent n.lang]
      · simp [lookup_append, lookup_langJ, lookup_propsJ, hk, decodeTerm, addMsgs, hmk]
        rw [setJSONprops_replays (props := n.props) (hnd := hnd)]
        · rfl
        · simp [lookup_append, lookup_langJ]
        · exact hrep
      · simp [lookup_append, lookup_propsJ, lookup_lang_langJ]
    · rintro ⟨_, _, P', h', hmk', _, hh⟩
      cases hmk.symm.trans hmk'
      rw [← hh]
  | .phr n es, fuel + 1, parent, hw, hf => by
    obtain ⟨hk, hnd, hrep, hst, hes⟩ := hw
    obtain ⟨habs, hex⟩ := fromJList_toJSONList_both env cur es fuel n.lang hes (Nat.le_of_succ_le_succ hf)
    simp only [fromJList] at habs hex
    generalize hes' : (collect (fromJ env cur fuel (some n.lang)) (toJSONList n.lang es)).1 = es' at habs hex
    refine ⟨.phr ⟨n.kind, n.lang, n.props, canonCalls n.props⟩ (reorder n.lang es'), ?_, ?_, ?_⟩
    · rw [toJSON]
      unfold fromJ
      rw [langField_of parent n.lang]
      · simp [lookup_append, lookup_langJ, hk, finishPhr, addMsgs, mkPhr_eq, hes']
        rw [setJSONprops_replays (props := n.props) (hnd := hnd)]
        · rfl
        · simp [lookup_append, lookup_langJ]
        · exact hrep
      · simp [lookup_append, lookup_propsJ, lookup_lang_langJ]
    · -- `Phrase.add` re-orders the decoded children as it re-orders `es`: not at all
      have : absList (reorder n.lang es') = absList es := by
        rw [← reorder_abs, habs, reorder_abs, hst]
      simp [Expr.abs, Node.abs, this]
    · rintro ⟨_, _, _, hh, _, hc⟩
      rw [hex hc, hst, ← hh]
  | .dep n t ds, fuel + 1, parent, hw, hf => by
    obtain ⟨hk, hnd, hrep, ht, hds, hdd⟩ := hw
    obtain ⟨hf1, hf2⟩ := Nat.max_le.mp (Nat.le_of_succ_le_succ hf)
    obtain ⟨t', htdec, htabs, htex⟩ := fromJ_toJSON env cur t fuel (some n.lang) ht hf1
    obtain ⟨habs, hex⟩ := fromJList_toJSONList_both env cur ds fuel n.lang hds hf2
    simp only [fromJList] at habs hex
    generalize hds' : (collect (fromJ env cur fuel (some n.lang)) (toJSONList n.lang ds)).1 = ds' at habs hex
    obtain ⟨hfil, hlen⟩ := filter_isDep_all (isDep_of_absList habs hdd)
    have hsplit : fromJ env cur fuel (some n.lang) (toJSON (some n.lang) t) =
        (some t', (fromJ env cur fuel (some n.lang) (toJSON (some n.lang) t)).2) := by
      rw [← htdec]
    refine ⟨.dep ⟨n.kind, n.lang, n.props, canonCalls n.props⟩ t' ds', ?_, ?_, ?_⟩
    · rw [toJSON]
      unfold fromJ
      rw [langField_of parent n.lang]
      · simp [lookup_append, lookup_langJ, lookup_propsJ, hk, finishDep, addMsgs, mkDep]
        rw [hsplit]
        simp [hds', hfil]
        rw [setJSONprops_replays (props := n.props) (hnd := hnd)]
        · rfl
        · simp [lookup_append, lookup_langJ]
        · exact hrep
      · simp [lookup_append, lookup_propsJ, lookup_lang_langJ]
    · simp [Expr.abs, Node.abs, htabs, habs]
    · rintro ⟨_, _, _, hh, ht', hds'', _⟩
      rw [htex ht', hex hds'', ← hh]
theorem fromJList_toJSONList_both (env : Env) (cur : Lang) : ∀ (es : List Expr) (fuel : Nat) (pl : Lang),
    WFJList env es → heightList es ≤ fuel →
    absList (fromJList env cur fuel (some pl) (toJSONList pl es)).1 = absList es ∧
      (CanonJList env es → (fromJList env cur fuel (some pl) (toJSONList pl es)).1 = es)
  | [], fuel, pl, _, _ => by simp [toJSONList, fromJList, collect]
  | e :: r, fuel, pl, hw, hf => by
    obtain ⟨he, hr⟩ := hw
    obtain ⟨hf1, hf2⟩ := Nat.max_le.mp hf
    obtain ⟨e', h1, a1, x1⟩ := fromJ_toJSON env cur e fuel (some pl) he hf1
    obtain ⟨a2, x2⟩ := fromJList_toJSONList_both env cur r fuel pl hr hf2
    simp only [fromJList] at a2 x2
    refine ⟨by simp [toJSONList, fromJList, collect, h1, absList, a1, a2], fun hc => ?_⟩
    simp [toJSONList, fromJList, collect, h1, x1 hc.1, x2 hc.2]
end

theorem fromJList_toJSONList (env : Env) (cur : Lang) : ∀ (es : List Expr) (fuel : Nat) (pl : Lang),
    WFJList env es → heightList es ≤ fuel →
    absList (fromJList env cur fuel (some pl) (toJSONList pl es)).1 = absList es :=
  fun es fuel pl hw hf => (fromJList_toJSONList_both env cur es fuel pl hw hf).1

theorem fromJList_toJSONList_exact (env : Env) (cur : Lang) : ∀ (es : List Expr) (fuel : Nat) (pl : Lang),
    CanonJList env es → heightList es ≤ fuel →
    (fromJList env cur fuel (some pl) (toJSONList pl es)).1 = es :=
  fun es fuel pl hw hf => (fromJList_toJSONList_both env cur es fuel pl hw.wfj hf).2 hw

/-! ### the decoded expression does not depend on the current language (when the root carries a `lang` field) -/

theorem langField_isSome (lang : Option Lang) (kv : List (Str × JVal))
    (h : lang.isSome = true ∨ (lookup (s "lang") kv).isSome = true) : (langField lang kv).1.isSome = true := by
  unfold langField
  cases hl : lookup (s "lang") kv with
  | none =>
    rcases h with h | h
    · simpa using h
    · simp [hl] at h
  | some v =>
    cases v <;> simp
    split <;> (try split) <;> simp

theorem fromJ_cur_indep (env : Env) (cur cur' : Lang) : ∀ (fuel : Nat) (lang : Option Lang) (j : JVal),
    (lang.isSome = true ∨ ∃ kv, j = .obj kv ∧ (lookup (s "lang") kv).isSome = true) →
    fromJ env cur fuel lang j = fromJ env cur' fuel lang j
  | 0, _, _, _ => rfl
  | fuel + 1, lang, .obj kv, h => by
    have hs : (langField lang kv).1.isSome = true := by
      apply langField_isSome
      rcases h with h | ⟨kv', hj, hl⟩
      · exact Or.inl h
      · cases hj; exact Or.inr hl
    obtain ⟨l0, hl0⟩ := Option.isSome_iff_exists.mp hs
    have ih1 := fun j => fromJ_cur_indep env cur cur' fuel (some l0) j (Or.inl rfl)
    have hfun : fromJ env cur fuel (some l0) = fromJ env cur' fuel (some l0) := funext ih1
    unfold fromJ
    simp only [hl0, Option.getD_some, hfun]
  | _ + 1, _, .null, _ => rfl
  | _ + 1, _, .bool _, _ => rfl
  | _ + 1, _, .int _, _ => rfl
  | _ + 1, _, .str _, _ => rfl
  | _ + 1, _, .arr _, _ => rfl
  | _ + 1, _, .dt .., _ => rfl

/-! ### `toJSON` reads the abstraction only -/

mutual
theorem toJSON_abs : ∀ (p : Option Lang) (e : Expr), toJSON p e.abs = toJSON p e
  | p, .term n l i => by simp [toJSON, Expr.abs, Node.abs]
  | p, .phr n es => by simp [toJSON, Expr.abs, Node.abs, toJSONList_abs n.lang es]
  | p, .dep n t ds => by simp [toJSON, Expr.abs, Node.abs, toJSON_abs (some n.lang) t, toJSONList_abs n.lang ds]
theorem toJSONList_abs : ∀ (pl : Lang) (es : List Expr), toJSONList pl (absList es) = toJSONList pl es
  | _, [] => rfl
  | pl, e :: r => by simp [toJSONList, absList, toJSON_abs (some pl) e, toJSONList_abs pl r]
end

theorem toJSON_congr_abs {a b : Expr} (h : a.abs = b.abs) (p : Option Lang) : toJSON p a = toJSON p b := by
  rw [← toJSON_abs p a, h, toJSON_abs]

theorem depth_le_depthObj {k : Str} {v : JVal} : ∀ {kv : List (Str × JVal)}, (k, v) ∈ kv → v.depth ≤ depthObj kv
  | (k', v') :: r, h => by
    rw [depthObj]
    rcases List.mem_cons.mp h with h | h
    · cases h; exact Nat.le_max_left _ _
    · exact Nat.le_trans (depth_le_depthObj h) (Nat.le_max_right _ _)

mutual
theorem height_le_depth : ∀ (p : Option Lang) (e : Expr), e.height ≤ (toJSON p e).depth
  | p, .term n l i => by rw [Expr.height, toJSON, JVal.depth]; exact Nat.succ_le_succ (Nat.zero_le _)
  | p, .phr n es => by
    have hm : (s "elements", JVal.arr (toJSONList n.lang es)) ∈ [(s "phrase", JVal.str n.kind)] ++ langJ p n.lang ++
        [(s "elements", .arr (toJSONList n.lang es))] ++ propsJ n.props := by simp
    rw [Expr.height, toJSON, JVal.depth]
    exact Nat.succ_le_succ (Nat.le_trans (Nat.le_succ_of_le (heightList_le_depth n.lang es)) (depth_le_depthObj hm))
  | p, .dep n t ds => by
    have h1 : (s "terminal", toJSON (some n.lang) t) ∈ [(s "dependent", JVal.str n.kind),
        (s "terminal", toJSON (some n.lang) t), (s "dependents", .arr (toJSONList n.lang ds))] ++ propsJ n.props ++
          langJ p n.lang := by simp
    have h2 : (s "dependents", JVal.arr (toJSONList n.lang ds)) ∈ [(s "dependent", JVal.str n.kind),
        (s "terminal", toJSON (some n.lang) t), (s "dependents", .arr (toJSONList n.lang ds))] ++ propsJ n.props ++
          langJ p n.lang := by simp
    rw [Expr.height, toJSON, JVal.depth]
    exact Nat.succ_le_succ (Nat.max_le.mpr
      ⟨Nat.le_trans (height_le_depth (some n.lang) t) (depth_le_depthObj h1),
       Nat.le_trans (Nat.le_succ_of_le (heightList_le_depth n.lang ds)) (depth_le_depthObj h2)⟩)
theorem heightList_le_depth : ∀ (pl : Lang) (es : List Expr), heightList es ≤ depthList (toJSONList pl es)
  | _, [] => Nat.le_refl 0
  | pl, e :: r => by
    rw [heightList, toJSONList, depthList]
    exact Nat.max_le.mpr ⟨Nat.le_trans (height_le_depth (some pl) e) (Nat.le_max_left _ _),
      Nat.le_trans (heightList_le_depth pl r) (Nat.le_max_right _ _)⟩
end

end Pyrealb.Expr
