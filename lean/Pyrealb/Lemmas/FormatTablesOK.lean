import Pyrealb.Model.FormatTables
import Pyrealb.Lemmas.FormatSpace
import Pyrealb.Lemmas.FormatTree
/-! The hypotheses on the case map, proved of the tabulated Python case map (`decide` over the generated table). -/
namespace Pyrealb.Format
open Pyrealb.Gen

theorem caseLookup_mem (c : Char) (tbl : List (Char × Char × Char × Bool)) (v : Char × Char × Bool)
    (h : caseLookup c tbl = some v) : (c, v) ∈ tbl := by
  induction tbl with
  | nil => simp [caseLookup] at h
  | cons kv r ih =>
    obtain ⟨k, w⟩ := kv
    simp only [caseLookup] at h
    split at h
    · rename_i hk; cases h; subst hk; simp
    · exact List.mem_cons_of_mem _ (ih h)

/-- a fact about a character and its images holds of the Python case map when it holds of every row of the table and
    of the identity (characters outside the table) -/
theorem pyCase_cases {P : Char → Char → Char → Prop} (htbl : ∀ e ∈ PunctRules.caseTable, P e.1 e.2.1 e.2.2.1)
    (hid : ∀ c, P c c c) (c : Char) : P c (pyCase.upper c) (pyCase.lower c) := by
  simp only [pyCase]
  cases h : caseLookup c PunctRules.caseTable with
  | none => exact hid c
  | some v =>
    obtain ⟨u, l, w⟩ := v
    exact htbl (c, u, l, w) (caseLookup_mem c _ _ h)

theorem caseTable_punct :
    ∀ e ∈ PunctRules.caseTable, (e.2.1 == ' ') = (e.1 == ' ') ∧ isCS e.2.1 = isCS e.1 := by
  decide +kernel

theorem pyCase_punctOK : PunctOK pyCase :=
  pyCase_cases (P := fun c u _ => (u == ' ') = (c == ' ') ∧ isCS u = isCS c) caseTable_punct fun _ => ⟨rfl, rfl⟩

theorem pyCase_spaceOK : SpaceOK pyCase := Keeps.sp pyCase_punctOK

theorem caseTable_angle :
    ∀ e ∈ PunctRules.caseTable, e.1 ≠ '<' → e.1 ≠ '>' →
      e.2.1 ≠ '<' ∧ e.2.1 ≠ '>' ∧ e.2.2.1 ≠ '<' ∧ e.2.2.1 ≠ '>' := by
  decide +kernel

theorem pyCase_angOK : AngOK pyCase :=
  ⟨pyCase_cases (P := fun c u l => c ≠ '<' → c ≠ '>' → u ≠ '<' ∧ u ≠ '>' ∧ l ≠ '<' ∧ l ≠ '>') caseTable_angle
    fun _ h1 h2 => ⟨h1, h2, h1, h2⟩, by decide +kernel, by decide +kernel⟩

end Pyrealb.Format
