import Pyrealb.Lemmas.ClauseEnLin
import Pyrealb.Lemmas.ClauseEnPhNF
import Pyrealb.Lemmas.ClauseEnDepNF
import Pyrealb.Lemmas.ClauseEnVGFacts
/-! From the two normal forms to statements about `realizePhrase` / `realizeDep` themselves. -/
namespace Pyrealb.ClauseEn

theorem clauseWords_all (sp : Spec) (ty : Typ) : (clauseWords sp ty).all Tok.isWord = true :=
  words_all sp.verb sp.t ty

theorem hasV_of_questioned (sp : Spec) (ty : Typ) (hq : ty.questioned = true) : hasV (clauseWords sp ty) = true :=
  words_hasV sp.verb sp.t ty hq

theorem phrase_nf (sp : Spec) (ty : Typ) : PhOK sp ty (clauseWords sp ty) :=
  phrase_nf_words sp ty _ (clauseWords_all sp ty)

theorem dep_nf (sp : Spec) (ty : Typ) :
    ∃ L out, linDep sp ty (clauseWords sp ty) = some L ∧ realizeDep sp ty = .ok out ∧
      out.main = L.map (Tok.resolve out.agr) ∧ out.agr = agrDep sp ty (clauseWords sp ty) :=
  dep_nf_words sp ty _ (words_ne_nil sp.verb sp.t ty)

inductive Notation | phrase | dep deriving DecidableEq, Repr

/-- the model of `S(...).typ(ty).realize()` / `root(...).typ(ty).realize()` up to the symbolic tokens -/
def realize : Notation → Spec → Typ → Except Crash Out
  | .phrase => realizePhrase
  | .dep => realizeDep

/-- the declarative linearisation of either notation (`none`: the model raises; since 5c3407b/38d9ad6 neither does) -/
def lin (nt : Notation) (sp : Spec) (ty : Typ) : Option (List Tok) :=
  match nt with
  | .phrase => some (linPh (midPh sp ty.pas) ty.int (clauseWords sp ty))
  | .dep => linDep sp ty (clauseWords sp ty)

/-- **the model is its declarative linearisation** (both notations): a successful realization has exactly the tokens
    `lin` prescribes, and the model raises exactly where `lin` is undefined -/
theorem realize_lin (nt : Notation) (sp : Spec) (ty : Typ) :
    match lin nt sp ty with
    | some L => ∃ out, realize nt sp ty = .ok out ∧ out.main = L.map (Tok.resolve out.agr)
    | none => realize nt sp ty = .error .attributeError := by
  cases nt with
  | phrase =>
    obtain ⟨out, hout, hmain, _⟩ := phrase_nf sp ty
    exact ⟨out, hout, hmain⟩
  | dep =>
    obtain ⟨L, out, hL, hout, hmain, _⟩ := dep_nf sp ty
    have hl : lin .dep sp ty = some L := hL
    rw [hl]
    exact ⟨out, hout, hmain⟩

theorem lin_words (nt : Notation) (sp : Spec) (ty : Typ) (L : List Tok) (h : lin nt sp ty = some L) :
    wordsOf L = clauseWords sp ty := by
  have hw := clauseWords_all sp ty
  cases nt with
  | phrase =>
    simp only [lin, linPh_eq] at h
    injection h with h; subst h
    exact (linG_parts Body.of_front _ _ _ _ _ _ hw).1
  | dep => exact wordsOf_linDep sp ty hw h

theorem ok_lin (nt : Notation) (sp : Spec) (ty : Typ) (out : Out) (h : realize nt sp ty = .ok out) :
    ∃ L, lin nt sp ty = some L ∧ out.main = L.map (Tok.resolve out.agr) := by
  have := realize_lin nt sp ty
  cases hL : lin nt sp ty with
  | none => simp only [hL] at this; rw [this] at h; cases h
  | some L =>
    simp only [hL] at this
    obtain ⟨out', hout', hmain⟩ := this
    rw [h] at hout'
    injection hout' with e
    subst e
    exact ⟨L, rfl, hmain⟩

/-- the verb-group words of the clause proper are the words affixHopping returned, in their order -/
theorem main_words (nt : Notation) (sp : Spec) (ty : Typ) (out : Out) (h : realize nt sp ty = .ok out) :
    wordsOf out.main = (clauseWords sp ty).map (Tok.resolve out.agr) := by
  obtain ⟨L, hL, hmain⟩ := ok_lin nt sp ty out h
  rw [hmain, wordsOf_map_resolve, lin_words nt sp ty L hL]

/-! the verb group does not see the non-verbal tokens nor the agreement resolution -/

theorem vgroup_wordsOf (l : List Tok) : vgroup (wordsOf l) = vgroup l := by
  induction l with
  | nil => rfl
  | cons t r ih =>
    cases t <;> simp only [wordsOf, List.filter_cons, Tok.isWord, if_true, vgroup, Bool.false_eq_true, if_false] at ih ⊢ <;>
    first | exact ih | (rw [ih])

theorem vgroupLF_map_resolve (a : Agr) (l : List Tok) : vgroupLF (l.map (Tok.resolve a)) = vgroupLF l := by
  induction l with
  | nil => rfl
  | cons t r ih =>
    cases t with
    | verb l f rf => cases rf <;> simp [vgroupLF, vgroup, Tok.resolve] at ih ⊢ <;> exact ih
    | _ => simp [vgroupLF, vgroup, Tok.resolve] at ih ⊢ <;> exact ih

theorem main_vgroupLF (nt : Notation) (sp : Spec) (ty : Typ) (out : Out) (h : realize nt sp ty = .ok out) :
    vgroupLF out.main = vgroupLF (words sp.verb sp.t ty) := by
  have := main_words nt sp ty out h
  have h2 : vgroupLF out.main = vgroupLF (wordsOf out.main) := by unfold vgroupLF; rw [vgroup_wordsOf]
  rw [h2, this, vgroupLF_map_resolve]
  rfl

theorem notPlaced_map_resolve (a : Agr) (neg : Bool) (l : List Tok) :
    notPlaced neg (l.map (Tok.resolve a)) = notPlaced neg l := by
  have hc : ∀ l : List Tok, notCount (l.map (Tok.resolve a)) = notCount l := by
    intro l
    induction l with
    | nil => rfl
    | cons t r ih =>
      cases t with
      | verb l f rf => cases rf <;> simp [notCount, Tok.resolve, ih]
      | _ => simp [notCount, Tok.resolve, ih]
  unfold notPlaced
  cases neg
  · simp [hc]
  · simp only [if_true]
    cases l with
    | nil => rfl
    | cons t r =>
      cases t with
      | verb l f rf =>
        cases r with
        | nil => cases rf <;> rfl
        | cons t2 r2 =>
          cases t2 with
          | verb l2 f2 rf2 => cases rf <;> cases rf2 <;> rfl
          | not_ => cases rf <;> simp [Tok.resolve, hc]
          | _ => cases rf <;> rfl
      | cannot => simp [Tok.resolve, hc]
      | _ => rfl

end Pyrealb.ClauseEn
