import Pyrealb.Model.Format
import Pyrealb.Lemmas.Basic
/-! `doFormat` in closed form (for C10): all the wrapping steps amount to one prefix on the first token and one suffix
    on the last token, made of the option strings in a fixed order. -/
namespace Pyrealb.Format

@[simp] theorem ex_pure {ε α} (a : α) : (pure a : Except ε α) = .ok a := rfl
@[simp] theorem ex_bind_ok {ε α β} (a : α) (f : α → Except ε β) : (Except.ok a >>= f) = f a := rfl
@[simp] theorem ex_bind_err {ε α β} (e : ε) (f : α → Except ε β) : (Except.error e >>= f) = .error e := rfl
@[simp] theorem ex_map_ok {ε α β} (a : α) (f : α → β) : (f <$> (Except.ok a : Except ε α)) = .ok (f a) := rfl
@[simp] theorem ex_map_err {ε α β} (e : ε) (f : α → β) : (f <$> (Except.error e : Except ε α)) = .error e := rfl

theorem ex_bind_eq_ok {ε α β} {x : Except ε α} {f : α → Except ε β} {b : β} (h : (x >>= f) = .ok b) :
    ∃ a, x = .ok a ∧ f a = .ok b := by
  cases x with
  | error e => cases h
  | ok a => exact ⟨a, rfl, h⟩

/-- prefix `B` on the first token, suffix `A` on the last one -/
def wrapAll (B A : Str) : List Tok → List Tok
  | [] => []
  | [t] => [{ t with real := B ++ t.real ++ A }]
  | t :: u :: r => { t with real := B ++ t.real } :: modLast (· ++ A) (u :: r)

theorem modLast_ne_nil (f : Str → Str) (l : List Tok) (h : l ≠ []) : modLast f l ≠ [] := by
  cases l with
  | nil => exact absurd rfl h
  | cons t r => cases r <;> simp [modLast]

theorem modFirst_ne_nil (f : Str → Str) (l : List Tok) (h : l ≠ []) : modFirst f l ≠ [] := by
  cases l with
  | nil => exact absurd rfl h
  | cons t r => simp [modFirst]

theorem wrapAll_ne_nil (b a : Str) (l : List Tok) (h : l ≠ []) : wrapAll b a l ≠ [] := by
  cases l with
  | nil => exact absurd rfl h
  | cons t r => cases r <;> simp [wrapAll]

theorem modLast_modLast (f g : Str → Str) (l : List Tok) : modLast g (modLast f l) = modLast (g ∘ f) l := by
  induction l with
  | nil => rfl
  | cons t r ih =>
    cases r with
    | nil => rfl
    | cons u r =>
      simp only [modLast]
      cases hm : modLast f (u :: r) with
      | nil => exact absurd hm (modLast_ne_nil f _ (by simp))
      | cons v w => simp only [modLast]; rw [← hm, ih]

theorem modLast_id (f : Str → Str) (hf : ∀ x, f x = x) (l : List Tok) : modLast f l = l := by
  induction l with
  | nil => rfl
  | cons t r ih =>
    cases r with
    | nil => simp [modLast, hf]
    | cons u r => simp only [modLast]; rw [ih]

theorem wrapWith_ok (b a : Str) (l : List Tok) (h : l ≠ []) : wrapWith b a l = .ok (wrapAll b a l) := by
  cases l with
  | nil => exact absurd rfl h
  | cons t r => cases r <;> simp [wrapWith, wrapAll, modFirst, modLast]

theorem wrapAll_wrapAll (b1 a1 b2 a2 : Str) (l : List Tok) :
    wrapAll b2 a2 (wrapAll b1 a1 l) = wrapAll (b2 ++ b1) (a1 ++ a2) l := by
  cases l with
  | nil => rfl
  | cons t r =>
    cases r with
    | nil => simp [wrapAll]
    | cons u r =>
      simp only [wrapAll]
      cases hm : modLast (fun x => x ++ a1) (u :: r) with
      | nil => exact absurd hm (modLast_ne_nil _ _ (by simp))
      | cons v w =>
        simp only [List.append_assoc]
        rw [← hm, modLast_modLast]
        congr 2
        funext x
        simp

theorem wrapAll_nil_nil (l : List Tok) : wrapAll [] [] l = l := by
  cases l with
  | nil => rfl
  | cons t r => cases r <;> simp [wrapAll, modLast_id]

theorem wrapWith_bind (b a B A : Str) (k : List Tok → Except Crash (List Tok))
    (hk : ∀ l, l ≠ [] → k l = .ok (wrapAll B A l)) (l : List Tok) (h : l ≠ []) :
    (wrapWith b a l >>= k) = .ok (wrapAll (B ++ b) (a ++ A) l) := by
  rw [wrapWith_ok b a l h, ex_bind_ok, hk _ (wrapAll_ne_nil b a l h), wrapAll_wrapAll]

/-- the strings `getBeforeAfterString` returns for a list of signs -/
def baAll (tb : Tables) : List Str → Except Crash (List (Str × Str))
  | [] => .ok []
  | x :: r => do
    let p ← getBA tb x
    let q ← baAll tb r
    pure (p :: q)

def tagsB : List (Str × List (Str × Str)) → Str
  | [] => []
  | (n, attrs) :: r => tagsB r ++ startTag n attrs
def tagsA : List (Str × List (Str × Str)) → Str
  | [] => []
  | (n, _) :: r => endTag n ++ tagsA r
/-- prefixes accumulate outwards: the last option is outermost -/
def revB : List (Str × Str) → Str
  | [] => []
  | p :: r => revB r ++ p.1
def fwdB : List (Str × Str) → Str
  | [] => []
  | p :: r => p.1 ++ fwdB r
def fwdA : List (Str × Str) → Str
  | [] => []
  | p :: r => p.2 ++ fwdA r

theorem applyTags_eq (tags : List (Str × List (Str × Str))) (l : List Tok) (h : l ≠ []) :
    applyTags tags l = .ok (wrapAll (tagsB tags) (tagsA tags) l) := by
  induction tags generalizing l with
  | nil => simp [applyTags, tagsB, tagsA, wrapAll_nil_nil]
  | cons x r ih =>
    obtain ⟨n, attrs⟩ := x
    exact wrapWith_bind _ _ _ _ _ ih l h

/-- the `a`, `b` and `en`/`ba` loops over signs that resolve to `bas` -/
theorem applySigns_eq (tb : Tables) (signs : List Str) (bas : List (Str × Str)) (hb : baAll tb signs = .ok bas)
    (l : List Tok) (h : l ≠ []) :
    applyA tb signs l = .ok (wrapAll [] (fwdB bas) l) ∧ applyB tb signs l = .ok (wrapAll (revB bas) [] l) ∧
      applyEn tb signs l = .ok (wrapAll (revB bas) (fwdA bas) l) := by
  induction signs generalizing l bas with
  | nil => cases hb; simp [applyA, applyB, applyEn, fwdB, revB, fwdA, wrapAll_nil_nil]
  | cons x r ih =>
    rw [baAll] at hb
    obtain ⟨p, hx, hb⟩ := ex_bind_eq_ok hb
    obtain ⟨q, hq, hb⟩ := ex_bind_eq_ok hb
    cases hb
    simp only [applyA, applyB, applyEn, hx, ex_bind_ok]
    exact ⟨wrapWith_bind [] p.1 [] _ _ (fun l' hl' => (ih q hq l' hl').1) l h,
      wrapWith_bind p.1 [] _ [] _ (fun l' hl' => (ih q hq l' hl').2.1) l h,
      wrapWith_bind p.1 p.2 _ _ _ (fun l' hl' => (ih q hq l' hl').2.2) l h⟩

/-- `poss` then `cap` (lines 331-335) -/
def capPoss (cm : CaseMap) (o : Opts) (l : List Tok) : List Tok :=
  let l := if o.poss then modLast addPoss l else l
  if o.cap = .t then modFirst (capFirst cm) l else l

theorem poss_ne_nil (o : Opts) (l : List Tok) (h : l ≠ []) : (if o.poss then modLast addPoss l else l) ≠ [] := by
  split
  · exact modLast_ne_nil _ _ h
  · exact h

theorem capPoss_ne_nil (cm : CaseMap) (o : Opts) (l : List Tok) (h : l ≠ []) : capPoss cm o l ≠ [] := by
  unfold capPoss
  simp only
  split
  · exact modFirst_ne_nil _ _ (poss_ne_nil o l h)
  · exact poss_ne_nil o l h

theorem possStep_ok (o : Opts) (l : List Tok) (h : l ≠ []) :
    possStep o l = .ok (if o.poss then modLast addPoss l else l) := by
  unfold possStep
  cases l with
  | nil => exact absurd rfl h
  | cons t r => split <;> rfl

theorem capStep_ok (cm : CaseMap) (o : Opts) (l : List Tok) (h : l ≠ []) :
    capStep cm o l = .ok (if o.cap = .t then modFirst (capFirst cm) l else l) := by
  unfold capStep
  cases l with
  | nil => exact absurd rfl h
  | cons t r => split <;> rfl

theorem formatCore_eq (tb : Tables) (cm : CaseMap) (o : Opts) (l : List Tok) (h : l ≠ [])
    (as bs es : List (Str × Str)) (ha : baAll tb (optList o.a) = .ok as) (hb : baAll tb (optList o.b) = .ok bs)
    (he : baAll tb (ensOf o) = .ok es) :
    formatCore tb cm o l =
      .ok (wrapAll (revB es ++ revB bs ++ tagsB (optList o.tags)) (tagsA (optList o.tags) ++ fwdB as ++ fwdA es)
            (capPoss cm o l)) := by
  have hcp := capPoss_ne_nil cm o l h
  have h1 := wrapAll_ne_nil (tagsB (optList o.tags)) (tagsA (optList o.tags)) _ hcp
  have h2 := wrapAll_ne_nil [] (fwdB as) _ h1
  have h3 := wrapAll_ne_nil (revB bs) [] _ h2
  unfold formatCore
  rw [possStep_ok o l h, ex_bind_ok, capStep_ok cm o _ (poss_ne_nil o l h), ex_bind_ok]
  change applyTags (optList o.tags) (capPoss cm o l) >>= _ = _
  rw [applyTags_eq _ _ hcp, ex_bind_ok, (applySigns_eq tb _ as ha _ h1).1,
    ex_bind_ok, (applySigns_eq tb _ bs hb _ h2).2.1, ex_bind_ok, (applySigns_eq tb _ es he _ h3).2.2]
  simp [wrapAll_wrapAll, List.append_assoc]

theorem doFormat_nil (tb : Tables) (cm : CaseMap) (o : Opts) (pre : List Tok → List Tok) :
    doFormat tb cm o pre [] = .ok [] := rfl

theorem doFormat_ne (tb : Tables) (cm : CaseMap) (o : Opts) (pre : List Tok → List Tok) (l : List Tok)
    (h : removeEmpty l ≠ []) : doFormat tb cm o pre l = formatCore tb cm o (pre (removeEmpty l)) := by
  unfold doFormat
  split
  · rename_i e; exact absurd e h
  · rfl

end Pyrealb.Format
