import Pyrealb.Lemmas.ElisionWords
/-! English: the pass does not raise, and one pass of `a -> an` (and of the contraction branch) leaves every pair
    settled, under the side conditions of the input.  Same plan as the French pass (`ElisionStep`, `ElisionPass`):
    what one iteration guarantees, then the recursion over the list. -/
namespace Pyrealb.Elision
open Pyrealb Pyrealb.Gen.Elision

/-- the results of the contraction table are words, alike to their first part for the a/an rule, and no article -/
theorem fact_en_contr : ∀ kv ∈ contractionEnTable,
    kv.2 ≠ [] ∧ kv.2.all (isWd .en) = true ∧ anRule kv.2 = anRule (firstPart kv.1) ∧
    [['a'], ['A'], ['a', 'n'], ['A', 'n']].contains kv.2 = false := by decide +kernel

theorem fact_en_an : anRule ['a', 'n'] = anRule ['a'] ∧ anRule ['A', 'n'] = anRule ['A'] ∧
    anRule ['c', 'a', 'n', '\'', 't'] = anRule ['c', 'a', 'n', 'n', 'o', 't'] ∧
    (['c', 'a', 'n', '\'', 't'] : Str).all (isWd .en) = true := by decide +kernel

theorem contrEn_first (w1 w2 c : Str) (hw : ∀ x ∈ w1, isWd .en x = true) (h : contrEn w1 w2 = some c) :
    c ≠ [] ∧ (∀ x ∈ c, isWd .en x = true) ∧ anRule c = anRule w1 ∧ [['a'], ['A'], ['a', 'n'], ['A', 'n']].contains c = false := by
  obtain ⟨g1, g2, g3, g4⟩ := fact_en_contr _ (lookup_mem _ _ _ h)
  rw [(split_plus .en w1 w2 hw).1] at g3
  exact ⟨g1, List.all_eq_true.mp g2, g3, g4⟩

theorem wf_isSome (toks : List Tok) (hwf : TokWF toks) : ∀ t ∈ toks, t.real.isSome = true := by
  intro t ht
  have := hwf t ht
  simp only [tokWF, Bool.and_eq_true] at this
  exact this.1.1

theorem pairOKEn_none_left (t b : Tok) (h : view .en t = none) : pairOKEn t b = true := by
  rw [pairOKEn, h]
theorem pairOKEn_none_right (t b : Tok) (h : view .en t = none) : pairOKEn b t = true := by
  rw [pairOKEn, h]; cases view .en b <;> rfl

/-- the clause on `an` is the backward clause; the clause on `a` reads the test of the loop -/
theorem pairOKEn_eq {t1 t2 : Tok} {v1 v2 : View} (hv1 : view .en t1 = some v1) (hv2 : view .en t2 = some v2) :
    pairOKEn t1 t2 = ((!isArtA t1 v1.w || !anRule v2.w) && bwdPairEn t1 t2) := by
  simp only [pairOKEn, bwdPairEn, isArtA, hv1, hv2]
  cases t1.ct == ['D'] <;> cases t1.fr <;> cases (v1.w == ['a'] || v1.w == ['A']) <;> rfl

/-- a token whose first word is not `a`/`A`/`an`/`An` imposes nothing on its right neighbour -/
theorem pairOKEn_not_article (a b : Tok) (va : View) (hva : view .en a = some va)
    (h : [['a'], ['A'], ['a', 'n'], ['A', 'n']].contains va.w = false) : pairOKEn a b = true := by
  cases hb : view .en b with
  | none => exact pairOKEn_none_right _ _ hb
  | some vb =>
    have h' : va.w ≠ ['a'] ∧ va.w ≠ ['A'] ∧ va.w ≠ ['a', 'n'] ∧ va.w ≠ ['A', 'n'] := by
      refine ⟨?_, ?_, ?_, ?_⟩ <;> (intro e; rw [e] at h; revert h; decide)
    simp [pairOKEn, hva, hb, h'.1, h'.2.1, h'.2.2.1, h'.2.2.2]

/-- the rewritten head: same token, or a token whose first word is alike for the a/an rule -/
def RewEn (t h : Tok) : Prop :=
  h = t ∨ ∃ v vh, view .en t = some v ∧ view .en h = some vh ∧ anRule vh.w = anRule v.w

theorem pairOKEn_transfer (t1 t2 h : Tok) (hr : RewEn t2 h) (hok : pairOKEn t1 t2 = true) : pairOKEn t1 h = true := by
  rcases hr with rfl | ⟨v, vh, hv, hvh, ha⟩
  · exact hok
  · cases hv1 : view .en t1 with
    | none => exact pairOKEn_none_left _ _ hv1
    | some v1 =>
      simp only [pairOKEn, hv1, hv] at hok
      simp only [pairOKEn, hv1, hvh, ha]
      exact hok

theorem stepEn_total (contr : Bool) (t1 t2 : Tok) (r1 : t1.real.isSome = true) (r2 : t2.real.isSome = true) :
    ∃ act, stepEn contr t1 t2 = .ok act := by
  obtain ⟨x1, h1⟩ := Option.isSome_iff_exists.mp r1
  obtain ⟨x2, h2⟩ := Option.isSome_iff_exists.mp r2
  simp only [stepEn, h1, h2]
  cases view .en t1 with
  | none => exact ⟨_, rfl⟩
  | some v1 => cases view .en t2 with
    | none => exact ⟨_, rfl⟩
    | some v2 => exact ⟨_, rfl⟩

/-- what an iteration guarantees of the tokens it passes on (as `StepOK` for French) -/
def StepOKEn (t1 t2 : Tok) (t3 : Option Tok) : ActEn → Prop
  | .keep => ∀ h, RewEn t2 h → pairOKEn t1 h = true
  | .one a => RewEn t1 a ∧ ∀ h, pairOKEn a h = true
  | .two a b => RewEn t1 a ∧ pairOKEn a b = true ∧ ∀ t h, t3 = some t → RewEn t h → pairOKEn b h = true

theorem stepEn_sound (contr : Bool) (t1 t2 : Tok) (t3 : Option Tok) (r1 : t1.real.isSome = true)
    (r2 : t2.real.isSome = true) (hb : bwdPairEn t1 t2 = true) (ht : tameWinEn contr t1 t2 t3 = true) :
    ∃ act, stepEn contr t1 t2 = .ok act ∧ StepOKEn t1 t2 t3 act := by
  obtain ⟨x1, hx1⟩ := Option.isSome_iff_exists.mp r1
  obtain ⟨x2, hx2⟩ := Option.isSome_iff_exists.mp r2
  have keep : pairOKEn t1 t2 = true → StepOKEn t1 t2 t3 .keep := fun hok h hr => pairOKEn_transfer t1 t2 h hr hok
  rcases Option.eq_none_or_eq_some (view .en t1) with hv1 | ⟨v1, hv1⟩
  · exact ⟨.keep, by simp [stepEn, hx1, hv1], keep (pairOKEn_none_left _ _ hv1)⟩
  rcases Option.eq_none_or_eq_some (view .en t2) with hv2 | ⟨v2, hv2⟩
  · exact ⟨.keep, by simp [stepEn, hx1, hx2, hv1, hv2], keep (pairOKEn_none_right _ _ hv2)⟩
  have hst : stepEn contr t1 t2 = .ok (stepEnCore contr t1 t2 v1 v2) := by simp [stepEn, hx1, hx2, hv1, hv2]
  rw [hst]
  have wd1 := (view_wd _ _ _ hv1).2
  simp only [tameWinEn, hv1, hv2, Bool.and_eq_true] at ht
  obtain ⟨T1, T2⟩ := ht
  unfold stepEnCore
  by_cases cA : isArtA t1 v1.w = true
  · rw [if_pos cA]
    have hw : v1.w = ['a'] ∨ v1.w = ['A'] := by
      simp only [isArtA, Bool.and_eq_true, Bool.or_eq_true, beq_iff_eq] at cA
      exact cA.1.1
    by_cases cR : anRule v2.w = true
    · -- a -> an : `an` stands before a word selected by the rule, and the pair jumped is settled
      rw [if_pos cR]
      have hw' : ∀ c ∈ v1.w ++ ['n'], isWd .en c = true := by
        intro c hc
        cases List.mem_append.mp hc with
        | inl h => exact wd1 c h
        | inr h => rw [List.mem_singleton.mp h]; decide
      have hva := view_setReal .en t1 v1 hv1 (v1.w ++ ['n']) (by simp) hw'
      have hAn : anRule (v1.w ++ ['n']) = anRule v1.w := by
        rcases hw with h | h <;> rw [h]
        · exact fact_en_an.1
        · exact fact_en_an.2.1
      refine ⟨_, rfl, Or.inr ⟨v1, _, hv1, hva, hAn⟩, ?_, ?_⟩
      · simp only [pairOKEn, hva, hv2, cR]
        rcases hw with h | h <;> rw [h] <;> simp
      · intro t3' h3 e hr3
        simp only [cA, cR, Bool.and_self, Bool.not_true, Bool.false_or, e] at T1
        exact pairOKEn_transfer t2 t3' h3 hr3 T1
    · rw [if_neg cR]
      refine ⟨_, rfl, keep ?_⟩
      have cR' : anRule v2.w = false := by simpa using cR
      rw [pairOKEn_eq hv1 hv2, cA, cR', hb]; rfl
  · rw [if_neg cA]
    have cA' : isArtA t1 v1.w = false := by simpa using cA
    -- t1 is not the article a/A: the first clause is vacuous, the second one is the backward hypothesis
    have hok12 : pairOKEn t1 t2 = true := by rw [pairOKEn_eq hv1 hv2, cA', hb]; rfl
    cases contr with
    | false => exact ⟨_, rfl, keep hok12⟩
    | true =>
      rw [if_pos rfl]
      by_cases cC : (v1.w == ['c', 'a', 'n', 'n', 'o', 't']) = true
      · -- cannot -> can't : token i rewritten, i += 1
        rw [if_pos cC]
        have hva := view_setReal .en t1 v1 hv1 ['c', 'a', 'n', '\'', 't'] (by simp) (List.all_eq_true.mp fact_en_an.2.2.2)
        refine ⟨_, rfl, Or.inr ⟨v1, _, hv1, hva, ?_⟩, fun h => pairOKEn_not_article _ h _ hva
          (show [['a'], ['A'], ['a', 'n'], ['A', 'n']].contains ['c', 'a', 'n', '\'', 't'] = false by decide)⟩
        rw [beq_iff_eq.mp cC]; exact fact_en_an.2.2.1
      · rw [if_neg cC]
        cases hcf : contrEn v1.w v2.w with
        | none => exact ⟨_, rfl, keep hok12⟩
        | some c =>
          obtain ⟨c1, c2, c3, c4⟩ := contrEn_first v1.w v2.w c wd1 hcf
          have hva := view_setReal .en t1 v1 hv1 c c1 c2
          have hvb : view .en (t2.setReal (v2.pre ++ strip v2.rest)) = none := by
            have cC2 : v1.w ≠ ['c', 'a', 'n', 'n', 'o', 't'] := by simpa using cC
            simpa [cA', cC2, hcf] using T2
          exact ⟨_, rfl, Or.inr ⟨v1, _, hv1, hva, c3⟩, pairOKEn_not_article _ _ _ hva c4,
            fun _ h _ _ => pairOKEn_none_left _ h hvb⟩

def HeadOKEn : List Tok → List Tok → Prop
  | [], [] => True
  | t :: _, h :: _ => RewEn t h
  | _, _ => False

theorem HeadOKEn.cons {t : Tok} {r out : List Tok} (h : HeadOKEn (t :: r) out) : ∃ h' l, out = h' :: l ∧ RewEn t h' := by
  cases out with
  | nil => exact h.elim
  | cons h' l => exact ⟨h', l, rfl, h⟩

/-- the `lier` exemption is French -/
theorem settledFrom_en (pl : Bool) (a b : Tok) (l : List Tok) :
    settledFrom .en pl (a :: b :: l) = (pairOKEn a b && settledFrom .en false (b :: l)) := by
  cases l <;> rfl

theorem bwdFromEn_tail (t : Tok) (r : List Tok) (h : bwdFromEn (t :: r) = true) : bwdFromEn r = true := by
  cases r with
  | nil => rfl
  | cons x r' => exact (Bool.and_eq_true _ _ ▸ h).2

theorem tameFromEn_tail (c : Bool) (t : Tok) (r : List Tok) (h : tameFromEn c (t :: r) = true) : tameFromEn c r = true := by
  cases r with
  | nil => rfl
  | cons x r' => exact (Bool.and_eq_true _ _ ▸ h).2

/-- the English loop has no raising branch once every realization is a string -/
theorem goEn_total (contr : Bool) : ∀ toks : List Tok, (∀ t ∈ toks, t.real.isSome = true) →
    ∃ out, goEn contr toks = .ok out
  | [], _ => ⟨[], rfl⟩
  | [t], _ => ⟨[t], rfl⟩
  | t1 :: t2 :: rest, hs => by
    obtain ⟨r1, hs1⟩ := List.forall_mem_cons.mp hs
    obtain ⟨r2, hs2⟩ := List.forall_mem_cons.mp hs1
    obtain ⟨l1, h1⟩ := goEn_total contr (t2 :: rest) hs1
    obtain ⟨l2, h2⟩ := goEn_total contr rest hs2
    obtain ⟨act, ha⟩ := stepEn_total contr t1 t2 r1 r2
    cases act with
    | keep => exact ⟨t1 :: l1, by simp [goEn, ha, h1]⟩
    | one a => exact ⟨a :: l1, by simp [goEn, ha, h1]⟩
    | two a b => exact ⟨a :: b :: l2, by simp [goEn, ha, h2]⟩

theorem goEn_settles (contr : Bool) : ∀ toks : List Tok, (∀ t ∈ toks, t.real.isSome = true) →
    bwdFromEn toks = true → tameFromEn contr toks = true →
    ∃ out, goEn contr toks = .ok out ∧ settledFrom .en false out = true ∧ HeadOKEn toks out
  | [], _, _, _ => ⟨[], rfl, rfl, trivial⟩
  | [t], _, _, _ => ⟨[t], rfl, rfl, Or.inl rfl⟩
  | t1 :: t2 :: rest, hs, hbwd, htame => by
    obtain ⟨r1, hs1⟩ := List.forall_mem_cons.mp hs
    obtain ⟨r2, hs2⟩ := List.forall_mem_cons.mp hs1
    have bTail := bwdFromEn_tail t1 (t2 :: rest) hbwd
    have tTail := tameFromEn_tail contr t1 (t2 :: rest) htame
    obtain ⟨l, hgo1, hset1, hhead1⟩ := goEn_settles contr (t2 :: rest) hs1 bTail tTail
    obtain ⟨h2, l', rfl, hrew2⟩ := hhead1.cons
    simp only [bwdFromEn, tameFromEn, Bool.and_eq_true] at hbwd htame
    obtain ⟨act, hst, hok⟩ := stepEn_sound contr t1 t2 rest.head? r1 r2 hbwd.1 htame.1
    cases act with
    | keep =>
      exact ⟨t1 :: h2 :: l', by simp [goEn, hst, hgo1], by rw [settledFrom_en, hok h2 hrew2, hset1]; rfl, Or.inl rfl⟩
    | one a =>
      exact ⟨a :: h2 :: l', by simp [goEn, hst, hgo1], by rw [settledFrom_en, hok.2 h2, hset1]; rfl, hok.1⟩
    | two a b =>
      obtain ⟨hrewA, hokab, hnext⟩ := hok
      obtain ⟨l3, hgo3, hset3, hhead3⟩ := goEn_settles contr rest hs2 (bwdFromEn_tail t2 rest bTail)
        (tameFromEn_tail contr t2 rest tTail)
      refine ⟨a :: b :: l3, by simp [goEn, hst, hgo3], ?_, hrewA⟩
      rw [settledFrom_en, hokab, Bool.true_and]
      cases rest with
      | nil => cases hgo3; rfl
      | cons t3 r3 =>
        obtain ⟨h3, l3', rfl, hrew3⟩ := hhead3.cons
        rw [settledFrom_en, hnext t3 h3 rfl hrew3, hset3]; rfl

end Pyrealb.Elision
