import Pyrealb.Model.HeapLink
/-! # Runs of assignments (`Heap.exec`) for the agreement theorems (C03)

* star-shaped runs (`exec_star`): when every pointer read goes through the slot of ONE node `c` (the controller),
  exactly the written `peng` slots end up holding the controller's record, whatever the order and number of the
  assignments, and the field `n` of that record is the value of the last `writeN`.  `StarRun` says of a piece of a
  plan that it has this shape, which slots it writes and which numbers.
* runs with several sources (Dependent.linkProperties): the last writer decides (`exec_last_writer`). -/
namespace Pyrealb.Agree
open Pyrealb Pyrealb.Heap

/-- the node whose `peng` slot the assignment writes -/
def pengTarget : Act → Option Nat
  | .setPeng _ x _ => some x
  | .fresh x _ => some x
  | _ => none

def pengTargets (acts : List Act) : List Nat := acts.filterMap pengTarget

/-- values written to the field `n` of a record, in order -/
def nWrite : Act → Option Val
  | .writeN _ _ v => some v
  | _ => none

def nWrites (acts : List Act) : List Val := acts.filterMap nWrite

/-- star-shaped assignment: its pointer read (if any) is the slot of `c`; no allocation; the only test is whether `c`
    has a record -/
def Star (c : Nat) : Act → Prop
  | .setPeng _ _ y => y = c
  | .writeN _ y _ => y = c
  | .fresh _ _ => False
  | .guardHas o => o = c
  | _ => True

/-- no `guardHas` (the run cannot end early) -/
def NoGuard (acts : List Act) : Prop := ∀ a ∈ acts, ∀ o, a ≠ .guardHas o

theorem pengTargets_cons (a : Act) (as : List Act) :
    pengTargets (a :: as) = (pengTarget a).toList ++ pengTargets as := by
  simp only [pengTargets, List.filterMap_cons]
  cases pengTarget a <;> rfl

theorem pengTargets_append (a b : List Act) : pengTargets (a ++ b) = pengTargets a ++ pengTargets b :=
  List.filterMap_append

theorem pengTargets_flatMap {α} (l : List α) (f : α → List Act) :
    pengTargets (l.flatMap f) = l.flatMap (fun x => pengTargets (f x)) :=
  List.filterMap_flatMap

theorem stops_false_of_ne (a : Act) (pg : Nat → Option Nat) (hn : ∀ o, a ≠ .guardHas o) : a.stops pg = false := by
  cases a <;> first | rfl | exact absurd rfl (hn _)

theorem exec_cons_ok {st h' : Heap} {a : Act} {as : List Act} (hex : exec st (a :: as) = .ok h') :
    (a.stops st.peng = true ∧ h' = st) ∨ ∃ st1, step st a = .ok st1 ∧ exec st1 as = .ok h' := by
  simp only [exec] at hex
  split at hex
  · next hs => cases hex; exact Or.inl ⟨hs, rfl⟩
  · cases hst : step st a with
    | error e => rw [hst] at hex; cases hex
    | ok st1 => rw [hst] at hex; exact Or.inr ⟨st1, rfl, hex⟩

theorem step_peng_other {st st' : Heap} {a : Act} (hs : step st a = .ok st') {x : Nat}
    (hx : pengTarget a ≠ some x) : st'.peng x = st.peng x := by
  have hupd : ∀ (y : Nat) (v : Option Nat), pengTarget a = some y → upd st.peng y v x = st.peng x := by
    intro y v hy
    exact upd_other _ _ _ _ (fun e => hx (e ▸ hy))
  unfold step at hs
  (repeat' split at hs) <;> cases hs <;> first | rfl | exact hupd _ _ rfl

theorem step_star {c r : Nat} {st st' : Heap} {a : Act} (ha : Star c a) (hc : st.peng c = some r)
    (hs : step st a = .ok st') :
    st'.peng = (pengTarget a).elim st.peng (fun x => upd st.peng x (some r)) ∧
    (st'.prec r).n = (match nWrite a with | some v => some v | none => (st.prec r).n) := by
  cases a with
  | setPeng s x y => cases ha; simp only [step, hc] at hs; cases hs; exact ⟨rfl, rfl⟩
  | writeN s y v => cases ha; simp only [step, hc] at hs; cases hs; exact ⟨rfl, by simp [nWrite]⟩
  | fresh x i => exact ha.elim
  | copyG s t y =>
    simp only [step] at hs
    (repeat' split at hs) <;> cases hs <;> refine ⟨rfl, ?_⟩
    · rfl
    · next rt _ =>
      -- only the field `g` of one record changes
      by_cases hr : r = rt
      · subst hr; simp [nWrite]
      · simp [nWrite, hr]
  | _ => simp only [step] at hs; (repeat' split at hs) <;> cases hs <;> exact ⟨rfl, rfl⟩

theorem exec_star (c r : Nat) : ∀ (acts : List Act) (h h' : Heap),
    (∀ a ∈ acts, Star c a) → h.peng c = some r → exec h acts = .ok h' →
    (∀ x, h'.peng x = if x ∈ pengTargets acts then some r else h.peng x) ∧
    (h'.prec r).n = (match (nWrites acts).getLast? with | some v => some v | none => (h.prec r).n) := by
  intro acts
  induction acts with
  | nil =>
    intro h h' _ _ hex
    cases hex
    exact ⟨fun x => by simp [pengTargets], rfl⟩
  | cons a as ih =>
    intro h h' hstar hc hex
    have ha : Star c a := hstar a List.mem_cons_self
    rcases exec_cons_ok hex with ⟨hs, _⟩ | ⟨h1, hst, hex1⟩
    · -- the guard tests the controller, which has a record
      cases a <;> first | cases hs | (cases ha; simp [Act.stops, hc] at hs)
    · obtain ⟨hp, hn⟩ := step_star ha hc hst
      have hc1 : h1.peng c = some r := by
        rw [hp]
        cases pengTarget a with
        | none => exact hc
        | some y => simp only [Option.elim, upd]; split <;> first | rfl | exact hc
      obtain ⟨i1, i2⟩ := ih h1 h' (fun b hb => hstar b (List.mem_cons_of_mem _ hb)) hc1 hex1
      constructor
      · intro x
        rw [i1 x, hp, pengTargets_cons]
        cases pengTarget a with
        | none => rfl
        | some y => by_cases hxy : x = y <;> by_cases hxT : x ∈ pengTargets as <;> simp [hxy, hxT, upd]
      · rw [i2, hn]
        simp only [nWrites, List.filterMap_cons]
        cases nWrite a with
        | none => rfl
        | some v =>
          simp only [List.getLast?_cons]
          cases (List.filterMap nWrite as).getLast? <;> rfl

/-- a piece of a plan that is star-shaped around `c`, re-points the slots `T` and writes the numbers `W` -/
structure StarRun (c : Nat) (acts : List Act) (T : List Nat) (W : List Val) : Prop where
  star : ∀ a ∈ acts, Star c a
  targets : pengTargets acts = T
  writes : nWrites acts = W

namespace StarRun
variable {c : Nat}

theorem nil : StarRun c [] [] [] := ⟨by simp, rfl, rfl⟩

theorem link (s : Bool) (x : Nat) : StarRun c [.setPeng s x c] [x] [] :=
  ⟨fun _ ha => by cases List.mem_singleton.mp ha; rfl, rfl, rfl⟩

theorem num (s : Bool) (v : Val) : StarRun c [.writeN s c v] [] [v] :=
  ⟨fun _ ha => by cases List.mem_singleton.mp ha; rfl, rfl, rfl⟩

theorem skip (a : Act) (hs : Star c a := by trivial) (ht : pengTarget a = none := by rfl)
    (hw : nWrite a = none := by rfl) : StarRun c [a] [] [] :=
  ⟨fun _ hb => by cases List.mem_singleton.mp hb; exact hs,
   by rw [pengTargets_cons, ht]; rfl,
   by rw [nWrites, List.filterMap_cons, hw]; rfl⟩

theorem append {a b : List Act} {T T' : List Nat} {W W' : List Val} (ha : StarRun c a T W)
    (hb : StarRun c b T' W') : StarRun c (a ++ b) (T ++ T') (W ++ W') :=
  ⟨fun x hx => (List.mem_append.mp hx).elim (ha.star x) (hb.star x),
   by rw [pengTargets_append, ha.targets, hb.targets],
   by rw [nWrites, List.filterMap_append]; exact congr (congrArg _ ha.writes) hb.writes⟩

theorem appendInert {a b : List Act} {T : List Nat} {W : List Val} (ha : StarRun c a T W)
    (hb : StarRun c b [] []) : StarRun c (a ++ b) T W := by
  have := ha.append hb
  rwa [List.append_nil, List.append_nil] at this

theorem flatMap {α} {l : List α} {f : α → List Act} {g : α → List Nat}
    (hf : ∀ x ∈ l, StarRun c (f x) (g x) []) : StarRun c (l.flatMap f) (l.flatMap g) [] := by
  induction l with
  | nil => exact nil
  | cons x xs ih => exact append (hf x List.mem_cons_self) (ih fun y hy => hf y (List.mem_cons_of_mem _ hy))

theorem filter (s : Bool) (q : Nat → Bool) (l : List Nat) :
    StarRun c (l.flatMap fun e => if q e then [.setPeng s e c] else []) (l.filter q) [] := by
  induction l with
  | nil => exact nil
  | cons e l ih =>
    rw [List.flatMap_cons, List.filter_cons]
    split
    · exact append (link s e) ih
    · exact ih

/-- a test on which only the plan branches -/
theorem iteActs {q : Prop} [Decidable q] {a b : List Act} {T : List Nat} {W : List Val}
    (h1 : q → StarRun c a T W) (h2 : ¬ q → StarRun c b T W) : StarRun c (if q then a else b) T W := by
  split
  · exact h1 ‹_›
  · exact h2 ‹_›

/-- plan and specification branch on the same test -/
theorem ite {q : Prop} [Decidable q] {a b : List Act} {T T' : List Nat} {W : List Val}
    (h1 : q → StarRun c a T W) (h2 : ¬ q → StarRun c b T' W) :
    StarRun c (if q then a else b) (if q then T else T') W := by
  split
  · exact h1 ‹_›
  · exact h2 ‹_›

end StarRun

theorem exec_append (a b : List Act) (hg : NoGuard a) (h : Heap) :
    exec h (a ++ b) = (exec h a).bind (fun st => exec st b) := by
  induction a generalizing h with
  | nil => rfl
  | cons x xs ih =>
    simp only [List.cons_append, exec, stops_false_of_ne x h.peng (hg x List.mem_cons_self)]
    cases step h x with
    | error e => rfl
    | ok h1 => exact ih (fun y hy => hg y (List.mem_cons_of_mem _ hy)) h1

theorem exec_append_ok (a b : List Act) (hg : NoGuard a) (h st h' : Heap) (h1 : exec h a = .ok st)
    (h2 : exec st b = .ok h') : exec h (a ++ b) = .ok h' := by
  rw [exec_append a b hg, h1]
  exact h2

theorem exec_peng_notTarget (x : Nat) : ∀ (acts : List Act) (h h' : Heap), x ∉ pengTargets acts →
    exec h acts = .ok h' → h'.peng x = h.peng x := by
  intro acts
  induction acts with
  | nil => intro h h' _ hex; cases hex; rfl
  | cons a as ih =>
    intro h h' hx hex
    rcases exec_cons_ok hex with ⟨_, rfl⟩ | ⟨h1, hst, hex1⟩
    · rfl
    · rw [pengTargets_cons] at hx
      rw [ih h1 h' (fun hm => hx (List.mem_append_right _ hm)) hex1,
        step_peng_other hst fun e => hx (by rw [e]; exact List.mem_cons_self)]

/-- **last writer.**  If the last assignment that targets `x` is `x.peng = y.peng` and nothing targets `y`, then `x`
    holds at the end the record `y` held before the run. -/
theorem exec_last_writer (A B : List Act) (s : Bool) (x y r : Nat) (h h' : Heap) {acts : List Act}
    (hacts : acts = A ++ .setPeng s x y :: B) (hg : NoGuard acts) (hy : y ∉ pengTargets acts)
    (hr : h.peng y = some r) (hB : x ∉ pengTargets B) (hex : exec h acts = .ok h') : h'.peng x = some r := by
  subst hacts
  rw [exec_append A _ fun a ha => hg a (List.mem_append_left _ ha)] at hex
  cases hst : exec h A with
  | error e => rw [hst] at hex; cases hex
  | ok st =>
    have hyA : y ∉ pengTargets A := fun hm => hy (by rw [pengTargets_append]; exact List.mem_append_left _ hm)
    rw [hst] at hex
    simp only [Except.bind, exec, Act.stops, step, exec_peng_notTarget y A h st hyA hst, hr] at hex
    rw [exec_peng_notTarget x B _ h' hB (by simpa using hex)]
    simp [upd]

end Pyrealb.Agree
