import Pyrealb.Model.Heap
/-! # The pointer part of a store and the effect of a run of assignments on it

`Ptr` is the part of the store that `linkProperties` writes: the `peng`/`taux` slots of the nodes, the contents of the
shared records, `cod`, `subject`.  `execP` is `Heap.exec` restricted to that part, for plans made of pointer
assignments only (no allocation, no `morphoError`): the form on which absorption is proved. -/
namespace Pyrealb.Heap
open Pyrealb

structure Ptr where
  peng : Nat → Option Nat
  taux : Nat → Option Nat
  prec : Nat → PRec
  trec : Nat → TRec
  cod : Nat → Option Nat
  subject : Nat → Option (Option Nat)

def Heap.ptr (h : Heap) : Ptr :=
  { peng := h.peng, taux := h.taux, prec := h.prec, trec := h.trec, cod := h.cod, subject := h.subject }

def Heap.withPtr (h : Heap) (q : Ptr) : Heap :=
  { h with peng := q.peng, taux := q.taux, prec := q.prec, trec := q.trec, cod := q.cod, subject := q.subject }

theorem Heap.withPtr_withPtr (h : Heap) (q q' : Ptr) : (h.withPtr q).withPtr q' = h.withPtr q' := rfl
@[simp] theorem Heap.ptr_withPtr (h : Heap) (q : Ptr) : (h.withPtr q).ptr = q := rfl
@[simp] theorem Heap.withPtr_ptr (h : Heap) : h.withPtr h.ptr = h := rfl

/-- assignments that only move pointers and write record fields (what every plan of the fragment consists of,
    except the allocation of CP/coord and `morphoError`) -/
def Act.pure : Act → Bool
  | .fresh _ _ => false
  | .morphoError _ => false
  | _ => true

def stepP (q : Ptr) : Act → Except Crash Ptr
  | .setPeng strict x y =>
    match q.peng y with
    | some r => .ok { q with peng := upd q.peng x (some r) }
    | none => if strict then .error .attributeError else .ok q
  | .setTaux strict x y =>
    match q.taux y with
    | some r => .ok { q with taux := upd q.taux x (some r) }
    | none => if strict then .error .attributeError else .ok q
  | .writeN strict y v =>
    match q.peng y with
    | some r => .ok { q with prec := upd q.prec r { q.prec r with n := some v } }
    | none => if strict then .error .attributeError else .ok q
  | .copyG strict t y =>
    match q.peng y with
    | none => if strict then .error .attributeError else .ok q
    | some r =>
      match (q.prec r).g with
      | none => .error .keyError
      | some gv =>
        match q.peng t with
        | none => .error .attributeError
        | some rt => .ok { q with prec := upd q.prec rt { q.prec rt with g := some gv } }
  | .setCod x y => .ok { q with cod := upd q.cod x (some y) }
  | .setSubject x y => .ok { q with subject := upd q.subject x (some y) }
  | .crash c => .error c
  | _ => .ok q

def execP : Ptr → List Act → Except Crash Ptr
  | q, [] => .ok q
  | q, a :: as =>
    if a.stops q.peng then .ok q
    else
    match stepP q a with
    | .error c => .error c
    | .ok q' => execP q' as

theorem step_pure (h : Heap) (a : Act) (ha : a.pure = true) : step h a = (stepP h.ptr a).map h.withPtr := by
  cases a with
  | setPeng strict x y => simp only [step, stepP, Heap.ptr]; cases h.peng y <;> cases strict <;> rfl
  | setTaux strict x y => simp only [step, stepP, Heap.ptr]; cases h.taux y <;> cases strict <;> rfl
  | writeN strict y v => simp only [step, stepP, Heap.ptr]; cases h.peng y <;> cases strict <;> rfl
  | copyG strict t y =>
    simp only [step, stepP, Heap.ptr]
    cases h.peng y with
    | none => cases strict <;> rfl
    | some r =>
      dsimp only
      cases (h.prec r).g with
      | none => rfl
      | some gv => dsimp only; cases h.peng t <;> rfl
  | fresh x i => cases ha
  | morphoError x => cases ha
  | setCod x y => rfl
  | setSubject x y => rfl
  | guardHas o => rfl
  | crash c => rfl

theorem exec_pure (h : Heap) (acts : List Act) (hp : ∀ a ∈ acts, a.pure = true) :
    exec h acts = (execP h.ptr acts).map h.withPtr := by
  induction acts generalizing h with
  | nil => rfl
  | cons a as ih =>
    simp only [exec, execP, step_pure h a (hp a List.mem_cons_self)]
    by_cases hc : a.stops h.peng = true
    · rw [if_pos hc, if_pos (show a.stops h.ptr.peng = true from hc)]; rfl
    · rw [if_neg hc, if_neg (show ¬ a.stops h.ptr.peng = true from hc)]
      cases stepP h.ptr a with
      | error c => rfl
      | ok q =>
        show exec (h.withPtr q) as = _
        rw [ih (h.withPtr q) fun b hb => hp b (List.mem_cons_of_mem _ hb)]
        cases execP q as <;> rfl

end Pyrealb.Heap
