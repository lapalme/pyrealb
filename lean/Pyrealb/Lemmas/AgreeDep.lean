import Pyrealb.Lemmas.AgreeNP
/-! # `Dependent.linkProperties` establishes the declarative goals (`depGoals`)

The assignments of a dependency node have several sources (the node itself, a subject dependent, the head terminal), so
the argument is "last writer": the last assignment that targets a node reads a source that nothing has re-pointed
before, and nothing targets the node afterwards — which is where the TREE hypothesis (`DepTree`) is used. -/
namespace Pyrealb.Agree
open Pyrealb Pyrealb.Heap

/-- no test that can end the run, and only slots of nodes in `T` are re-pointed -/
def Within (T : List Nat) (acts : List Act) : Prop := NoGuard acts ∧ ∀ x ∈ pengTargets acts, x ∈ T

namespace Within
variable {T : List Nat}

theorem nil : Within T [] := And.intro (fun _ ha => nomatch ha) (fun _ hx => nomatch hx)

theorem link {x : Nat} (hx : x ∈ T) (s : Bool) (y : Nat) : Within T [.setPeng s x y] :=
  ⟨fun _ ha => by cases List.mem_singleton.mp ha; exact fun _ => nofun,
   fun _ hz => by cases List.mem_singleton.mp hz; exact hx⟩

theorem inert (a : Act) (hg : ∀ o, a ≠ .guardHas o := by exact fun _ => nofun)
    (ht : pengTarget a = none := by rfl) : Within T [a] :=
  ⟨fun _ hb => by cases List.mem_singleton.mp hb; exact hg,
   fun x hx => by rw [pengTargets_cons, ht] at hx; nomatch hx⟩

theorem append {a b : List Act} (ha : Within T a) (hb : Within T b) : Within T (a ++ b) :=
  ⟨fun x hx => (List.mem_append.mp hx).elim (ha.1 x) (hb.1 x),
   fun x hx => by rw [pengTargets_append] at hx; exact (List.mem_append.mp hx).elim (ha.2 x) (hb.2 x)⟩

theorem ite {q : Prop} [Decidable q] {a b : List Act} (h1 : q → Within T a) (h2 : ¬ q → Within T b) :
    Within T (if q then a else b) := by
  split
  · exact h1 ‹_›
  · exact h2 ‹_›

theorem flatMap {α} {l : List α} {f : α → List Act} (hf : ∀ x ∈ l, Within T (f x)) : Within T (l.flatMap f) := by
  induction l with
  | nil => exact nil
  | cons x xs ih => exact append (hf x List.mem_cons_self) (ih fun y hy => hf y (List.mem_cons_of_mem _ hy))

end Within

/-- where the source of a goal may be: the node itself, or a subject dependent -/
def SrcOK (h : Heap) (p src : Nat) : Prop := src = p ∨ (src ∈ h.kids p ∧ h.kind src = .subj)

/-- `acts` meets the goal: its source is one that no step re-points, and the last assignment to its node copies
    the slot of the source -/
def Met (h : Heap) (p : Nat) (g : DepGoal) (acts : List Act) : Prop :=
  SrcOK h p g.src ∧ ∃ A B s, acts = A ++ .setPeng s g.node g.src :: B ∧ g.node ∉ pengTargets B

theorem Met.head {h : Heap} {p x y : Nat} {s : Bool} {tail : List Act} (hy : SrcOK h p y) (hw : Within [] tail) :
    Met h p ⟨x, y⟩ (.setPeng s x y :: tail) :=
  ⟨hy, [], tail, s, rfl, fun hx => nomatch hw.2 x hx⟩

theorem term_mem_depNodes {h : Heap} {d t : Nat} (ht : (h.node d).term = some t) : t ∈ depNodes h d := by
  rw [depNodes, ht]
  exact List.mem_cons_of_mem _ List.mem_cons_self

theorem kid_mem_depNodes {h : Heap} {d dI : Nat} (hk : dI ∈ h.kids d) : dI ∈ depNodes h d :=
  List.mem_cons_of_mem _ (List.mem_append_right _ (List.mem_flatMap.mpr ⟨dI, hk, List.mem_cons_self⟩))

theorem kidTerm_mem_depNodes {h : Heap} {d dI t : Nat} (hk : dI ∈ h.kids d) (ht : (h.node dI).term = some t) :
    t ∈ depNodes h d :=
  List.mem_cons_of_mem _ (List.mem_append_right _ (List.mem_flatMap.mpr
    ⟨dI, hk, by rw [ht]; exact List.mem_cons_of_mem _ List.mem_cons_self⟩))

/-- the `cod` bookkeeping of a French relative clause -/
def codActs (h : Heap) (p ht dep depTerm : Nat) : List Act :=
  match (h.node p).lang with
  | .en => []
  | .fr =>
    [.setCod depTerm ht] ++
      (if h.lemmaOf depTerm = s "avoir" then
        match depFindIndex h dep (fun dI => h.kind dI = .comp && termKindIs h dI [.V] &&
             (match (h.node dI).term with | some t => h.getProp t Heap.tKey == ppVal | none => false)) with
        | some iVerb =>
          match (h.kids dep)[iVerb]? with
          | some dv => (match (h.node dv).term with | some t => [.setCod t ht] | none => [])
          | none => []
        | none => []
      else [])

/-- what the step does for a `mod`/`comp` dependent whose terminal `depTerm` is a verb -/
def relVerbActs (h : Heap) (p ht dep depTerm : Nat) : List Act :=
  (match relIndex h p dep with
   | some i =>
     (match (h.kids dep)[i]? with
      | some dr => if h.kind dr = .subj then [.setPeng true depTerm p] else []
      | none => []) ++ codActs h p ht dep depTerm
   | none => []) ++
  (match (h.node p).lang with
   | .en => []
   | .fr => if h.getProp depTerm Heap.tKey == ppVal then [.setPeng true depTerm p] else [])

theorem codActs_inert {T : List Nat} (h : Heap) (p ht dep depTerm : Nat) : Within T (codActs h p ht dep depTerm) := by
  unfold codActs
  cases (h.node p).lang with
  | en => exact .nil
  | fr =>
    refine .append (.inert (.setCod depTerm ht)) (.ite (fun _ => ?_) fun _ => .nil)
    cases depFindIndex h dep _ with
    | none => exact .nil
    | some iVerb =>
      dsimp only
      cases (h.kids dep)[iVerb]? with
      | none => exact .nil
      | some dv =>
        dsimp only
        cases (h.node dv).term with
        | none => exact .nil
        | some t => exact .inert (.setCod t ht)

/-- a verb that is not a past participle: only the subject relative re-points it, to the node `p` -/
theorem relVerbActs_run {h : Heap} {p ht dep depTerm : Nat} {T : List Nat} (hT : depTerm ∈ T)
    (hnpp : (h.getProp depTerm Heap.tKey == ppVal) = false) :
    Within T (relVerbActs h p ht dep depTerm) ∧
    ∀ g ∈ (match relIndex h p dep with
        | some i =>
          match (h.kids dep)[i]? with
          | some dr => if h.kind dr = Kind.subj then [(⟨depTerm, p⟩ : DepGoal)] else []
          | none => []
        | none => []), Met h p g (relVerbActs h p ht dep depTerm) := by
  have hcod {T} : Within T (codActs h p ht dep depTerm) := codActs_inert h p ht dep depTerm
  have ha2 : (match (h.node p).lang with
      | .en => []
      | .fr => if h.getProp depTerm Heap.tKey == ppVal then [Act.setPeng true depTerm p] else []) = [] := by
    cases (h.node p).lang with
    | en => rfl
    | fr => dsimp only; rw [hnpp]; rfl
  unfold relVerbActs
  rw [ha2, List.append_nil]
  cases relIndex h p dep with
  | none => exact ⟨.nil, fun g hg => by cases hg⟩
  | some i =>
    dsimp only
    cases (h.kids dep)[i]? with
    | none => exact ⟨.append .nil hcod, fun g hg => by cases hg⟩
    | some dr =>
      dsimp only
      split
      · refine ⟨.append (.link hT true p) hcod, fun g hg => ?_⟩
        cases List.mem_singleton.mp hg
        exact .head (.inl rfl) hcod
      · exact ⟨.append .nil hcod, fun g hg => nomatch hg⟩

/-- **the step of one dependent**: it re-points only the head terminal (a subject dependent) or nodes below the
    dependent (any other), never tests, and for each goal of the dependent the last assignment to the goal's node
    copies the slot of the goal's source -/
theorem planDepStep_run (h : Heap) (p ht dep : Nat) (l : List Act) (hl : planDepStep h p ht dep = some l) :
    Within (if h.kind dep = .subj then [ht] else depNodes h dep) l ∧ ∀ g ∈ depGoalsOf h p ht dep, Met h p g l := by
  unfold planDepStep at hl
  unfold depGoalsOf
  generalize hterm : (h.node dep).term = t at hl
  cases t with
  | none => cases hl
  | some depTerm =>
    have hdT := term_mem_depNodes hterm
    have hdd : dep ∈ depNodes h dep := List.mem_cons_self
    dsimp only at hl ⊢
    -- a lone `x.peng = p.peng`
    have base : ∀ (s : Bool) (x : Nat), x ∈ depNodes h dep →
        Within (depNodes h dep) [.setPeng s x p] ∧ ∀ g ∈ [(⟨x, p⟩ : DepGoal)], Met h p g [.setPeng s x p] :=
      fun s x hx => ⟨.link hx s p, fun g hg => by cases List.mem_singleton.mp hg; exact .head (.inl rfl) .nil⟩
    split at hl
    · next hk =>
      rw [hk, if_pos rfl]
      refine ⟨?_, fun g hg => nomatch hg⟩
      split at hl <;> cases hl
      · exact .link (List.mem_singleton_self _) true dep
      · exact .nil
    · next hk =>
      rw [hk, if_neg (by decide)]
      dsimp only
      by_cases hD : h.kind depTerm = .D
      · rw [if_pos hD] at hl ⊢
        cases hl
        refine ⟨.append (.link hdT false p) (.ite (fun _ => .inert (.morphoError depTerm)) fun _ => .nil),
          fun g hg => ?_⟩
        cases List.mem_singleton.mp hg
        exact .head (.inl rfl) (.ite (fun _ => .inert (.morphoError depTerm)) fun _ => .nil)
      · rw [if_neg hD] at hl ⊢
        refine ⟨?_, fun g hg => nomatch hg⟩
        split at hl <;> cases hl
        · exact .append (.link hdT true ht) (.inert (.writeN true depTerm _))
        · exact .nil
    case h_3 _ hk | h_4 _ hk =>
      -- `mod` and `comp` share one branch of the definition
      rw [hk, if_neg (by decide)]
      dsimp only
      by_cases hA : (decide (h.kind depTerm = .A) || isPP h depTerm) = true
      · -- adjective or participle: `depTerm.peng = p.peng`, then the French attribute rule
        rw [if_pos hA] at hl ⊢
        cases hl
        unfold depAttrSubject
        cases (h.node p).lang with
        | en => exact base false depTerm hdT
        | fr =>
          dsimp only
          split
          · cases depFindIndex h p (fun d0 => decide (h.kind d0 = .subj) && termKindIs h d0 [.N, .Pro]) with
            | none => exact base false depTerm hdT
            | some i =>
              dsimp only
              cases hsd : (h.kids p)[i]? with
              | none => exact base false depTerm hdT
              | some sd =>
                dsimp only
                refine ⟨.append (.link hdT false p) (.link hdT true sd), fun g hg => ?_⟩
                split at hg
                · next hks =>
                  cases List.mem_singleton.mp hg
                  exact ⟨.inr ⟨List.mem_of_getElem? hsd, hks⟩, [.setPeng false depTerm p], [], true, rfl,
                    List.not_mem_nil⟩
                · cases hg
          · exact base false depTerm hdT
      · rw [if_neg hA] at hl ⊢
        by_cases hV : h.kind depTerm = .V
        · rw [if_pos hV] at hl ⊢
          cases hl
          exact relVerbActs_run hdT (by simpa [isPP, hV] using hA)
        · rw [if_neg hV] at hl ⊢
          cases (ite_none_eq_some hl).2
          exact ⟨.nil, fun g hg => nomatch hg⟩
    · next hk =>
      cases hl
      rw [hk]
      exact ⟨.nil, fun g hg => nomatch hg⟩
    · next hk =>
      rw [hk, if_neg (by decide)]
      dsimp only
      generalize (h.kids dep).head? = fd at hl
      cases fd with
      | none => cases hl; exact ⟨.nil, fun g hg => nomatch hg⟩
      | some firstDep =>
        dsimp only at hl ⊢
        by_cases hfs : h.kind firstDep = .subj
        · rw [if_pos hfs] at hl ⊢
          cases hl
          exact base true dep hdd
        · rw [if_neg hfs] at hl ⊢
          refine ⟨?_, fun g hg => nomatch hg⟩
          split at hl
          · cases hl; exact .link hdd true ht
          · split at hl <;> cases hl
            · refine .append (.link hdd false ht)
                (.flatMap fun dI hdI => .append (.link (kid_mem_depNodes hdI) false ht) ?_)
              cases hterm' : (h.node dI).term with
              | none => exact .inert (.crash .attributeError)
              | some t => exact .link (kidTerm_mem_depNodes hdI hterm') false ht
            · exact .nil
    · cases hl

theorem planDepStep_subj (h : Heap) (p ht dep : Nat) (l : List Act) (hk : h.kind dep = .subj) (hV : h.kind ht = .V)
    (hl : planDepStep h p ht dep = some l) : l = [.setPeng true ht dep] := by
  unfold planDepStep at hl
  generalize (h.node dep).term = t at hl
  cases t with
  | none => cases hl
  | some depTerm =>
    rw [hk] at hl
    dsimp only at hl
    rw [if_pos hV] at hl
    cases hl
    rfl

theorem depGoalsOf_subj (h : Heap) (p ht dep : Nat) (hk : h.kind dep = .subj) : depGoalsOf h p ht dep = [] := by
  unfold depGoalsOf
  cases (h.node dep).term with
  | none => rfl
  | some depTerm => rw [hk]

def stepActs (h : Heap) (p ht dep : Nat) : List Act := (planDepStep h p ht dep).getD []

theorem planDepLoop_eq (h : Heap) (p ht : Nat) : ∀ (deps : List Nat) (acts : List Act),
    planDepLoop h p ht deps = some acts →
    acts = deps.flatMap (stepActs h p ht) ∧ ∀ d ∈ deps, planDepStep h p ht d = some (stepActs h p ht d) := by
  intro deps
  induction deps with
  | nil => intro acts hl; cases hl; exact ⟨rfl, fun _ hd => nomatch hd⟩
  | cons d ds ih =>
    intro acts hl
    simp only [planDepLoop] at hl
    cases hs : planDepStep h p ht d with
    | none => rw [hs] at hl; cases hl
    | some a =>
      cases hr : planDepLoop h p ht ds with
      | none => rw [hs, hr] at hl; cases hl
      | some more =>
        rw [hs, hr] at hl
        cases hl
        obtain ⟨e1, e2⟩ := ih more hr
        have hd : stepActs h p ht d = a := by rw [stepActs, hs]; rfl
        refine ⟨by rw [List.flatMap_cons, hd, e1], fun x hx => ?_⟩
        rcases List.mem_cons.mp hx with rfl | hx
        · rw [hd]; exact hs
        · exact e2 x hx

def Steps (h : Heap) (p ht : Nat) (ds : List Nat) : Prop := ∀ d ∈ ds, planDepStep h p ht d = some (stepActs h p ht d)

theorem steps_noGuard {h : Heap} {p ht : Nat} {ds : List Nat} (hall : Steps h p ht ds) :
    NoGuard (ds.flatMap (stepActs h p ht)) := by
  intro a ha
  obtain ⟨d, hd, had⟩ := List.mem_flatMap.mp ha
  exact (planDepStep_run h p ht d _ (hall d hd)).1.1 a had

theorem steps_targets {h : Heap} {p ht : Nat} {ds : List Nat} (hall : Steps h p ht ds) {x : Nat}
    (hx : x ∈ pengTargets (ds.flatMap (stepActs h p ht))) :
    ∃ d ∈ ds, x ∈ if h.kind d = .subj then [ht] else depNodes h d := by
  rw [pengTargets_flatMap] at hx
  obtain ⟨d, hd, hxd⟩ := List.mem_flatMap.mp hx
  exact ⟨d, hd, (planDepStep_run h p ht d _ (hall d hd)).1.2 x hxd⟩

theorem src_not_target {h : Heap} {p ht : Nat} (tree : DepTree h p ht) {ds : List Nat} (hsub : ∀ d ∈ ds, d ∈ h.kids p)
    (hall : Steps h p ht ds) {src : Nat} (hs : SrcOK h p src) : src ∉ pengTargets (ds.flatMap (stepActs h p ht)) := by
  intro hx
  obtain ⟨d, hd, hc⟩ := steps_targets hall hx
  have hdk := hsub d hd
  split at hc
  · next hsd =>
    -- `src` would be the head terminal
    have e := List.mem_singleton.mp hc
    rcases hs with e' | ⟨hsk, _⟩
    · exact tree.pNe (e'.symm.trans e)
    · exact tree.hOut src hsk (by rw [← e]; exact List.mem_cons_self)
  · next hns =>
    rcases hs with rfl | ⟨hsk, hss⟩
    · exact tree.pOut d hdk hc
    · exact tree.disj d hdk src hsk (fun e => hns (e ▸ hss)) src hc List.mem_cons_self

/-- **the last writer in a tree.**  If in the step of the dependent `dep` the last assignment to `x` copies the slot of a
    source `y` that no step re-points, and no later step targets `x`, then `x` ends up with the record `y` held before
    the run. -/
theorem steps_last {h h' : Heap} {p ht : Nat} (tree : DepTree h p ht) (hall : Steps h p ht (h.kids p))
    {pre post : List Nat} {dep : Nat} (hsplit : h.kids p = pre ++ dep :: post) {A B : List Act} {s : Bool} {x y r : Nat}
    (hstep : stepActs h p ht dep = A ++ .setPeng s x y :: B) (hB : x ∉ pengTargets B)
    (hpost : ∀ d ∈ h.kids p, d ∈ post → x ∉ if h.kind d = .subj then [ht] else depNodes h d)
    (hy : SrcOK h p y) (hr : h.peng y = some r)
    (hex : exec h ((h.kids p).flatMap (stepActs h p ht)) = .ok h') : h'.peng x = some r := by
  have hsub : ∀ d ∈ post, d ∈ h.kids p := fun d hd => by
    rw [hsplit]; exact List.mem_append_right _ (List.mem_cons_of_mem _ hd)
  refine exec_last_writer (pre.flatMap (stepActs h p ht) ++ A) (B ++ post.flatMap (stepActs h p ht)) s x y r h h'
    ?_ (steps_noGuard hall) (src_not_target tree (fun _ hd => hd) hall hy) hr ?_ hex
  · rw [hsplit, List.flatMap_append, List.flatMap_cons, hstep]
    simp only [List.append_assoc, List.cons_append]
  · rw [pengTargets_append]
    refine fun hm => (List.mem_append.mp hm).elim hB fun hm => ?_
    obtain ⟨d, hd, hc⟩ := steps_targets (fun d hd => hall d (hsub d hd)) hm
    exact hpost d (hsub d hd) hd hc

theorem planDep_loop_of (h : Heap) (p ht : Nat) (acts : List Act) (hterm : (h.node p).term = some ht)
    (hnc : h.kind p ≠ .coord) (hne : h.kids p ≠ []) (hplan : planDep h p = some acts) :
    planDepLoop h p ht (h.kids p) = some acts := by
  unfold planDep at hplan
  dsimp only at hplan
  rw [if_neg (by simpa using hne), hterm] at hplan
  have hplan := (ite_none_eq_some hplan).2
  dsimp only at hplan
  cases hl : planDepLoop h p ht (h.kids p) with
  | none => rw [hl] at hplan; cases hplan
  | some l => rw [hl, if_neg hnc] at hplan; exact hplan

/-- **`Dependent.linkProperties`**: every goal of the declarative specification holds afterwards — determiners,
    adjectives and participles (with the French attribute rule), verbs of subject relatives and coordinated subjects hold
    the record that their declared source held BEFORE the run, and the verb that of the LAST subject dependent — for
    every list of dependents that forms a tree. -/
theorem planDep_link (h : Heap) (p ht : Nat) (acts : List Act) (h' : Heap)
    (hterm : (h.node p).term = some ht) (hnc : h.kind p ≠ .coord)
    (hplan : planDep h p = some acts) (hex : exec h acts = .ok h') (tree : DepTree h p ht) :
    ∀ g ∈ depGoals h p, ∀ r, h.peng g.src = some r → h'.peng g.node = some r := by
  intro g hg r hr
  unfold depGoals at hg
  rw [hterm] at hg
  dsimp only at hg
  have hne : h.kids p ≠ [] := by
    intro e
    simp [e, depSubjects] at hg
  obtain ⟨rfl, hall⟩ := planDepLoop_eq h p ht _ acts (planDep_loop_of h p ht acts hterm hnc hne hplan)
  rcases List.mem_append.mp hg with hg | hg
  · -- a goal of the dependent `dep`: later steps write below other dependents, or the head terminal
    obtain ⟨dep, hdep, hgd⟩ := List.mem_flatMap.mp hg
    obtain ⟨pre, post, hsplit⟩ := List.append_of_mem hdep
    obtain ⟨hw, hmet⟩ := planDepStep_run h p ht dep _ (hall dep hdep)
    obtain ⟨hsrc, A, B, s, hstep, hB⟩ := hmet g hgd
    have hns : h.kind dep ≠ .subj := fun hk => by rw [depGoalsOf_subj h p ht dep hk] at hgd; cases hgd
    have hnode : g.node ∈ depNodes h dep := by
      have := hw.2 g.node (by
        rw [hstep, pengTargets_append]; exact List.mem_append_right _ List.mem_cons_self)
      rwa [if_neg hns] at this
    have hnd := tree.nodup
    rw [hsplit] at hnd
    have hdep_post : dep ∉ post := (List.nodup_cons.mp (List.nodup_append.mp hnd).2.1).1
    refine steps_last tree hall hsplit hstep hB (fun d hdk hd hc => ?_) hsrc hr hex
    split at hc
    · rw [List.mem_singleton.mp hc] at hnode
      exact tree.hOut dep hdep hnode
    · exact tree.disj dep hdep d hdk (fun e => hdep_post (e ▸ hd)) g.node hnode hc
  · -- the verb: the step of the last subject dependent is the last one that writes the head terminal
    split at hg
    · next hV =>
      cases hdl : (depSubjects h p).getLast? with
      | none => rw [hdl] at hg; cases hg
      | some dl =>
        rw [hdl] at hg
        cases List.mem_singleton.mp hg
        obtain ⟨ys, hys⟩ := List.getLast?_eq_some_iff.mp hdl
        obtain ⟨l₁, l₂, hl, _, h2⟩ := List.filter_eq_append_iff.mp hys
        obtain ⟨m₁, post, rfl, _, hq, hpost⟩ := List.filter_eq_cons_iff.mp h2
        have hks : h.kind dl = .subj := of_decide_eq_true hq
        have hsplit : h.kids p = (l₁ ++ m₁) ++ dl :: post := by rw [hl, List.append_assoc]
        have hdep : dl ∈ h.kids p := by rw [hsplit]; exact List.mem_append_right _ List.mem_cons_self
        have hstep : stepActs h p ht dl = [] ++ .setPeng true ht dl :: [] :=
          planDepStep_subj h p ht dl _ hks hV (hall dl hdep)
        refine steps_last tree hall hsplit hstep List.not_mem_nil (fun d hdk hd hc => ?_) (.inr ⟨hdep, hks⟩) hr hex
        split at hc
        · next hsd => exact List.filter_eq_nil_iff.mp hpost d hd (decide_eq_true hsd)
        · exact tree.hOut d hdk hc
    · cases hg

end Pyrealb.Agree
