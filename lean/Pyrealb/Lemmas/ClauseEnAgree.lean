import Pyrealb.Lemmas.ClauseEnBridge
/-! When the two declarative linearisations coincide (C08, English half). -/
namespace Pyrealb.ClauseEn

instance exceptDecEq {ε α} [DecidableEq ε] [DecidableEq α] : DecidableEq (Except ε α)
  | .ok a, .ok b => if h : a = b then isTrue (h ▸ rfl) else isFalse (fun e => h (Except.ok.inj e))
  | .error a, .error b => if h : a = b then isTrue (h ▸ rfl) else isFalse (fun e => h (Except.error.inj e))
  | .ok _, .error _ => isFalse (fun e => by cases e)
  | .error _, .ok _ => isFalse (fun e => by cases e)

/-- person and number of the subject of the clause: of the promoted object in a passive, of `it` when there is none -/
def subjAgrOf (sp : Spec) (pas : Bool) : Agr :=
  if pas then (match sp.obj with | some o => agrOfArg o | none => ⟨.p3, .s⟩) else agrOfArg sp.subj

def objHumanSpec (sp : Spec) : Bool :=
  match sp.obj with
  | some (.np a) => humanGender a.g
  | some (.pro a) => humanGender a.g
  | none => false

/-- side conditions under which the clause proper is the same in both notations:
    * a passive has a nominal subject, a nominal object and no other prepositional complement (else: "by me" / "by I",
      agreement with the demoted subject, `it` not inverted, promoted pronoun read before it is declined, by-phrase
      before/after the complements);
    * a prepositional question finds the same prepositional complement in both notations (the constituent notation
      only looks at the first one, the dependency notation at all of them): `questionPPPh = questionPPDep`;
    * a subject question is asked of a third-person-singular subject (else the two sides reset different features).
    (The clause proper of a tag question is the same in both notations; the tag itself is outside `Out.main`.) -/
def C08Cond (sp : Spec) (ty : Typ) : Bool :=
  (!ty.pas || (sp.pps.isEmpty && (match sp.obj with | some (.np _) => true | _ => false) &&
                (match sp.subj with | .np _ => true | _ => false))) &&
  (match ty.int with
   | none => true
   | some i =>
     (!i.isPPq || ty.pas || decide (questionPPPh i (ppArgs sp) = questionPPDep i (ppArgs sp))) &&
     (!(i == .wos || i == .was) || subjAgrOf sp ty.pas == ⟨.p3, .s⟩))

theorem objHuman_obj (sp : Spec) : objHuman (sp.obj.map argTokOfObj) = objHumanSpec sp := by
  unfold objHuman objHumanSpec
  cases sp.obj with
  | none => rfl
  | some o => cases o <;> rfl

theorem questionPP_single (i : Int) (x : Str × ArgTok) : questionPPPh i [x] = questionPPDep i [x] := by
  obtain ⟨p, a⟩ := x
  by_cases h : prepQualifies i p = true <;> simp [questionPPPh, questionPPDep, h, intPrefix]

theorem linG_congr (hum : Bool) {qpp qpp' : Int → List (Str × ArgTok) → Str × List (Str × ArgTok)}
    {fr fr' : ArgTok → List Tok → List Tok → List Tok} (sj : ArgTok) (obj : Option ArgTok) (pl : List (Str × ArgTok))
    (i : Option Int) (ws : List Tok) (hq : ∀ j, i = some j → j.isPPq = true → qpp j pl = qpp' j pl)
    (hf : ∀ j, i = some j → j.fronting = true → fr sj ws [] = fr' sj ws []) :
    linG hum qpp fr sj obj pl i ws = linG hum qpp' fr' sj obj pl i ws := by
  unfold linG
  cases i with
  | none => rfl
  | some j =>
    have hq' := hq j rfl
    have hf' := hf j rfl
    cases j <;> simp [qToks, bodyToks, ppsAfter, Int.isPPq, Int.fronting] at hq' hf' ⊢ <;> simp [hq', hf']

theorem lin_agree (sp : Spec) (ty : Typ) (hc : C08Cond sp ty = true) : lin .phrase sp ty = lin .dep sp ty := by
  unfold C08Cond at hc
  simp only [Bool.and_eq_true, Bool.or_eq_true, Bool.not_eq_true'] at hc
  obtain ⟨hpas, hint⟩ := hc
  have hnd : ¬ (ty.pas = true ∧ sp.obj = none) := by
    rintro ⟨hp, ho⟩
    rw [hp, ho] at hpas
    simp at hpas
  have hpl : (midPh sp ty.pas).pl = depPPs sp ty.pas := by
    unfold midPh depPPs
    cases hp : ty.pas
    · rfl
    · rw [hp] at hpas
      obtain ⟨subj, verb, t, obj, pps⟩ := sp
      cases obj with
      | none => simp at hpas
      | some o => cases o <;> cases subj <;> cases pps <;> simp at hpas ⊢ <;> rfl
  simp only [lin, linPh_eq, linDep_plain sp ty _ hnd, hpl]
  congr 1
  apply linG_congr
  · intro j hj hpp
    rw [hj] at hint
    simp only [hpp, Bool.not_true, Bool.false_eq_true, false_or, Bool.and_eq_true, Bool.or_eq_true, decide_eq_true_eq]
      at hint
    unfold depPPs
    cases hp : ty.pas
    · rw [hp] at hint
      simpa using hint.1
    · rw [hp] at hpas
      simp only [Bool.true_eq_false, false_or, List.isEmpty_iff] at hpas
      simp only [ppArgs, hpas.1.1, List.map_nil, List.nil_append, if_true]
      exact questionPP_single j _
  · intro j hj hf
    have hq : ty.questioned = true := by rw [questioned_eq ty j hj]; exact hf
    rw [front_eq _ _ _ (hasV_of_questioned sp ty hq), frontD_eq _ (clauseWords sp ty) _ (dep_front_cond sp.verb sp.t ty hq)]

end Pyrealb.ClauseEn
