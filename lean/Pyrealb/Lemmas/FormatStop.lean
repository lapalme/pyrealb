import Pyrealb.Lemmas.FormatSpace
/-! The two regexes of the top-level step of `detokenize` against declarative descriptions (for C10):
    `(.)( |(<[^>]+>))*$` finds the last visible character; group 1 of `sepWordRE` skips leading non-word material
    and complete tags. -/
namespace Pyrealb.Format

/-- inside `<…>`? -/
def angStep (st : Bool) (c : Char) : Bool := if c = '<' then true else if c = '>' then false else st
def inAngle (st : Bool) (x : Str) : Bool := x.foldl angStep st

/-- trailing material after the last visible character: spaces and complete tags -/
inductive Trail : Str → Prop where
  | nil : Trail []
  | space {x : Str} : Trail x → Trail (' ' :: x)
  | tag {body x : Str} : body ≠ [] → '>' ∉ body → Trail x → Trail ('<' :: body ++ '>' :: x)

theorem inAngle_cons (st : Bool) (c : Char) (x : Str) : inAngle st (c :: x) = inAngle (angStep st c) x := rfl

theorem fold_inside {body : Str} (h : '>' ∉ body) : body.foldl trailStep .inside = .inside := by
  induction body with
  | nil => rfl
  | cons d r ih =>
    simp only [List.mem_cons, not_or] at h
    simp [trailStep, Ne.symm h.1, ih h.2]

theorem trail_fold {x : Str} (h : Trail x) : x.foldl trailStep .out = .out := by
  induction h with
  | nil => rfl
  | space _ ih => simpa [trailStep] using ih
  | @tag body x hb hn _ ih =>
    cases body with
    | nil => exact absurd rfl hb
    | cons d r =>
      simp only [List.mem_cons, not_or] at hn
      simp [trailStep, Ne.symm hn.1, fold_inside hn.2, ih]

theorem fold_dead (x : Str) : x.foldl trailStep .dead = .dead := by
  induction x with
  | nil => rfl
  | cons d r ih => simpa [trailStep] using ih

/-- the regex automaton seen by the bracket automaton -/
def ang : TrailSt → Bool
  | .out => false
  | .opened => true
  | .inside => true
  | .dead => false

/-- as long as the regex automaton survives, the bracket automaton follows it -/
theorem ang_step (st : TrailSt) (d : Char) (h : trailStep st d ≠ .dead) : angStep (ang st) d = ang (trailStep st d) := by
  cases st <;> simp only [trailStep, ang, angStep] at h ⊢
  · by_cases h1 : d = ' '
    · subst h1; rfl
    · by_cases h2 : d = '<'
      · subst h2; rfl
      · simp [h1, h2] at h
  · have h1 : d ≠ '>' := fun e => h (by simp [e])
    simp [h1]
  · by_cases h1 : d = '>'
    · subst h1; rfl
    · simp [h1]
  · exact absurd rfl h

theorem fold_ang (u : Str) (st : TrailSt) (h : u.foldl trailStep st ≠ .dead) :
    inAngle (ang st) u = ang (u.foldl trailStep st) := by
  induction u generalizing st with
  | nil => rfl
  | cons d r ih =>
    have hs : trailStep st d ≠ .dead := fun e => h (by rw [List.foldl_cons, e, fold_dead])
    rw [inAngle_cons, ang_step st d hs, List.foldl_cons, ih _ h]

theorem trailOK_split (u : Str) (c : Char) (v : Str) (h : trailOK (u ++ c :: v) = true) :
    inAngle false u = true ∨ c = ' ' ∨ c = '<' := by
  simp only [trailOK, List.foldl_append, List.foldl_cons, beq_iff_eq] at h
  have h1 : trailStep (u.foldl trailStep .out) c ≠ .dead := fun e => by rw [e, fold_dead] at h; cases h
  have h0 : u.foldl trailStep .out ≠ .dead := fun e => h1 (by rw [e]; rfl)
  have := fold_ang u .out h0
  cases hs : u.foldl trailStep .out with
  | out =>
    rw [hs] at h1
    simp only [trailStep] at h1
    by_cases c1 : c = ' '
    · exact .inr (.inl c1)
    · by_cases c2 : c = '<'
      · exact .inr (.inr c2)
      · simp [c1, c2] at h1
  | opened => rw [hs] at this; exact .inl this
  | inside => rw [hs] at this; exact .inl this
  | dead => exact absurd hs h0

/-- an open bracket at the start can only help to end inside one -/
theorem inAngle_mono (st : Bool) (u : Str) (h : inAngle false u = true) : inAngle st u = true := by
  cases st
  · exact h
  · induction u with
    | nil => cases h
    | cons d r ih =>
      simp only [inAngle_cons, angStep] at h ⊢
      by_cases h1 : d = '<'
      · simpa [h1] using h
      · by_cases h2 : d = '>'
        · simpa [h1, h2] using h
        · simp only [h1, h2, if_false] at h ⊢
          exact ih h

/-- the regex finds the last visible character: `c` outside every bracket, followed by spaces and complete tags -/
theorem lastVis_eq (core : Str) (c : Char) (trail : Str) (hcore : inAngle false core = false)
    (hc1 : c ≠ ' ') (hc2 : c ≠ '<') (ht : Trail trail) : lastVis (core ++ c :: trail) = some c := by
  induction core with
  | nil => simp [lastVis, trailOK, trail_fold ht]
  | cons d r ih =>
    have hr : inAngle false r = false := by
      cases hh : inAngle false r with
      | false => rfl
      | true => rw [inAngle_cons, inAngle_mono _ r hh] at hcore; cases hcore
    have : trailOK (r ++ c :: trail) = false := by
      cases hh : trailOK (r ++ c :: trail) with
      | false => rfl
      | true =>
        rcases trailOK_split r c trail hh with h | h | h
        · rw [hr] at h; cases h
        · exact absurd h hc1
        · exact absurd h hc2
    simp [lastVis, this, ih hr]

/-- what group 1 of `sepWordRE` (hence the capitalization) skips: `[^<\w'-]` characters and complete tags -/
inductive Lead (cm : CaseMap) : Str → Prop where
  | nil : Lead cm []
  | skip {c : Char} {x : Str} : isSkip cm c = true → Lead cm x → Lead cm (c :: x)
  | tag {body x : Str} : body ≠ [] → '>' ∉ body → Lead cm x → Lead cm ('<' :: body ++ '>' :: x)

theorem g1Len_inTag (cm : CaseMap) (body y : Str) (h : '>' ∉ body) :
    g1Len cm true (body ++ '>' :: y) = body.length + 1 + g1Len cm false y := by
  induction body with
  | nil => simp [g1Len]
  | cons d r ih =>
    simp only [List.mem_cons, not_or] at h
    simp only [List.cons_append, g1Len, Ne.symm h.1, if_false, ih h.2, List.length_cons]
    omega

theorem g1Len_lead (cm : CaseMap) (pre rest : Str) (h : Lead cm pre) :
    g1Len cm false (pre ++ rest) = pre.length + g1Len cm false rest := by
  induction h with
  | nil => simp
  | @skip c x hc _ ih =>
    simp only [List.cons_append, g1Len, hc, if_true, ih, List.length_cons]; omega
  | @tag body x hb hn _ ih =>
    have hcl : closesTag (body ++ '>' :: (x ++ rest)) = true := by
      cases body with
      | nil => exact absurd rfl hb
      | cons d r => simp only [List.mem_cons, not_or] at hn; simp [closesTag, Ne.symm hn.1]
    have e : ('<' :: body ++ '>' :: x) ++ rest = '<' :: (body ++ '>' :: (x ++ rest)) := by simp
    rw [e, g1Len, if_neg (by simp [isSkip]), if_pos ⟨rfl, hcl⟩, g1Len_inTag cm body _ hn, ih]
    simp only [List.length_cons, List.length_append]
    omega

theorem g1Len_word (cm : CaseMap) (c : Char) (r : Str) (h1 : isWordish cm c = true) (h2 : c ≠ '<') :
    g1Len cm false (c :: r) = 0 := by
  have : isSkip cm c = false := by
    simp only [isWordish, Bool.or_eq_true, beq_iff_eq] at h1
    simp only [isSkip, Bool.and_eq_false_iff, bne_eq_false_iff_eq, Bool.not_eq_false']
    rcases h1 with (h | h) | h
    · exact .inl (.inl (.inr h))
    · exact .inl (.inr h)
    · exact .inr h
  simp [g1Len, this, h2]

theorem sepWord_idx (cm : CaseMap) (pre : Str) (c : Char) (rest : Str) (h : Lead cm pre)
    (h1 : isWordish cm c = true) (h2 : c ≠ '<') : (sepWord cm (pre ++ c :: rest)).1 = pre.length := by
  simp [sepWord, g1Len_lead cm pre (c :: rest) h, g1Len_word cm c rest h1 h2]

end Pyrealb.Format
