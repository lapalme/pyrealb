import Pyrealb.Lemmas.ClauseFrNesting
/-! `Phrase.processInt` (constituent notation) keeps what `processTyp` established: the S is still `pre ++ [VP]`, the VP
    still starts with the verb that carries the negation (now possibly hyphen-linked to the inverted subject pronoun),
    the other verbs are clean, and the chain of verbs is unchanged. -/
namespace Pyrealb.ClauseFr
open Pyrealb
open Pyrealb.Gen.ClauseFr
open Pyrealb.C05 (pasLayer auxLayer expectedChain)

theorem moveObjectPhrase_cases (int : Str) (sel vp sel' vp' : List El)
    (h : moveObjectPhrase int sel vp = .ok (sel', vp')) :
    (sel' = sel ∨ ∃ si, firstIdx isSubjEl sel = some si ∧ (sel' = pyInsert si (.q estCeQue) sel ∨ sel' = sel.eraseIdx si)) ∧
    (vp' = vp ∨ ∃ vi x pro, firstIdx El.isV vp = some vi ∧ vp[vi]? = some (.v x) ∧
      vp' = pyInsert (vi + 1) (.pro pro) (vp.set vi (.v { x with lier := true }))) := by
  unfold moveObjectPhrase at h
  split at h
  · cases h; exact ⟨Or.inl rfl, Or.inl rfl⟩
  · rename_i si hsi
    simp only [] at h
    repeat' (split at h)
    all_goals cases h
    all_goals first
      | exact ⟨Or.inl rfl, Or.inl rfl⟩
      | exact ⟨Or.inr ⟨si, hsi, Or.inl rfl⟩, Or.inl rfl⟩
      | exact ⟨Or.inr ⟨si, hsi, Or.inr rfl⟩, Or.inl rfl⟩
      | exact ⟨Or.inl rfl, Or.inr ⟨_, _, _, ‹_›, ‹_›, rfl⟩⟩
      | exact ⟨Or.inr ⟨si, hsi, Or.inr rfl⟩, Or.inr ⟨_, _, _, ‹_›, ‹_›, rfl⟩⟩

theorem firstIdx_v_zero (x : VT) (r : List El) : firstIdx El.isV (.v x :: r) = some 0 := rfl

theorem vc_erase (w : Option Str) (b : Bool) (c : List (Str × Tense)) (p : El → Bool)
    (hp : ∀ e, p e = true → e.isV = false) (vp : List El) (i : Nat) (hi : firstIdx p vp = some i) (h : VC w b c vp) :
    VC w b c (vp.eraseIdx i) := by
  obtain ⟨⟨x, r, rfl, hn, hl, hr⟩, hc⟩ := h
  obtain ⟨e, he, hpe⟩ := firstIdx_getElem p _ i hi
  have hev := hp e hpe
  cases i with
  | zero => cases he; cases hev
  | succ j =>
    refine ⟨⟨x, r.eraseIdx j, rfl, hn, hl, fun e' he' => hr e' (List.mem_of_mem_eraseIdx he')⟩, ?_⟩
    rw [← hc]
    exact verbChain_eraseIdx (.v x :: r) (j + 1) (by intro e' he'; rw [he] at he'; cases he'; exact hev)

theorem vc_eraseFirst (w : Option Str) (b : Bool) (c : List (Str × Tense)) (p : El → Bool)
    (hp : ∀ e, p e = true → e.isV = false) (vp : List El) (h : VC w b c vp) :
    VC w b c (match firstIdx p vp with | some i => vp.eraseIdx i | none => vp) := by
  cases hi : firstIdx p vp with
  | none => exact h
  | some i => exact vc_erase w b c p hp vp i hi h

theorem vc_wosFix (w : Option Str) (b : Bool) (c : List (Str × Tense)) (vp : List El) (h : VC w b c vp) :
    VC w b c (wosFix vp) := by
  obtain ⟨⟨x, r, rfl, hn, hl, hr⟩, hc⟩ := h
  unfold wosFix
  simp only [firstIdx_v_zero, List.getElem?_cons_zero]
  by_cases hx : x.vpshare = true
  · rw [if_pos hx]; exact vc_head w b c x _ r ⟨⟨x, r, rfl, hn, hl, hr⟩, hc⟩ rfl rfl rfl rfl
  · rw [if_neg hx]; exact ⟨⟨x, r, rfl, hn, hl, hr⟩, hc⟩

theorem vc_moved (w : Option Str) (b : Bool) (c : List (Str × Tense)) (vp vp' : List El) (h : VC w b c vp)
    (hv : vp' = vp ∨ ∃ vi x pro, firstIdx El.isV vp = some vi ∧ vp[vi]? = some (.v x) ∧
      vp' = pyInsert (vi + 1) (.pro pro) (vp.set vi (.v { x with lier := true }))) : ∃ b', VC w b' c vp' := by
  rcases hv with rfl | ⟨vi, x, pro, hvi, hx, rfl⟩
  · exact ⟨b, h⟩
  · obtain ⟨⟨x0, r, rfl, hn, hl, hr⟩, hc⟩ := h
    cases hvi
    cases hx
    exact ⟨true, ⟨_, .pro pro :: r, rfl, hn, rfl, List.forall_mem_cons.mpr ⟨trivial, hr⟩⟩, hc⟩

theorem firstIdx_append_lt {α} (p : α → Bool) (pre : List α) (a : α) (i : Nat) (ha : p a = false)
    (h : firstIdx p (pre ++ [a]) = some i) : i < pre.length := by
  induction pre generalizing i with
  | nil => simp [firstIdx, ha] at h
  | cons b r ih =>
    by_cases hb : p b = true
    · rw [List.cons_append, firstIdx, if_pos hb] at h; cases h; exact Nat.succ_pos _
    · rw [List.cons_append, firstIdx_cons_false p b _ (by simpa using hb), Option.map_eq_some_iff] at h
      obtain ⟨j, hj, rfl⟩ := h
      exact Nat.succ_lt_succ (ih j hj)

theorem selShape_subj (sel : List El) (si : Nat) (q : El) (hq : q.isV = false ∧ q.isVP = false) (h : SelShape sel)
    (hsi : firstIdx isSubjEl sel = some si) : SelShape (pyInsert si q sel) ∧ SelShape (sel.eraseIdx si) := by
  obtain ⟨pre, rfl, hpre⟩ := h
  have hlt := firstIdx_append_lt isSubjEl pre .vp si rfl hsi
  refine ⟨⟨pre.take si ++ q :: pre.drop si, ?_, ?_⟩, ⟨pre.eraseIdx si, ?_, ?_⟩⟩
  · rw [pyInsert_split, List.take_append_of_le_length (by omega), List.drop_append_of_le_length (by omega)]
    simp
  · exact List.forall_mem_append.mpr ⟨fun e he => hpre e (List.mem_of_mem_take he),
      List.forall_mem_cons.mpr ⟨hq, fun e he => hpre e (List.mem_of_mem_drop he)⟩⟩
  · exact List.eraseIdx_append_of_lt_length hlt _
  · intro e he
    exact hpre e (List.mem_of_mem_eraseIdx he)

theorem moveObjectPhrase_inv (int : Str) (w : Option Str) (b : Bool) (c : List (Str × Tense))
    (sel vp sel' vp' : List El) (hs : SelShape sel) (hv : VC w b c vp)
    (h : moveObjectPhrase int sel vp = .ok (sel', vp')) : SelShape sel' ∧ ∃ b', VC w b' c vp' := by
  obtain ⟨h1, h2⟩ := moveObjectPhrase_cases int sel vp sel' vp' h
  refine ⟨?_, vc_moved w b c vp vp' hv h2⟩
  rcases h1 with rfl | ⟨si, hsi, rfl | rfl⟩
  · exact hs
  · exact (selShape_subj sel si _ ⟨rfl, rfl⟩ hs hsi).1
  · exact (selShape_subj sel si (.q []) ⟨rfl, rfl⟩ hs hsi).2

theorem isPP_nonV (e : El) (h : e.isPP = true) : e.isV = false := by
  cases e with
  | v x => cases h
  | _ => rfl

theorem isNPorPro_nonV (e : El) (h : e.isNPorPro = true) : e.isV = false := by
  cases e with
  | v x => cases h
  | _ => rfl

/-- The groups of `int` are told apart with `ite_cases`: `split` on the unfolded definition is two orders of magnitude
    slower to check. -/
theorem processIntPhraseCore_inv (int dflt : Str) (w : Option Str) (b : Bool) (c : List (Str × Tense)) (sel vp : List El)
    (r : List El × List El × Str × Bool × Str) (hs : SelShape sel) (hv : VC w b c vp)
    (hsubj : intGroupSubj.contains int = true → ∃ si, firstIdx isSubjEl sel = some si)
    (h : processIntPhraseCore int dflt sel vp = .ok r) : SelShape r.1 ∧ ∃ b', VC w b' c r.2.1 := by
  have hmove : ∀ vpA, VC w b c vpA → ∀ (x : Bool) (s : Str),
      (moveObjectPhrase int sel vpA >>= fun m => pure (m.1, m.2, s, x, [])) = .ok r → SelShape r.1 ∧ ∃ b', VC w b' c r.2.1 := by
    intro vpA hA x s hr
    obtain ⟨m, hm, hr⟩ := bindE_ok _ _ _ hr
    cases hr
    exact moveObjectPhrase_inv int w b c sel vpA m.1 m.2 hs hA hm
  unfold processIntPhraseCore at h
  rcases ite_cases h with ⟨_, h⟩ | ⟨_, h⟩
  · exact hmove vp hv _ _ h
  rcases ite_cases h with ⟨h2, h⟩ | ⟨_, h⟩
  · obtain ⟨si, hsi⟩ := hsubj h2
    split at h
    · cases h; exact ⟨hs, b, hv⟩
    · simp only [hsi] at h
      split at h <;> cases h
      · exact ⟨(selShape_subj sel si (.q []) ⟨rfl, rfl⟩ hs hsi).2, b, vc_wosFix w b c vp hv⟩
      · exact ⟨hs, b, hv⟩
  rcases ite_cases h with ⟨_, h⟩ | ⟨_, h⟩
  · refine hmove _ ?_ _ _ h
    clear h
    by_cases hvp : sel.any El.isVP = true
    · rw [if_pos hvp]
      -- the questioned object goes, then the agent « par … » if it is the first PP
      extract_lets a
      have ha : VC w b c a := vc_eraseFirst w b c _ isNPorPro_nonV vp hv
      clear_value a
      cases hj : firstIdx El.isPP a with
      | none => exact ha
      | some j =>
        dsimp only
        cases hg : a[j]? with
        | none => exact ha
        | some e =>
          cases e with
          | pp prep inner pro =>
            dsimp only
            by_cases hp : prep = par
            · rw [if_pos hp]; exact vc_erase w b c _ isPP_nonV a j hj ha
            · rw [if_neg hp]; exact ha
          | _ => exact ha
    · rw [if_neg hvp]; exact hv
  rcases ite_cases h with ⟨_, h⟩ | ⟨_, h⟩
  · refine hmove _ ?_ _ _ h
    clear h
    by_cases hvp : sel.any El.isVP = true
    · rw [if_pos hvp]
      cases hj : firstIdx El.isPP vp with
      | none => exact hv
      | some j =>
        have he := vc_erase w b c _ isPP_nonV vp j hj hv
        dsimp only
        cases hg : vp[j]? with
        | none => exact hv
        | some e =>
          cases e with
          | pp prep inner pro =>
            -- the first PP goes or stays, depending on its preposition
            have hite : ∀ k : Bool, VC w b c (if k = true then vp.eraseIdx j else vp) := by
              intro k; cases k
              · exact hv
              · exact he
            dsimp only
            by_cases i1 : int = wheStr
            · rw [if_pos i1]; exact hite _
            rw [if_neg i1]
            by_cases i2 : int = whnStr
            · rw [if_pos i2]; exact hite _
            rw [if_neg i2]
            by_cases i3 : prepsAll.contains prep = true
            · rw [if_pos i3]; exact he
            · rw [if_neg i3]; exact hv
          | _ => exact hv
    · rw [if_neg hvp]; exact hv
  split at h <;>
  · cases h; exact ⟨hs, b, hv⟩

/-- **`Phrase.processInt`** (the prefix and « par » go in front of the S) -/
theorem processIntPhrase_inv (int : Str) (w : Option Str) (b : Bool) (c : List (Str × Tense))
    (sel vp sel' vp' : List El) (e : Str) (hs : SelShape sel) (hv : VC w b c vp)
    (hsubj : intGroupSubj.contains int = true → ∃ si, firstIdx isSubjEl sel = some si)
    (h : processIntPhrase int sel vp = .ok (sel', vp', e)) : SelShape sel' ∧ ∃ b', VC w b' c vp' := by
  unfold processIntPhrase at h
  obtain ⟨dflt, _, h⟩ := bindE_ok _ _ _ h
  obtain ⟨r, hr, h⟩ := bindE_ok _ _ _ h
  obtain ⟨c1, c2⟩ := processIntPhraseCore_inv int dflt w b c sel vp r hs hv hsubj hr
  cases h
  refine ⟨?_, c2⟩
  have hq : ∀ q : Str, SelShape (.q q :: r.1) := fun q => selShape_cons _ _ ⟨rfl, rfl⟩ c1
  by_cases hpar : r.2.2.2.1 = true
  · rw [if_pos hpar]
    apply selShape_cons _ _ ⟨rfl, rfl⟩
    by_cases hw : int = wadStr
    · rw [if_pos hw]; exact hq _
    · rw [if_neg hw]; exact hq _
  · rw [if_neg hpar]; exact hq _

/-- `wos` / `was` delete the subject of the S; without one (`subjIdx = -1 < vbIdx`) they delete the LAST element, the
    VP itself. The clause-level statements leave that case out: a subject is given, and the clause is not also passive -/
def IntOk (sp : Spec) : Prop :=
  ∀ i, sp.typ.int = some i → intGroupSubj.contains i = true → sp.typ.pas = false ∧ sp.subj.isSome = true

theorem phraseElems_subj (sp : Spec) (h : sp.subj.isSome = true) : firstIdx isSubjEl (phraseElems sp).1 = some 0 := by
  unfold phraseElems
  cases hs : sp.subj with
  | none => simp [hs] at h
  | some s =>
    cases s with
    | pro vm pe n g => rfl
    | np a => by_cases ha : a.pro = true <;> simp [firstIdx, isSubjEl, ha]

/-- **what `processTyp` hands to the realization**, with or without an interrogative; the verbs are the declared
    nesting when `mod` names a modality verb -/
theorem phraseTyped_inv (sp : Spec) (sel vp : List El) (e : Str) (hok : IntOk sp)
    (h : phraseTyped sp = .ok (sel, vp, e)) :
    SelShape sel ∧ ∃ b c, VC (sp.typ.neg.map NegV.word2) b c vp ∧ (sp.typ.int = none → b = false) ∧
      ((∀ m, sp.typ.mod = some m → (modalLemma m).isSome = true) → c = expectedChain sp) := by
  unfold phraseTyped at h
  obtain ⟨s1, h1, h⟩ := bindE_ok _ _ _ h
  obtain ⟨s2, h2, h⟩ := bindE_ok _ _ _ h
  obtain ⟨s3, h3, h⟩ := bindE_ok _ _ _ h
  obtain ⟨hs1, hv1⟩ := stagePas_vc sp _ s1 _ (selShape_elems sp) (vc_elems sp) h1
  obtain ⟨hf2, hv2⟩ := stageProg_vc sp s1 s2 _ (selShape_hasVP _ hs1) hv1 h2
  have hs2 : SelShape s2.1 := hf2 ▸ hs1
  obtain ⟨hf3, hv3⟩ := stageMod_vc sp s2 s3 _ (selShape_hasVP _ hs2) hv2 h3
  have hs3 : SelShape s3.1 := hf3 ▸ hs2
  obtain ⟨hf4, hv4⟩ := stageNeg_vc sp s3 _ (selShape_hasVP _ hs3) hv3
  have hc := modLayer_eq sp (auxLayer (if sp.typ.prog then some progAux else none)
    (pasLayer sp.typ.pas [(sp.verb.lemma, sp.t)]))
  have hs4 : SelShape (stageNeg sp s3).1 := hf4 ▸ hs3
  cases hint : sp.typ.int with
  | none =>
    simp only [hint, pure, Except.pure, Except.ok.injEq, Prod.mk.injEq] at h
    obtain ⟨rfl, rfl, _⟩ := h
    exact ⟨hs4, false, _, hv4, fun _ => rfl, hc⟩
  | some i =>
    simp only [hint] at h
    have hsubj : intGroupSubj.contains i = true → ∃ si, firstIdx isSubjEl (stageNeg sp s3).1 = some si := by
      intro hi
      obtain ⟨hp, hsome⟩ := hok i hint hi
      have e1 : s1 = phraseElems sp := by
        rw [stagePas, hp, if_neg (by simp)] at h1; cases h1; rfl
      rw [hf4, hf3, hf2, e1]
      exact ⟨0, phraseElems_subj sp hsome⟩
    obtain ⟨c1, b, c2⟩ := processIntPhrase_inv i _ false _ _ _ sel vp e hs4 hv4 hsubj h
    exact ⟨c1, b, _, c2, fun hc' => (by cases hc'), hc⟩

end Pyrealb.ClauseFr
