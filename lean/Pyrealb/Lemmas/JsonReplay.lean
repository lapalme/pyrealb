import Pyrealb.Lemmas.JsonBasic
/-! What `setJSONprops` does with one entry of `props`, for each kind of option (`opt_*`, all stated for an arbitrary
    constituent), and their composition over a whole `props`: re-applying the entries of a dictionary that `Replays`
    rebuilds the dictionary and appends the canonical calls to the history. -/
namespace Pyrealb.Expr
open Pyrealb

@[simp] theorem jAtom_atomJ (a : Atom) : jAtom (atomJ a) = some a := by cases a <;> rfl

theorem jDict_dictJ (d : List (Str × Atom)) : jDict (d.map (fun kv => (kv.1, atomJ kv.2))) = some d := by
  induction d with
  | nil => rfl
  | cons x r ih => obtain ⟨k, v⟩ := x; simp [jDict, ih]

@[simp] theorem jArg_atomJ (a : Atom) : jArg (atomJ a) = some (.atom a) := by cases a <;> rfl

@[simp] theorem jArg_dictJ (d : List (Str × Atom)) : jArg (dictJ d) = some (.dict d) := by
  simp [jArg, dictJ, jDict_dictJ]

/-- `e'` is `e` with other props / history (same kind, language, lemma, children) -/
def Upd (e e' : Expr) : Prop := ∃ ps hs, e' = e.setNode { e.node with props := ps, hist := hs }

theorem Upd.refl (e : Expr) : Upd e e := ⟨e.node.props, e.node.hist, by cases e <;> rfl⟩

theorem upd_setProp (e : Expr) (k : Str) (v : PVal) : Upd e (e.setProp k v) :=
  ⟨setKey k v e.node.props, e.node.hist, by cases e <;> rfl⟩
theorem upd_addHist (e : Expr) (c : Call) : Upd e (e.addHist c) :=
  ⟨e.node.props, e.node.hist ++ [c], by cases e <;> rfl⟩

@[simp] theorem setProp_props (e : Expr) (k : Str) (v : PVal) : (e.setProp k v).props = setKey k v e.props := by
  cases e <;> rfl
@[simp] theorem addHist_props (e : Expr) (c : Call) : (e.addHist c).props = e.props := by
  cases e <;> rfl
@[simp] theorem setProp_kind (e : Expr) (k : Str) (v : PVal) : (e.setProp k v).kind = e.kind := by cases e <;> rfl
@[simp] theorem addHist_kind (e : Expr) (c : Call) : (e.addHist c).kind = e.kind := by cases e <;> rfl
@[simp] theorem setProp_lang (e : Expr) (k : Str) (v : PVal) : (e.setProp k v).lang = e.lang := by cases e <;> rfl
@[simp] theorem addHist_lang (e : Expr) (c : Call) : (e.addHist c).lang = e.lang := by cases e <;> rfl

theorem abs_eq_of_upd {e a b : Expr} (ha : Upd e a) (hb : Upd e b) (hp : a.props = b.props) : a.abs = b.abs := by
  obtain ⟨p1, q1, rfl⟩ := ha
  obtain ⟨p2, q2, rfl⟩ := hb
  cases e <;> simp_all [Expr.setNode, Expr.abs, Node.abs, Expr.props, Expr.node]

/-- `e` with the props `ps` and the history `hs`: the normal form of every chain of `setProp` / `addHist` -/
def Expr.upd (e : Expr) (ps : List (Str × PVal)) (hs : List Call) : Expr :=
  e.setNode { e.node with props := ps, hist := hs }

abbrev Expr.hist (e : Expr) : List Call := e.node.hist

theorem Upd.of_upd (e : Expr) (ps hs) : Upd e (e.upd ps hs) := ⟨ps, hs, rfl⟩

@[simp] theorem upd_props (e : Expr) (ps hs) : (e.upd ps hs).props = ps := by cases e <;> rfl
@[simp] theorem upd_hist (e : Expr) (ps hs) : (e.upd ps hs).hist = hs := by cases e <;> rfl
@[simp] theorem upd_kind (e : Expr) (ps hs) : (e.upd ps hs).kind = e.kind := by cases e <;> rfl
@[simp] theorem upd_lang (e : Expr) (ps hs) : (e.upd ps hs).lang = e.lang := by cases e <;> rfl
@[simp] theorem upd_upd (e : Expr) (ps hs ps' hs') : (e.upd ps hs).upd ps' hs' = e.upd ps' hs' := by cases e <;> rfl
theorem upd_self (e : Expr) : e.upd e.props e.hist = e := by cases e <;> rfl

theorem setProp_addHist (e : Expr) (k v c) :
    (e.setProp k v).addHist c = e.upd (setKey k v e.props) (e.hist ++ [c]) := by cases e <;> rfl

theorem addHist_setProp (e : Expr) (k v c) :
    (e.addHist c).setProp k v = e.upd (setKey k v e.props) (e.hist ++ [c]) := by cases e <;> rfl

/-- what `setJSONprops` does with one entry `opt: val` -/
def replayOne (opt : Str) (val : JVal) (e : Expr) : Expr × Nat :=
  if methodNames.contains opt then
    match val with
    | .arr l => applyEach opt l e
    | v => applyArgs opt (jArgs [v]) e
  else if jsonSkip.contains opt then (e, 0)
  else (e, 1)

theorem setProps_cons (opt : Str) (val : JVal) (r : List (Str × JVal)) (e : Expr) :
    setProps ((opt, val) :: r) e =
      ((setProps r (replayOne opt val e).1).1, (replayOne opt val e).2 + (setProps r (replayOne opt val e).1).2) := by
  simp only [setProps, replayOne]
  split <;> rfl

theorem setProps_nil (e : Expr) : setProps [] e = (e, 0) := rfl

theorem replayOne_atom {opt : Str} (hm : opt ∈ methodNames) (a : Atom) (e : Expr) :
    replayOne opt (atomJ a) e = applyArgs opt (some [.atom a]) e := by
  cases a <;> simp [replayOne, hm, atomJ, jArgs, jArg, jAtom]

theorem replayOne_dict {opt : Str} (hm : opt ∈ methodNames) (d : List (Str × Atom)) (e : Expr) :
    replayOne opt (dictJ d) e = applyArgs opt (some [.dict d]) e := by
  have := jArg_dictJ d
  simp only [dictJ] at this
  simp [replayOne, hm, dictJ, jArgs, this]

theorem replayOne_arr {opt : Str} (hm : opt ∈ methodNames) (l : List JVal) (e : Expr) :
    replayOne opt (.arr l) e = applyEach opt l e := by
  simp [replayOne, hm]

theorem applyArgs_some {opt : Str} {as : List PVal} {e : Expr} {r : Expr × Nat} (h : callMethod opt as e = some r) :
    applyArgs opt (some as) e = r := by
  simp [applyArgs, h]

theorem special_names : (∀ k ∈ listMethods ++ [s "tag", s "typ", s "dOpt", s "maje"],
      findSpec k = none ∧ k ∈ methodNames ∧ aliasKey k = k) ∧
    ∀ k ∈ [s "tag", s "typ", s "dOpt", s "maje"], listMethods.contains k = false := by decide +kernel

/-- **`ow` / `own`** : for every option of the table, the JSON key under which its prop is emitted
    (`"ow" if prop=="own" else prop`) is the name of the method that sets that prop -/
theorem opt_ow_alias : ∀ sp ∈ specs, findSpec (aliasKey sp.prop) = some sp := by decide +kernel

theorem list_name {k : Str} (hk : k ∈ listMethods) : findSpec k = none ∧ k ∈ methodNames ∧ aliasKey k = k :=
  special_names.1 k (List.mem_append_left _ hk)

theorem tag_name : findSpec (s "tag") = none ∧ s "tag" ∈ methodNames ∧ aliasKey (s "tag") = s "tag" :=
  special_names.1 _ (by simp)
theorem typ_name : findSpec (s "typ") = none ∧ s "typ" ∈ methodNames ∧ aliasKey (s "typ") = s "typ" :=
  special_names.1 _ (by simp)
theorem dOpt_name : findSpec (s "dOpt") = none ∧ s "dOpt" ∈ methodNames ∧ aliasKey (s "dOpt") = s "dOpt" :=
  special_names.1 _ (by simp)
theorem maje_name : findSpec (s "maje") = none ∧ s "maje" ∈ methodNames ∧ aliasKey (s "maje") = s "maje" :=
  special_names.1 _ (by simp)

theorem callMethod_list {k : Str} (hk : k ∈ listMethods) (a : Atom) (e : Expr) :
    callMethod k [.atom a] e = some (listM k a e) := by
  unfold callMethod
  rw [(list_name hk).1]
  dsimp only
  rw [if_pos (List.contains_iff_mem.mpr hk)]

theorem callMethod_tag (nm : Str) (d : List (Str × Atom)) (e : Expr) :
    callMethod (s "tag") [.atom (.str nm), .dict d] e = some (tagM (.str nm) (some d) e) := by
  unfold callMethod
  rw [tag_name.1]
  dsimp only
  rw [special_names.2 _ (by simp), if_neg (by decide), if_pos rfl]

theorem callMethod_typ (v : PVal) (e : Expr) : callMethod (s "typ") [v] e = some (typM v e) := by
  unfold callMethod
  rw [typ_name.1]
  dsimp only
  rw [special_names.2 _ (by simp), if_neg (by decide), if_neg (by simp), if_pos rfl]

theorem callMethod_dOpt (v : PVal) (e : Expr) : callMethod (s "dOpt") [v] e = some (dOptM v e) := by
  unfold callMethod
  rw [dOpt_name.1]
  dsimp only
  rw [special_names.2 _ (by simp), if_neg (by decide), if_neg (by simp), if_neg (by simp), if_pos rfl]

theorem callMethod_maje (a : Atom) (e : Expr) : callMethod (s "maje") [.atom a] e = some (majeM a e) := by
  unfold callMethod
  rw [maje_name.1]
  dsimp only
  rw [special_names.2 _ (by simp), if_neg (by decide), if_neg (by simp), if_neg (by simp), if_neg (by simp),
    if_neg (by simp), if_pos rfl]

theorem callMethod_spec {key : Str} {sp : Spec} (hf : findSpec key = some sp) {a : Atom} (hne : a ≠ .none) (e : Expr) :
    callMethod key [.atom a] e = some (optM sp (some a) false e) := by
  unfold callMethod
  rw [hf]
  cases a <;> first | exact absurd rfl hne | rfl

/-! ### `opt_*` : one lemma per option kind -/

/-- the option `sp` sets its prop locally on a constituent of kind `kind` (it is not propagated to children) -/
def Local (sp : Spec) (kind : Str) : Prop :=
  (kind = s "CP" ∨ kind = s "coord") → sp.name ∈ noPropagate

/-- `allowedConsts` admits the kind -/
def Allowed (sp : Spec) (kind : Str) : Prop :=
  sp.allowed = [] ∨ kind ∈ sp.allowed ∨ kind ∈ deprels

theorem optLocal_ok (sp : Spec) (a : Atom) (e : Expr) (hal : Allowed sp e.kind)
    (hv : sp.valid.any (fun x => x.pyEq a) = true) :
    optLocal sp (some a) false e = ((e.setProp sp.prop (.atom a)).addHist (.opt sp.name (.atom a)), 0) := by
  unfold optLocal
  have : (sp.allowed.isEmpty || sp.allowed.contains e.kind || deprels.contains e.kind) = true := by
    rcases hal with h | h | h <;> simp [h]
  rw [if_pos this]
  simp [hv]

theorem optM_local (sp : Spec) (a : Atom) (e : Expr) (hl : Local sp e.kind) :
    optM sp (some a) false e = optLocal sp (some a) false e := by
  cases e with
  | term n l i => simp [optM]
  | phr n es =>
    by_cases hk : n.kind = s "CP"
    · have := hl (Or.inl hk)
      simp [optM, hk, this]
    · simp [optM, hk]
  | dep n t ds =>
    by_cases hk : n.kind = s "coord"
    · have := hl (Or.inr hk)
      simp [optM, hk, this]
    · simp [optM, hk]

theorem mem_methodNames_of_findSpec {name : Str} {sp : Spec} (h : findSpec name = some sp) :
    name ∈ methodNames := by
  unfold findSpec at h
  have h1 := List.mem_of_find?_eq_some h
  have h2 := List.find?_some h
  simp at h2
  simp [methodNames]
  exact Or.inl ⟨sp, h1, h2⟩

theorem name_of_findSpec {key : Str} {sp : Spec} (h : findSpec key = some sp) : sp.name = key := by
  unfold findSpec at h
  have := List.find?_some h
  simpa using this

/-- **feature options** (`pe n g t aux f tn c pos pro ow poss cap lier`) : an entry `prop: value` whose value is valid
    for the option and whose constituent kind is admitted is re-applied by `getattr(self,opt)(val)` as the same
    `setProp`, whatever the current props. `key` is the JSON key (`ow` for the prop `own`). -/
theorem opt_feature (key : Str) (sp : Spec) (a : Atom) (e : Expr) (hf : findSpec key = some sp)
    (hne : a ≠ .none) (hal : Allowed sp e.kind) (hl : Local sp e.kind)
    (hv : sp.valid.any (fun x => x.pyEq a) = true) :
    replayOne key (atomJ a) e = (e.upd (setKey sp.prop (.atom a) e.props) (e.hist ++ [.opt sp.name (.atom a)]), 0) := by
  rw [replayOne_atom (mem_methodNames_of_findSpec hf), applyArgs_some (callMethod_spec hf hne e), optM_local sp a e hl,
    optLocal_ok sp a e hal hv, setProp_addHist]

theorem opt_maje (b : Bool) (e : Expr) (hk : e.kind ∈ majeKinds) :
    replayOne (s "maje") (.bool b) e =
      (e.upd (setKey (s "maje") (.atom (.bool b)) e.props) (e.hist ++ [.opt (s "maje") (.atom (.bool b))]), 0) := by
  rw [show JVal.bool b = atomJ (.bool b) from rfl, replayOne_atom maje_name.2.1, applyArgs_some (callMethod_maje _ e)]
  simp [majeM, hk, setProp_addHist]

/-- **props that are not option names** (`pat h cnt niveau ldv`, silently; `hAn`, with a message) are not re-applied -/
theorem opt_skipped (k : Str) (v : JVal) (e : Expr) (hk : k ∉ methodNames) : (replayOne k v e).1 = e := by
  unfold replayOne
  have : methodNames.contains k = false := by simpa using hk
  simp only [this]
  by_cases h : k ∈ jsonSkip <;> simp [h]

theorem setKey_setKey {α} (k : Str) (v1 v2 : α) (l : List (Str × α)) : setKey k v2 (setKey k v1 l) = setKey k v2 l := by
  induction l with
  | nil => simp [setKey]
  | cons x r ih =>
    obtain ⟨k', v'⟩ := x
    by_cases hk : k' = k
    · simp [setKey, hk]
    · simp [setKey, hk, ih]

theorem applyEach_cons_atom (k : Str) (a : Atom) (r : List JVal) (e : Expr) :
    applyEach k (atomJ a :: r) e =
      ((applyEach k r (applyArgs k (jArgs [atomJ a]) e).1).1,
       (applyArgs k (jArgs [atomJ a]) e).2 + (applyEach k r (applyArgs k (jArgs [atomJ a]) e).1).2) := by
  cases a <;> rfl

theorem listM_eq (k : Str) (a : Atom) (e : Expr) :
    listM k a e = (e.upd (setKey k (.list (curList k e ++ [a])) e.props) (e.hist ++ [.opt k (.atom a)]), 0) := by
  rw [listM, setProp_addHist]

theorem opt_list_exact (k : Str) (hk : k ∈ listMethods) : ∀ (l : List Atom) (e : Expr), l ≠ [] →
    applyEach k (l.map atomJ) e =
      (e.upd (setKey k (.list (curList k e ++ l)) e.props) (e.hist ++ l.map (fun a => .opt k (.atom a))), 0)
  | [], _, h => absurd rfl h
  | [a], e, _ => by
    rw [List.map_cons, applyEach_cons_atom]
    simp [jArgs, applyArgs_some (callMethod_list hk a e), listM_eq, applyEach]
  | a :: b :: r, e, _ => by
    have ih := opt_list_exact k hk (b :: r) (listM k a e).1 (by simp)
    have hc : curList k (listM k a e).1 = curList k e ++ [a] := by
      simp [listM_eq, curList, lookup_setKey]
    rw [List.map_cons, applyEach_cons_atom]
    simp only [jArgs, jArg_atomJ, applyArgs_some (callMethod_list hk a e)]
    rw [ih, hc]
    simp [listM_eq, setKey_setKey]

/-- **formatting lists** : an entry `a: [x, y, …]` is re-applied element-wise, appending to the current list -/
theorem opt_list_a_b_en (k : Str) (hk : k ∈ listMethods) (l : List Atom) (e : Expr) :
    ∃ e', applyEach k (l.map atomJ) e = (e', 0) ∧ Upd e e' ∧
      (l ≠ [] → e'.props = setKey k (.list (curList k e ++ l)) e.props) ∧ (l = [] → e' = e) := by
  by_cases hl : l = []
  · exact ⟨e, by simp [hl, applyEach], Upd.refl e, fun h => absurd hl h, fun _ => rfl⟩
  · exact ⟨_, opt_list_exact k hk l e hl, Upd.of_upd _ _ _, fun _ => upd_props _ _ _, fun h => absurd h hl⟩

def tagJ (t : Str × List (Str × Atom)) : JVal := .arr [.str t.1, dictJ t.2]

def tagCall (t : Str × List (Str × Atom)) : Call :=
  if t.2.isEmpty then .opt (s "tag") (.atom (.str t.1)) else .tag2 t.1 t.2

theorem applyEach_cons_tag (t : Str × List (Str × Atom)) (r : List JVal) (e : Expr) :
    applyEach (s "tag") (tagJ t :: r) e =
      ((applyEach (s "tag") r (applyArgs (s "tag") (jArgs [.str t.1, dictJ t.2]) e).1).1,
       (applyArgs (s "tag") (jArgs [.str t.1, dictJ t.2]) e).2 +
         (applyEach (s "tag") r (applyArgs (s "tag") (jArgs [.str t.1, dictJ t.2]) e).1).2) := rfl

theorem apply_tag_one (nm : Str) (d : List (Str × Atom)) (e : Expr) :
    applyArgs (s "tag") (jArgs [.str nm, dictJ d]) e = tagM (.str nm) (some d) e := by
  have : jArgs [.str nm, dictJ d] = some [.atom (.str nm), .dict d] := by
    simp only [jArgs, jArg_dictJ]; rfl
  rw [this, applyArgs_some (callMethod_tag nm d e)]

theorem tagM_eq (nm : Str) (d : List (Str × Atom)) (e : Expr) :
    tagM (.str nm) (some d) e =
      (e.upd (setKey (s "tag") (.tags (curTags e ++ [(nm, d)])) e.props) (e.hist ++ [tagCall (nm, d)]), 0) := by
  unfold tagM tagCall
  by_cases h : d.isEmpty <;> simp [h, addHist_setProp]

theorem opt_tag_exact : ∀ (l : List (Str × List (Str × Atom))) (e : Expr), l ≠ [] →
    applyEach (s "tag") (l.map tagJ) e =
      (e.upd (setKey (s "tag") (.tags (curTags e ++ l)) e.props) (e.hist ++ l.map tagCall), 0)
  | [], _, h => absurd rfl h
  | [(nm, d)], e, _ => by
    rw [List.map_cons, applyEach_cons_tag, apply_tag_one, tagM_eq]
    simp [applyEach]
  | (nm, d) :: t2 :: r, e, _ => by
    have ih := opt_tag_exact (t2 :: r) (tagM (.str nm) (some d) e).1 (by simp)
    have hc : curTags (tagM (.str nm) (some d) e).1 = curTags e ++ [(nm, d)] := by
      simp [tagM_eq, curTags, lookup_setKey]
    rw [List.map_cons, applyEach_cons_tag, apply_tag_one, ih, hc]
    simp [tagM_eq, setKey_setKey]

/-- **tag with attributes** : an entry `tag: [[name, attrs], …]` is re-applied with each pair splatted -/
theorem opt_tag_attrs (l : List (Str × List (Str × Atom))) (e : Expr) :
    ∃ e', applyEach (s "tag") (l.map tagJ) e = (e', 0) ∧ Upd e e' ∧
      (l ≠ [] → e'.props = setKey (s "tag") (.tags (curTags e ++ l)) e.props) ∧ (l = [] → e' = e) := by
  by_cases hl : l = []
  · exact ⟨e, by simp [hl, applyEach], Upd.refl e, fun h => absurd hl h, fun _ => rfl⟩
  · exact ⟨_, opt_tag_exact l e hl, Upd.of_upd _ _ _, fun _ => upd_props _ _ _, fun h => absurd h hl⟩

/-- one item of a `typ` dictionary that `typ` accepts and stores unchanged (for a French constituent `neg` may be a
    string; a numeric flag value is stored as the boolean it equals, so it never occurs in the state) -/
def TypItemOK (fr : Bool) (kv : Str × Atom) : Prop :=
  ∃ vals, lookup kv.1 typAllowed = some vals ∧
    (if (kv.1 = s "neg" && fr) = true then (∃ x, kv.2 = .str x) ∨ (∃ b, kv.2 = .bool b)
     else vals.any (fun x => x.pyEq kv.2) = true ∧ ∀ i, kv.2 ≠ .int i)

theorem typLoop_ok (fr : Bool) (items types : List (Str × Atom)) (h : ∀ kv ∈ items, TypItemOK fr kv) :
    typLoop fr items types = (types, 0) := by
  induction items with
  | nil => rfl
  | cons x r ih =>
    obtain ⟨k, v⟩ := x
    obtain ⟨vals, hl, hc⟩ := h (k, v) (by simp)
    have ih' := ih (fun kv hkv => h kv (by simp [hkv]))
    unfold typLoop
    simp only [hl]
    by_cases hn : (k = s "neg" && fr) = true
    · rw [if_pos hn] at hc
      rw [if_pos hn]
      rcases hc with ⟨x, hx⟩ | ⟨b, hb⟩
      · simp only at hx; subst hx; exact ih'
      · simp only at hb; subst hb; exact ih'
    · rw [if_neg hn] at hc
      rw [if_neg hn, if_pos hc.1]
      cases v <;> first | exact ih' | exact absurd rfl (hc.2 _)

theorem opt_typ_exact (d : List (Str × Atom)) (e : Expr) (hk : e.kind ∈ typKinds)
    (hd : ∀ kv ∈ d, TypItemOK (decide (e.lang = .fr)) kv) (hfresh : lookup (s "typ") e.props = none) :
    replayOne (s "typ") (dictJ d) e =
      (e.upd (setKey (s "typ") (.dict d) e.props) (e.hist ++ [.opt (s "typ") (.dict d)]), 0) := by
  have hp : lookup (s "typ") e.node.props = none := hfresh
  rw [replayOne_dict typ_name.2.1, applyArgs_some (callMethod_typ _ e)]
  simp [typM, hk, typLoop_ok _ d d hd, hp, addHist_setProp]

/-- **typ** : an entry `typ: {…}` whose items are valid is re-applied as one `typ(dict)` call -/
theorem opt_typ (d : List (Str × Atom)) (e : Expr) (hk : e.kind ∈ typKinds)
    (hd : ∀ kv ∈ d, TypItemOK (decide (e.lang = .fr)) kv) (hfresh : lookup (s "typ") e.props = none) :
    ∃ e', replayOne (s "typ") (dictJ d) e = (e', 0) ∧ Upd e e' ∧ e'.props = setKey (s "typ") (.dict d) e.props :=
  ⟨_, opt_typ_exact d e hk hd hfresh, Upd.of_upd _ _ _, upd_props _ _ _⟩

/-- one item of a `dOpt` dictionary in the STATE of a `DT` (`isDT`) or `NO` that `dOpt` stores unchanged -/
def DOptItemOK (isDT : Bool) (kv : Str × Atom) : Prop :=
  if isDT = true then
    kv.1 ∈ dOptKeysDT ∧ (if kv.1 = s "rtime" then kv.2 = .bool false ∨ ∃ y mo d h mi sec, kv.2 = .dt y mo d h mi sec
                           else kv.2.isBool = true)
  else
    kv.1 ∈ dOptKeysNO ∧ (if kv.1 = s "mprecision" then kv.2.isInt = true else kv.2.isBool = true)

theorem dOptLoop_ok (isDT : Bool) (items acc : List (Str × Atom)) (h : ∀ kv ∈ items, DOptItemOK isDT kv) :
    dOptLoop isDT items acc = (items.foldl (fun a kv => setKey kv.1 kv.2 a) acc, 0) := by
  induction items generalizing acc with
  | nil => rfl
  | cons x r ih =>
    obtain ⟨k, v⟩ := x
    have hx := h (k, v) (by simp)
    have ih' := fun acc => ih acc (fun kv hkv => h kv (by simp [hkv]))
    unfold dOptLoop
    cases isDT with
    | true =>
      simp only [DOptItemOK, if_true] at hx
      obtain ⟨hk, hv⟩ := hx
      by_cases hr : k = s "rtime"
      · rw [if_pos hr] at hv
        subst hr
        rcases hv with hv | ⟨y, mo, d, hh, mi, sec, hv⟩ <;> (subst hv; simp [hk, ih'])
      · rw [if_neg hr] at hv
        simp [hk, hr, hv, ih']
    | false =>
      simp only [DOptItemOK] at hx
      obtain ⟨hk, hv⟩ := hx
      by_cases hr : k = s "mprecision"
      · rw [if_pos hr] at hv
        subst hr
        simp [hk, hv, ih']
      · rw [if_neg hr] at hv
        simp [hk, hr, hv, ih']

theorem not_mem_keys_pre {α} {k : Str} {v : α} {pre l : List (Str × α)} (hd : (keys (pre ++ (k, v) :: l)).Nodup) :
    k ∉ keys pre := by
  rw [keys, List.map_append, List.map_cons] at hd
  exact fun hm => (List.nodup_append.mp hd).2.2 k hm k List.mem_cons_self rfl

theorem nodup_shift {α} {k : Str} {v : α} {pre l : List (Str × α)} (hd : (keys (pre ++ (k, v) :: l)).Nodup) :
    (keys ((pre ++ [(k, v)]) ++ l)).Nodup := by simpa using hd

/-- re-assigning, in order, the items of a dictionary `l` to a dictionary `P` whose keys are an initial segment of
    the keys of `l` gives `l` (Python dict semantics: an existing key keeps its position) -/
theorem foldl_setKey_fix {α} (pre P l : List (Str × α)) (hd : (keys (pre ++ l)).Nodup)
    (hp : keys P = (keys l).take P.length) :
    l.foldl (fun a kv => setKey kv.1 kv.2 a) (pre ++ P) = pre ++ l := by
  induction l generalizing pre P with
  | nil =>
    have : P = [] := by
      cases P with
      | nil => rfl
      | cons x r => simp [keys] at hp
    simp [this]
  | cons x r ih =>
    obtain ⟨k, v⟩ := x
    have hk : k ∉ keys pre := not_mem_keys_pre hd
    have hd' := nodup_shift hd
    cases P with
    | nil =>
      simp only [List.foldl_cons, List.append_nil]
      rw [setKey_of_not_mem k v pre hk]
      have := ih (pre ++ [(k, v)]) [] hd' (by simp [keys])
      simpa using this
    | cons y P' =>
      obtain ⟨k0, v0⟩ := y
      simp [keys] at hp
      obtain ⟨hk0, hp'⟩ := hp
      subst hk0
      simp only [List.foldl_cons]
      rw [setKey_append_of_not_mem k0 v pre _ hk]
      simp only [setKey, if_true]
      have := ih (pre ++ [(k0, v)]) P' hd' (by simpa [keys] using hp')
      simpa using this

theorem opt_dOpt_exact (d d0 : List (Str × Atom)) (e : Expr) (hk : e.kind = s "DT" ∨ e.kind = s "NO")
    (h0 : lookup (s "dOpt") e.props = some (.dict d0))
    (hitems : ∀ kv ∈ d, DOptItemOK (decide (e.kind = s "DT")) kv)
    (hnd : (keys d).Nodup) (hpre : keys d0 = (keys d).take d0.length) :
    replayOne (s "dOpt") (dictJ d) e =
      (e.upd (setKey (s "dOpt") (.dict d) e.props) (e.hist ++ [.opt (s "dOpt") (.dict d)]), 0) := by
  have hg : getDOpt (e.addHist (.opt (s "dOpt") (.dict d))) = d0 := by
    unfold getDOpt; rw [addHist_props, h0]
  have hfix := foldl_setKey_fix [] d0 d (by simpa using hnd) hpre
  simp only [List.nil_append] at hfix
  have hk' : (e.kind = s "DT" || e.kind = s "NO") = true := by rcases hk with h | h <;> simp [h]
  rw [replayOne_dict dOpt_name.2.1, applyArgs_some (callMethod_dOpt _ e)]
  simp [dOptM, hk', hg, dOptLoop_ok _ d d0 hitems, hfix, addHist_setProp]

/-- **dOpt** : the STATE `dOpt: {…}` of a `NO` / `DT` is re-applied as one `dOpt(dict)` call over the defaults that
    the constructor has just put there, and gives the same dictionary -/
theorem opt_dOpt (d d0 : List (Str × Atom)) (e : Expr) (hk : e.kind = s "DT" ∨ e.kind = s "NO")
    (h0 : lookup (s "dOpt") e.props = some (.dict d0))
    (hitems : ∀ kv ∈ d, DOptItemOK (decide (e.kind = s "DT")) kv)
    (hnd : (keys d).Nodup) (hpre : keys d0 = (keys d).take d0.length) :
    ∃ e', replayOne (s "dOpt") (dictJ d) e = (e', 0) ∧ Upd e e' ∧ e'.props = setKey (s "dOpt") (.dict d) e.props :=
  ⟨_, opt_dOpt_exact d d0 e hk h0 hitems hnd hpre, Upd.of_upd _ _ _, upd_props _ _ _⟩

def encProp (kv : Str × PVal) : Str × JVal := (aliasKey kv.1, pvalJ kv.2)

/-- `Replays kind lang P l` : the dictionary `l` is reproduced by re-applying its entries in order on a freshly
    constructed constituent of kind `kind` and language `lang` whose constructor put `P` in `props`.
    The entries that the constructor provides come first (Python dicts keep the position of an existing key):
    each is either not an option name and unchanged (`ctorSkip`), or an option re-applied over the constructor's value
    (`ctorSet`, `ctorDOpt`); the remaining entries are one per option kind. -/
inductive Replays (kind : Str) (lang : Lang) : List (Str × PVal) → List (Str × PVal) → Prop
  | nil : Replays kind lang [] []
  | ctorSkip (k : Str) (v : PVal) (P l) : aliasKey k ∉ methodNames → Replays kind lang P l →
      Replays kind lang ((k, v) :: P) ((k, v) :: l)
  | ctorSet (k : Str) (v0 : PVal) (a : Atom) (sp : Spec) (P l) : findSpec (aliasKey k) = some sp → sp.prop = k →
      a ≠ .none → Allowed sp kind → Local sp kind → sp.valid.any (fun x => x.pyEq a) = true →
      Replays kind lang P l → Replays kind lang ((k, v0) :: P) ((k, .atom a) :: l)
  | ctorDOpt (d0 d : List (Str × Atom)) (P l) : (kind = s "DT" ∨ kind = s "NO") →
      (∀ kv ∈ d, DOptItemOK (decide (kind = s "DT")) kv) → (keys d).Nodup → keys d0 = (keys d).take d0.length →
      Replays kind lang P l → Replays kind lang ((s "dOpt", .dict d0) :: P) ((s "dOpt", .dict d) :: l)
  | feature (k : Str) (a : Atom) (sp : Spec) (l) : findSpec (aliasKey k) = some sp → sp.prop = k →
      a ≠ .none → Allowed sp kind → Local sp kind → sp.valid.any (fun x => x.pyEq a) = true →
      Replays kind lang [] l → Replays kind lang [] ((k, .atom a) :: l)
  | maje (b : Bool) (l) : kind ∈ majeKinds → Replays kind lang [] l →
      Replays kind lang [] ((s "maje", .atom (.bool b)) :: l)
  | list (k : Str) (as : List Atom) (l) : k ∈ listMethods → as ≠ [] → Replays kind lang [] l →
      Replays kind lang [] ((k, .list as) :: l)
  | tag (ts : List (Str × List (Str × Atom))) (l) : ts ≠ [] → Replays kind lang [] l →
      Replays kind lang [] ((s "tag", .tags ts) :: l)
  | typ (d : List (Str × Atom)) (l) : kind ∈ typKinds → (∀ kv ∈ d, TypItemOK (decide (lang = .fr)) kv) →
      Replays kind lang [] l → Replays kind lang [] ((s "typ", .dict d) :: l)

/-- the calls that `setJSONprops` makes for one entry of `props` (what they add to the history) -/
def entryCalls (kv : Str × PVal) : List Call :=
  if aliasKey kv.1 ∈ methodNames then
    match kv.2 with
    | .atom a => [.opt (aliasKey kv.1) (.atom a)]
    | .dict d => [.opt (aliasKey kv.1) (.dict d)]
    | .list as => as.map (fun a => .opt (aliasKey kv.1) (.atom a))
    | .tags ts => ts.map tagCall
  else []

def canonCalls : List (Str × PVal) → List Call
  | [] => []
  | kv :: r => entryCalls kv ++ canonCalls r

theorem lookup_pre_cons {α} {k : Str} {v : α} {pre P : List (Str × α)} (h : k ∉ keys pre) :
    lookup k (pre ++ (k, v) :: P) = some v := by
  rw [lookup_append_right k pre _ (lookup_none_of_not_mem k pre h)]
  simp [lookup]

theorem setKey_pre_cons {α} {k : Str} {v0 v : α} {pre P : List (Str × α)} (h : k ∉ keys pre) :
    setKey k v (pre ++ (k, v0) :: P) = (pre ++ [(k, v)]) ++ P := by
  rw [setKey_append_of_not_mem k v pre _ h]
  simp [setKey]

/-- the first entry of a dictionary that `Replays`: re-applied on a constituent whose props are `pre` (entries already
    re-applied) followed by what is left of the constructor's, it takes its place after `pre` and records its calls -/
theorem Replays.head {kind : Str} {lang : Lang} {P l : List (Str × PVal)} {k : Str} {v : PVal}
    (h : Replays kind lang P ((k, v) :: l)) {e : Expr} {pre : List (Str × PVal)} (hkind : e.kind = kind)
    (hlang : e.lang = lang) (hp : e.props = pre ++ P) (hnm : k ∉ keys pre) :
    ∃ P', Replays kind lang P' l ∧
      (replayOne (aliasKey k) (pvalJ v) e).1 = e.upd ((pre ++ [(k, v)]) ++ P') (e.hist ++ entryCalls (k, v)) := by
  subst hkind hlang
  cases h with
  | ctorSkip _ _ P' _ hk hr =>
    refine ⟨P', hr, ?_⟩
    rw [opt_skipped _ _ e hk, entryCalls, if_neg hk, List.append_nil, List.append_assoc, List.singleton_append, ← hp,
      upd_self]
  | ctorSet _ v0 a sp P' _ hf hprop hne hal hl hv hr =>
    refine ⟨P', hr, ?_⟩
    rw [pvalJ, opt_feature _ sp a e hf hne hal hl hv, hprop, hp, setKey_pre_cons hnm, entryCalls,
      if_pos (mem_methodNames_of_findSpec hf), name_of_findSpec hf]
  | ctorDOpt d0 d P' _ hk hitems hnd hpre hr =>
    refine ⟨P', hr, ?_⟩
    rw [pvalJ, dOpt_name.2.2, opt_dOpt_exact d d0 e hk (by rw [hp]; exact lookup_pre_cons hnm) hitems hnd hpre, hp,
      setKey_pre_cons hnm, entryCalls, dOpt_name.2.2, if_pos dOpt_name.2.1]
  | feature _ a sp _ hf hprop hne hal hl hv hr =>
    refine ⟨[], hr, ?_⟩
    rw [List.append_nil] at hp
    rw [pvalJ, opt_feature _ sp a e hf hne hal hl hv, hprop, hp, setKey_of_not_mem _ _ pre hnm, entryCalls,
      if_pos (mem_methodNames_of_findSpec hf), name_of_findSpec hf, List.append_nil]
  | maje b _ hk hr =>
    refine ⟨[], hr, ?_⟩
    rw [List.append_nil] at hp
    rw [pvalJ, maje_name.2.2, atomJ, opt_maje b e hk, hp, setKey_of_not_mem _ _ pre hnm, entryCalls, maje_name.2.2,
      if_pos maje_name.2.1, List.append_nil]
  | list _ as _ hk hne hr =>
    refine ⟨[], hr, ?_⟩
    rw [List.append_nil] at hp
    have hcur : curList k e = [] := by
      unfold curList; rw [hp, lookup_none_of_not_mem k pre hnm]
    rw [pvalJ, (list_name hk).2.2, replayOne_arr (list_name hk).2.1, opt_list_exact k hk as e hne, hcur, hp,
      setKey_of_not_mem _ _ pre hnm, entryCalls, (list_name hk).2.2, if_pos (list_name hk).2.1, List.append_nil,
      List.nil_append]
  | tag ts _ hne hr =>
    refine ⟨[], hr, ?_⟩
    rw [List.append_nil] at hp
    have hcur : curTags e = [] := by
      unfold curTags; rw [hp, lookup_none_of_not_mem _ pre hnm]
    rw [show pvalJ (.tags ts) = .arr (ts.map tagJ) from rfl, tag_name.2.2, replayOne_arr tag_name.2.1,
      opt_tag_exact ts e hne, hcur, hp, setKey_of_not_mem _ _ pre hnm, entryCalls, tag_name.2.2, if_pos tag_name.2.1,
      List.append_nil, List.nil_append]
  | typ d _ hk hitems hr =>
    refine ⟨[], hr, ?_⟩
    rw [List.append_nil] at hp
    rw [pvalJ, typ_name.2.2, opt_typ_exact d e hk hitems (by rw [hp]; exact lookup_none_of_not_mem _ pre hnm), hp,
      setKey_of_not_mem _ _ pre hnm, entryCalls, typ_name.2.2, if_pos typ_name.2.1, List.append_nil]

/-- **the composition** : under `Replays`, `setJSONprops` rebuilds the dictionary and appends its canonical calls -/
theorem setProps_replays : ∀ (l : List (Str × PVal)) {kind : Str} {lang : Lang} {P : List (Str × PVal)}
    (_ : Replays kind lang P l) (e : Expr) (pre : List (Str × PVal)), e.kind = kind → e.lang = lang →
    e.props = pre ++ P → (keys (pre ++ l)).Nodup →
    (setProps (l.map encProp) e).1 = e.upd (pre ++ l) (e.hist ++ canonCalls l)
  | [], _, _, _, h, e, pre, _, _, hp, _ => by
    cases h
    rw [List.append_nil] at hp ⊢
    rw [List.map_nil, setProps_nil, canonCalls, List.append_nil, ← hp, upd_self]
  | (k, v) :: l, _, _, _, h, e, pre, hkind, hlang, hp, hd => by
    obtain ⟨P', hr, hstep⟩ := h.head hkind hlang hp (not_mem_keys_pre hd)
    rw [List.map_cons, encProp, setProps_cons]
    dsimp only
    rw [hstep,
      setProps_replays l hr _ (pre ++ [(k, v)]) (by rw [upd_kind, hkind]) (by rw [upd_lang, hlang]) (upd_props _ _ _)
        (nodup_shift hd)]
    simp [canonCalls]

end Pyrealb.Expr
