import Pyrealb.Model.Lemmatize
/-! The declension model reads the rule tables only through `lookup`: two rule lists with the same `lookup` realize
    alike.  Used to put the table at hand in front of the generated list before evaluating. -/
namespace Pyrealb.Decl
open Pyrealb

variable {rules rules' : Rules} (h : ∀ k, lookup k rules = lookup k rules')
include h

theorem setLemmaKey_congr (t : Term) (key : Str) (info : LV) :
    setLemmaKey rules t key info = setLemmaKey rules' t key info := by
  unfold setLemmaKey
  simp only [h]

theorem setLemmaKeys_congr : ∀ (t : Term) (e : PosEntry), setLemmaKeys rules t e = setLemmaKeys rules' t e
  | _, [] => rfl
  | t, (k, v) :: r => by
    unfold setLemmaKeys
    simp only [setLemmaKey_congr h, setLemmaKeys_congr _ r]

theorem setLemma_congr (lex : Lex) (t : Term) (lemma : Str) : setLemma rules lex t lemma = setLemma rules' lex t lemma := by
  unfold setLemma
  simp only [setLemmaKeys_congr h]

theorem mkTerm_congr (lex : Lex) (lang : Lang) (pos : Pos) (lemma : Str) :
    mkTerm rules lex lang pos lemma = mkTerm rules' lex lang pos lemma := setLemma_congr h ..

theorem declineGen_congr (sub : Pos → Str → FV → FV → Except Crash (Str × Nat)) (lex : Lex) (t : Term) (tb : Str)
    (sp : Bool) : declineGen sub rules lex t tb sp = declineGen sub rules' lex t tb sp := by
  unfold declineGen declineAdjEn adjRowsEn declineNDP prepareNDP majesticStep checkMajestic
  simp only [h, mkTerm_congr h, setLemma_congr h]

theorem realGen_congr (sub : Pos → Str → FV → FV → Except Crash (Str × Nat)) (lex : Lex) (t : Term) :
    realGen sub rules lex t = realGen sub rules' lex t := by
  unfold realGen
  simp only [declineGen_congr h]

theorem realize_congr (lex : Lex) (sp : Spec) : realize rules lex sp = realize rules' lex sp := by
  have hsub : subFr rules lex = subFr rules' lex := by
    funext pos lemma g n
    unfold subFr realBase
    simp only [mkTerm_congr h, realGen_congr h]
  unfold realize realTerm
  simp only [mkTerm_congr h, hsub, realGen_congr h]

end Pyrealb.Decl
