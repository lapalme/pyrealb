import Pyrealb.Model.LemmatizeWF
import Pyrealb.Lemmas.ConjWF
/-! `wfConjEn` / `wfConjFr` (which contain `wfTableEn` / `wfTableFr`) of the generated conjugation tables in use, each
    evaluated once over its language's tables; `Props/C01` and `Props/C18` read their table theorems off these. -/
namespace Pyrealb.Lemmatize
open Pyrealb

theorem keysNodup_of_codes {tb : Conj.Table} (h : Conj.distinctCodes (tb.rows.map (·.1)) = true) : keysNodup tb = true :=
  decide_eq_true (Conj.distinctCodes_nodup h)

theorem wfConjEn_tables : ∀ p ∈ Gen.ConjEn.tables, wfConjEn p.2 = true := by
  have h : Gen.ConjEn.tables.all (fun p =>
      Conj.wfTableEn p.2 && cellsNoLeadSpace p.2 && Conj.distinctCodes (p.2.rows.map (·.1))) = true := by decide +kernel
  intro p hp
  have hp := List.all_eq_true.mp h p hp
  simp only [Bool.and_eq_true] at hp
  simp only [wfConjEn, hp.1.1, hp.1.2, keysNodup_of_codes hp.2, Bool.and_self]

theorem used_en_exists : ∀ name ∈ Gen.ConjEn.used, ∃ tb, lookup name Gen.ConjEn.tables = some tb := by
  have h : Gen.ConjEn.used.all (fun name => (Gen.ConjEn.tables.map (Conj.strCode ·.1)).contains (Conj.strCode name)) = true := by
    decide +kernel
  intro name hn
  obtain ⟨p, hp, he⟩ := List.mem_map.mp (List.contains_iff_mem.mp (List.all_eq_true.mp h name hn))
  exact Conj.lookup_of_key ⟨p, hp, Conj.strCode_inj he⟩

/-- rules-fr.json has tables of another shape; no French lexicon verb refers to one of them -/
theorem wfConjFr_tables : ∀ p ∈ Gen.ConjFr.tables, p.1 ∈ Gen.ConjFr.used → wfConjFr p.2 = true := by
  have h : (Gen.ConjFr.tables.filter (fun p => !(Conj.wfTableFr p.2 && cellsNoLeadSpace p.2 &&
      Conj.distinctCodes (p.2.rows.map (·.1)) && ipOK p.2))).all (fun p => !Gen.ConjFr.used.contains p.1) = true := by
    decide +kernel
  intro p hp hu
  cases hwf : Conj.wfTableFr p.2 && cellsNoLeadSpace p.2 && Conj.distinctCodes (p.2.rows.map (·.1)) && ipOK p.2 with
  | true =>
    simp only [Bool.and_eq_true] at hwf
    simp only [wfConjFr, hwf.1.1.1, hwf.1.1.2, keysNodup_of_codes hwf.1.2, hwf.2, Bool.and_self]
  | false =>
    have := List.all_eq_true.mp h p (List.mem_filter.mpr ⟨hp, by rw [hwf]; rfl⟩)
    rw [List.contains_iff_mem.mpr hu] at this
    cases this

end Pyrealb.Lemmatize
