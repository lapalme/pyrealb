import Pyrealb.Model.ExprSource
/-! Evaluating the construction program that a printed source denotes rebuilds the expression (C12, source route),
    by structural induction on the expression. -/
namespace Pyrealb.Expr
open Pyrealb

/-- the call a history entry prints as -/
def callArgs : Call → Str × List PVal
  | .opt name arg => (name, [arg])
  | .tag2 nm attrs => (s "tag", [.atom (.str nm), .dict attrs])

def withCalls (base : Prog) (hist : List Call) : Prog :=
  hist.foldl (fun recv c => .call recv (callArgs c).1 (callArgs c).2) base

mutual
/-- what `eval(e.toSource())` evaluates when the language of the root is the current one: the lemma is printed as a
    string literal, children as arguments, the history as method calls; every constituent gets its own language
    (through `lang=` where it is not the root's) -/
def progOf : Expr → Prog
  | .term n lemma _ => withCalls (.term n.kind (.str (strAtom lemma)) n.lang) n.hist
  | .phr n es => withCalls (.phr n.kind n.lang (progOfList es)) n.hist
  | .dep n t ds => withCalls (.dep n.kind n.lang (progOf t) (progOfList ds)) n.hist
def progOfList : List Expr → List Prog
  | [] => []
  | e :: r => progOf e :: progOfList r
end

/-- `x.m1(a1).m2(a2)…` : the calls of a history applied in order; `none` = AttributeError -/
def replayCalls : List Call → Expr × Nat → Option (Expr × Nat)
  | [], r => some r
  | c :: rest, (e, w) =>
    match callMethod (callArgs c).1 (callArgs c).2 e with
    | none => none
    | some (e1, w1) => replayCalls rest (e1, w + w1)

/-- an error of the receiver, or an `AttributeError` of one call, propagates through the later calls -/
theorem build_withCalls (env : Env) (ctx : Lang) : ∀ (hist : List Call) (base : Prog),
    build env ctx (withCalls base hist) =
      match build env ctx base with
      | .error err => .error err
      | .ok r =>
        match replayCalls hist r with
        | some r' => .ok r'
        | none => .error .attributeError
  | [], base => by cases h : build env ctx base <;> simp [withCalls, replayCalls, h]
  | c :: r, base => by
    have ih := build_withCalls env ctx r (.call base (callArgs c).1 (callArgs c).2)
    rw [withCalls, List.foldl_cons]
    rw [withCalls] at ih
    rw [ih, build]
    cases h : build env ctx base with
    | error err => simp
    | ok p =>
      obtain ⟨e, w⟩ := p
      cases hc : callMethod (callArgs c).1 (callArgs c).2 e with
      | none => simp [replayCalls, hc]
      | some q => simp [replayCalls, hc]

mutual
/-- **the side conditions of the source round trip**, node by node: the constituent is exactly what its recorded call
    history makes of what its constructor builds (from the printed lemma / from the children): nothing in its state
    comes from elsewhere (an option propagated by an enclosing CP, a numeric lemma, an `add()` that re-ordered …) -/
def WFS (env : Env) : Expr → Prop
  | .term n lemma info =>
      replayCalls n.hist (mkTerm env n.lang n.kind (.str (strAtom lemma))) = some (.term n lemma info, 0)
  | .phr n es => WFSList env es ∧ replayCalls n.hist (mkPhr n.kind n.lang es) = some (.phr n es, 0)
  | .dep n t ds => WFS env t ∧ WFSList env ds ∧
      replayCalls n.hist (mkDep n.kind n.lang t ds) = some (.dep n t ds, 0)
def WFSList (env : Env) : List Expr → Prop
  | [] => True
  | e :: r => WFS env e ∧ WFSList env r
end

mutual
theorem build_progOf (env : Env) : ∀ (e : Expr) (ctx : Lang), WFS env e →
    build env ctx (progOf e) = .ok (e, 0)
  | .term n lemma info, ctx, h => by
    simp only [WFS] at h
    rw [progOf, build_withCalls]
    simp [build, h]
  | .phr n es, ctx, h => by
    obtain ⟨hes, hr⟩ := h
    rw [progOf, build_withCalls]
    simp [build, buildList_progOf env es n.lang hes, hr]
  | .dep n t ds, ctx, h => by
    obtain ⟨ht, hds, hr⟩ := h
    rw [progOf, build_withCalls]
    simp [build, build_progOf env t n.lang ht, buildList_progOf env ds n.lang hds, hr]
theorem buildList_progOf (env : Env) : ∀ (es : List Expr) (ctx : Lang), WFSList env es →
    buildList env ctx (progOfList es) = .ok (es, 0)
  | [], _, _ => by simp [progOfList, buildList]
  | e :: r, ctx, h => by
    obtain ⟨he, hr⟩ := h
    simp [progOfList, buildList, build_progOf env e ctx he, buildList_progOf env r ctx hr]
end

end Pyrealb.Expr
