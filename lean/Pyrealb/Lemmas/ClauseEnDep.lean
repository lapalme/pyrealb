import Pyrealb.Lemmas.ClauseEnPh
/-! Dependency notation: the state after `passivate` + `processTyp_verb`, and the declarative linearisation. -/
namespace Pyrealb.ClauseEn


def dSubj (a : ArgTok) : DNode := ⟨.subj, .arg a, false, false⟩
def dObj (a : ArgTok) : DNode := ⟨.comp, .arg a, false, false⟩
def dPP (pa : Str × ArgTok) : DNode := ⟨.comp, .pp pa.1 pa.2, false, false⟩
def dPre (t : Tok) : DNode := ⟨.pre, .word t, false, false⟩
def dIt : DNode := ⟨.pre, .arg .it, false, false⟩

def optL {α β} (f : α → β) : Option α → List β
  | some x => [f x]
  | none => []

theorem initDep_eq (sp : Spec) :
    initDep sp = { term := .v0,
                   deps := dSubj (argTokOfSubj sp.subj) :: (optL dObj (sp.obj.map argTokOfObj) ++ (ppArgs sp).map dPP),
                   agr := agrOfArg sp.subj, g := genderOfArg sp.subj } := by
  obtain ⟨subj, verb, t, obj, pps⟩ := sp
  cases obj <;> simp [initDep, optL, dSubj, dObj, dPP, ppArgs, List.map_map, Function.comp_def]

@[simp] theorem dPP_rel (pa : Str × ArgTok) : (dPP pa).rel = .comp := rfl
@[simp] theorem dPP_ct (pa : Str × ArgTok) : (dPP pa).head.ct = .P := rfl
@[simp] theorem dPP_isPre (pa : Str × ArgTok) : (dPP pa).isPre = false := rfl
@[simp] theorem dObj_isPre (a : ArgTok) : (dObj a).isPre = false := rfl
@[simp] theorem dSubj_isPre (a : ArgTok) : (dSubj a).isPre = true := rfl
@[simp] theorem dPre_isPre (t : Tok) : (dPre t).isPre = true := rfl
@[simp] theorem dIt_isPre : dIt.isPre = true := rfl
@[simp] theorem dPre_rel (t : Tok) : (dPre t).rel = .pre := rfl
@[simp] theorem dSubj_rel (a : ArgTok) : (dSubj a).rel = .subj := rfl
@[simp] theorem dObj_rel (a : ArgTok) : (dObj a).rel = .comp := rfl
@[simp] theorem dIt_rel : dIt.rel = .pre := rfl
@[simp] theorem dObj_head (a : ArgTok) : (dObj a).head = .arg a := rfl
@[simp] theorem dSubj_head (a : ArgTok) : (dSubj a).head = .arg a := rfl
@[simp] theorem dPre_head (t : Tok) : (dPre t).head = .word t := rfl
@[simp] theorem dhead_arg_ct (a : ArgTok) : (DHead.arg a).ct = a.ct := rfl
@[simp] theorem dhead_word_ct (t : Tok) : (DHead.word t).ct = t.ct := rfl

theorem findIdx_obj_pps (pl : List (Str × ArgTok)) :
    findIdx (fun d : DNode => d.rel == .comp && isNPPro d.head.ct) (pl.map dPP) = none :=
  findIdx_map_none _ _ _ (fun _ => rfl)

theorem findIdx_subj_pps (pl : List (Str × ArgTok)) :
    findIdx (fun d : DNode => d.rel == .subj) (pl.map dPP) = none :=
  findIdx_map_none _ _ _ (fun _ => rfl)

/-! ### the two shapes of the dependency clause after passivation and affix hopping -/

/-- a `subj` dependent first, then the nominal object, then prepositional complements (the by-phrase LAST), then
    the `*pre*` words -/
def plainSt (sj : ArgTok) (obj : Option ArgTok) (ql : List (Str × ArgTok)) (init : List Tok) (last : Tok)
    (agr : Agr) (g : Gender) : DState :=
  { term := .tok last, deps := dSubj sj :: (optL dObj obj ++ (ql.map dPP ++ init.map dPre)), agr := agr, g := g,
    termComma := false, warn := 0 }

/-- objectless passive: no `subj` dependent; `*pre*(it)` stands after the prepositional complements -/
def dummySt (pps bl : List (Str × ArgTok)) (init : List Tok) (last : Tok) (agr : Agr) (g : Gender) : DState :=
  { term := .tok last, deps := pps.map dPP ++ (dIt :: (bl.map dPP ++ init.map dPre)), agr := agr, g := g,
    termComma := false, warn := 0 }

def byArg (sp : Spec) : Str × ArgTok := (s "by", argTokOfSubj sp.subj)

/-- passivation and affix hopping bring the dependency clause to one of the two shapes -/
theorem mid_state_dep (sp : Spec) (pas : Bool) (init : List Tok) (last : Tok) :
    processTypVerbDep (init ++ [last]) (if pas then passivateDep (initDep sp) else initDep sp) =
      if pas then
        match sp.obj with
        | some (.np a) => plainSt (.np a) none (ppArgs sp ++ [byArg sp]) init last ⟨.p3, a.n⟩ a.g
        | some (.pro a) => plainSt (.proNom a) none (ppArgs sp ++ [byArg sp]) init last ⟨a.pe, a.n⟩ a.g
        | none => dummySt (ppArgs sp) [byArg sp] init last (agrOfArg sp.subj) (genderOfArg sp.subj)
      else plainSt (argTokOfSubj sp.subj) (sp.obj.map argTokOfObj) (ppArgs sp) init last (agrOfArg sp.subj)
        (genderOfArg sp.subj) := by
  rw [initDep_eq]
  obtain ⟨subj, verb, t, obj, pps⟩ := sp
  cases pas
  · simp [processTypVerbDep, plainSt, optL, dPre]
  · cases obj with
    | none =>
      cases subj <;>
      simp [passivateDep, processTypVerbDep, dummySt, byArg, optL, findIdx, findIdx_obj_pps, argTokOfSubj, removeAt,
        dSubj, dIt, dPP, dPre]
    | some o =>
      cases o <;> cases subj <;>
      simp [passivateDep, processTypVerbDep, plainSt, byArg, optL, findIdx, argTokOfSubj, argTokOfObj, removeAt,
        setAt, dSubj, dObj, dPP, dPre]

/-! ### the declarative linearisation of the dependency notation -/

/-- inversion in the dependency notation: the first `*pre*` word goes to the front when there is one; a lone
    `be`/`have` gets its subject after it; otherwise nothing moves -/
def frontD (sj : ArgTok) (ws : List Tok) (compl : List Tok) : List Tok :=
  if 2 ≤ ws.length then ws.take 1 ++ [.arg sj] ++ ws.drop 1 ++ compl
  else if headAlone ws then ws ++ [.arg sj] ++ compl
  else [.arg sj] ++ ws ++ compl

def lastIsFirst (ws : List Tok) : Bool :=
  match ws.getLast? with
  | some (.verb _ _ .shared) => true
  | some .cannot => true
  | _ => false

/-- prefix and remaining prepositional dependents of `woi/wai/whe/whn` in the dependency notation: EVERY prepositional
    dependent is looked at, the first whose preposition fits is removed (the constituent notation stops at the first
    prepositional phrase: `questionPPPh`) -/
def questionPPDep (i : Int) : List (Str × ArgTok) → Str × List (Str × ArgTok)
  | [] => (intPrefix i, [])
  | (p, a) :: r =>
    if prepQualifies i p then ((if i == .whe || i == .whn then intPrefix i else p ++ s " " ++ whomOrWhat i), r)
    else ((questionPPDep i r).1, (p, a) :: (questionPPDep i r).2)

/-- tokens of the clause proper, dependency notation, `subj` dependent present (always defined since `preposition_list`
    is shared with the dependency notation) -/
def linDepPlain (sj : ArgTok) (obj : Option ArgTok) (ql : List (Str × ArgTok)) (i : Option Int) (ws : List Tok) :
    Option (List Tok) :=
  match i with
  | none => some ([.arg sj] ++ ws ++ (objToks obj ++ ppToks ql))
  | some .tag => some (.q (intPrefix .tag) :: ([.arg sj] ++ ws ++ (objToks obj ++ ppToks ql)))
  | some .yon => some (frontD sj ws (objToks obj ++ ppToks ql))
  | some .how => some (.q (intPrefix .how) :: frontD sj ws (objToks obj ++ ppToks ql))
  | some .why => some (.q (intPrefix .why) :: frontD sj ws (objToks obj ++ ppToks ql))
  | some .muc => some (.q (intPrefix .muc) :: frontD sj ws (objToks obj ++ ppToks ql))
  | some .wos => some (.q (intPrefix .wos) :: (ws ++ (objToks obj ++ ppToks ql)))
  | some .was => some (.q (intPrefix .was) :: (ws ++ (objToks obj ++ ppToks ql)))
  | some .wod =>
    some (.q (if Gen.ClauseEn.depHumanObjectGetsIntValue && objHuman obj then s "whom" else intPrefix .wod)
      :: frontD sj ws (ppToks ql))
  | some .wad => some (.q (intPrefix .wad) :: frontD sj ws (ppToks ql))
  | some .woi => some (.q (questionPPDep .woi ql).1 :: frontD sj ws (objToks obj ++ ppToks (questionPPDep .woi ql).2))
  | some .wai => some (.q (questionPPDep .wai ql).1 :: frontD sj ws (objToks obj ++ ppToks (questionPPDep .wai ql).2))
  | some .whe => some (.q (questionPPDep .whe ql).1 :: frontD sj ws (objToks obj ++ ppToks (questionPPDep .whe ql).2))
  | some .whn => some (.q (questionPPDep .whn ql).1 :: frontD sj ws (objToks obj ++ ppToks (questionPPDep .whn ql).2))

/-- objectless passive in the dependency notation: `it` is a `*pre*` dependent, found first by `move_object`, so
    nothing is inverted; there is no `subj` dependent to remove -/
def linDepDummy (pps bl : List (Str × ArgTok)) (i : Option Int) (ws : List Tok) : Option (List Tok) :=
  let base := [Tok.arg .it] ++ ws ++ (ppToks pps ++ ppToks bl)
  let ppq (j : Int) : Option (List Tok) :=
    some (.q (questionPPDep j (pps ++ bl)).1 :: ([Tok.arg .it] ++ ws ++ ppToks (questionPPDep j (pps ++ bl)).2))
  match i with
  | none => some base
  | some .yon => some base
  | some .woi => ppq .woi
  | some .wai => ppq .wai
  | some .whe => ppq .whe
  | some .whn => ppq .whn
  | some j => some (.q (intPrefix j) :: base)

def agrDepPlain (agr : Agr) (i : Option Int) (ws : List Tok) : Agr :=
  match i with
  | some .wos | some .was => if lastIsFirst ws then ⟨.p3, .s⟩ else agr
  | _ => agr

/-- declarative linearisation of the dependency notation for a clause specification; `none` = AttributeError -/
def linDep (sp : Spec) (ty : Typ) (ws : List Tok) : Option (List Tok) :=
  if ty.pas then
    match sp.obj with
    | some (.np a) => linDepPlain (.np a) none (ppArgs sp ++ [byArg sp]) ty.int ws
    | some (.pro a) => linDepPlain (.proNom a) none (ppArgs sp ++ [byArg sp]) ty.int ws
    | none => linDepDummy (ppArgs sp) [byArg sp] ty.int ws
  else linDepPlain (argTokOfSubj sp.subj) (sp.obj.map argTokOfObj) (ppArgs sp) ty.int ws

/-- the `peng` the first verb reads in the dependency notation -/
def agrDep (sp : Spec) (ty : Typ) (ws : List Tok) : Agr :=
  if ty.pas then
    match sp.obj with
    | some (.np a) => agrDepPlain ⟨.p3, a.n⟩ ty.int ws
    | some (.pro a) => agrDepPlain ⟨a.pe, a.n⟩ ty.int ws
    | none => agrOfArg sp.subj          -- the verb keeps the record of the DEMOTED subject
  else agrDepPlain (agrOfArg sp.subj) ty.int ws

end Pyrealb.ClauseEn
