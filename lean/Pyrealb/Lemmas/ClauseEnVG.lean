import Pyrealb.Lemmas.ClauseEnSpec
/-! `affixHopping` reads the tense and the flags only through the chain of auxiliaries, the negation and the form of the
    first element; the chain is the prescribed one except for the `do` of a question (`auxChain_eq`).  So a future tense
    acts like the modality `will`, an interrogative only through `Typ.questioned`: `Typ.norm`. -/
namespace Pyrealb.ClauseEn

/-- the flag combinations on which the unchanged code departs from the prescribed verb group -/
def Irregular (v : VLemma) (t : Tense) (ty : Typ) : Bool :=
  let noAux := (specAux t ty).isEmpty
  let haveFirst := ty.mod.isNone && !t.isFuture && ty.perf
  (v == .do_ && ty.neg && noAux && !ty.questioned)               -- "does not" : the verb is lost
  || (v == .have && ty.neg && (haveFirst || noAux))               -- "does not have had" / do-support for have
  || ((v == .can || v == .will || v == .shall || v == .may || v == .must) && ty.questioned && noAux)  -- "does he can"

/-- a token of the verb group -/
def Tok.isWord : Tok → Bool
  | .verb .. | .cannot | .not_ | .to_ => true
  | _ => false

/-- `not` directly after the first element (`cannot` carries its own), nowhere else; none without `neg` -/
def notPlaced (neg : Bool) (ws : List Tok) : Bool :=
  if neg then
    match ws with
    | .cannot :: r => notCount r == 0
    | .verb _ _ _ :: .not_ :: r => notCount r == 0
    | _ => false
  else notCount ws == 0

def VForm.isFinite : VForm → Bool | .p | .ps => true | _ => false

/-- lemma and form of the verb-group elements -/
def vgroupLF (l : List Tok) : List (VLemma × VForm) := (vgroup l).map (fun x => (x.1, x.2.1))

def specLF (v : VLemma) (t : Tense) (ty : Typ) : List (VLemma × VForm) := (specGroup v t ty).map (fun x => (x.1, x.2.1))

/-- the first element carries the tense of the clause, no other element is finite -/
def firstFiniteOnly (t : Tense) (g : List (VLemma × VForm)) : Bool :=
  match g with
  | [] => false
  | (_, f) :: rest => f == t.finForm && rest.all (fun x => !x.2.isFinite)

/-- do-support: the auxiliary `do` followed by a bare form -/
def usesDo (g : List (VLemma × VForm)) : Bool :=
  match g with
  | (.do_, _) :: (_, .b) :: _ => true
  | _ => false

/-- a V somewhere among the words: `getIdxCtx("VP","V")` succeeds and element 0 of the VP is fronted -/
def hasV (ws : List Tok) : Bool := ws.any (fun t => t.ct == .V)

/-- the verb that stands alone (no `*pre*` word) and is `be` or `have`: the subject is put after it -/
def headAlone (ws : List Tok) : Bool :=
  match ws.head? with
  | some w => aloneDep w.lemmaName
  | none => false

theorem auxOfMod_eq (m : Mod) : auxOfMod m = specModal m := by cases m <;> decide
theorem futureAux_eq : futureAux = .will := by decide
theorem perfAux_eq : perfAux = .have ∧ perfPart = .pp := by decide
theorem progAux_eq : progAux = .be ∧ progPart = .pr := by decide
theorem pasAux_eq : pasAux = .be ∧ pasPart = .pp := by decide
theorem intNeedsDo_eq (i : Int) : intNeedsDo i = Typ.questioned { int := some i } := by cases i <;> decide

theorem isFuture_ofTense (t : Tense) : (AT.ofTense t == .f || AT.ofTense t == .c) = t.isFuture := by
  cases t <;> rfl

/-- a question without auxiliary gets `do` unless the verb is `be` or `have` (a negation gets its `do` later, in the
    first element) -/
def codeChain (v : VLemma) (q : Bool) (aux : List (VLemma × VForm)) : List (VLemma × VForm) :=
  if aux.isEmpty && q && v != .be && v != .have then [(.do_, .b)] else aux

theorem auxChain_eq (v : VLemma) (t : Tense) (ty : Typ) :
    auxChain v (.ofTense t) ty = codeChain v ty.questioned (specAux t ty) := by
  have ht : AT.ofTense t ≠ .b := by cases t <;> decide
  unfold auxChain specAux codeChain
  simp only [isFuture_ofTense, auxOfMod_eq, futureAux_eq, perfAux_eq, progAux_eq, pasAux_eq]
  obtain ⟨neg, pas, perf, prog, contr, exc, m, i⟩ := ty
  -- with `have` or `be` in the chain both sides are the same list (`rfl` identifies the two matchers on `m`)
  cases perf <;> cases prog <;> cases pas <;> simp <;> try rfl
  cases m <;> cases t.isFuture <;> simp
  all_goals
    cases i with
    | none => simp [Typ.questioned]
    | some i =>
      have hq : ∀ m, Typ.questioned ⟨neg, false, false, false, contr, exc, m, some i⟩ = intNeedsDo i :=
        fun _ => (intNeedsDo_eq i).symm
      cases hn : intNeedsDo i <;> simp [hq, hn, ht]

def Tense.base : Tense → Tense | .p | .f => .p | .ps | .c => .ps

/-- `contr` and `exc` cleared, the future auxiliary as the modality `will`, of the interrogative only `questioned` -/
def Typ.norm (t : Tense) (ty : Typ) : Typ :=
  { ty with contr := false, exc := false,
            mod := match ty.mod with
              | some m => some m
              | none => if t.isFuture then some .will else none,
            int := if ty.questioned then some .yon else none }

def Typ.normFlags : List Typ :=
  boolAll.flatMap fun neg => boolAll.flatMap fun pas => boolAll.flatMap fun perf => boolAll.flatMap fun prog =>
    Mod.allOpt.flatMap fun m => [none, some Int.yon].map fun i =>
      { neg := neg, pas := pas, perf := perf, prog := prog, mod := m, int := i }

theorem Tense.base_mem (t : Tense) : t.base ∈ [Tense.p, .ps] := by cases t <;> decide

theorem Typ.norm_mem (t : Tense) (ty : Typ) : ty.norm t ∈ Typ.normFlags := by
  simp only [Typ.normFlags, Typ.norm, List.mem_flatMap, List.mem_map]
  exact ⟨_, mem_boolAll _, _, mem_boolAll _, _, mem_boolAll _, _, mem_boolAll _, _, Mod.mem_allOpt _, _,
    by cases ty.questioned <;> decide, rfl⟩

theorem specAux_norm (t : Tense) (ty : Typ) : specAux t.base (ty.norm t) = specAux t ty := by
  obtain ⟨neg, pas, perf, prog, contr, exc, m, i⟩ := ty
  cases m <;> cases t <;> rfl

theorem questioned_norm (t : Tense) (ty : Typ) : (ty.norm t).questioned = ty.questioned := by
  unfold Typ.norm
  cases h : ty.questioned <;> rfl

theorem words_norm (v : VLemma) (t : Tense) (ty : Typ) : words v t.base (ty.norm t) = words v t ty := by
  unfold words affixHopping
  rw [auxChain_eq, auxChain_eq, specAux_norm, questioned_norm]
  cases t <;> rfl

theorem doSupport_norm (v : VLemma) (t : Tense) (ty : Typ) : doSupport v t.base (ty.norm t) = doSupport v t ty := by
  unfold doSupport
  rw [questioned_norm, specAux_norm]
  rfl

theorem specGroup_norm (v : VLemma) (t : Tense) (ty : Typ) : specGroup v t.base (ty.norm t) = specGroup v t ty := by
  unfold specGroup specChain
  rw [doSupport_norm, specAux_norm]
  cases t <;> rfl

theorem Irregular_norm (v : VLemma) (t : Tense) (ty : Typ) : Irregular v t.base (ty.norm t) = Irregular v t ty := by
  unfold Irregular
  rw [questioned_norm, specAux_norm]
  obtain ⟨neg, pas, perf, prog, contr, exc, m, i⟩ := ty
  cases m <;> cases t <;> rfl

theorem firstFiniteOnly_base (t : Tense) (g : List (VLemma × VForm)) : firstFiniteOnly t.base g = firstFiniteOnly t g := by
  cases t <;> rfl

/-- representative of the class of an interrogative value as far as the verb group is concerned -/
def intRep : Option Int → Option Int
  | none => none
  | some .wos | some .was | some .tag => some .wos
  | some _ => some .yon

theorem intNeedsDo_rep (i : Int) : (match intRep (some i) with | some j => intNeedsDo j | none => false) = intNeedsDo i := by
  cases i <;> decide

end Pyrealb.ClauseEn
