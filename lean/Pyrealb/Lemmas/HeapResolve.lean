import Pyrealb.Lemmas.HeapPtr
/-! # A run of assignments as a list of CONSTANT writes

`compile q P` symbolically executes the plan `P` from the pointer state `q`: every chain of the Python code
(`self.peng = head.peng; e.peng = self.peng`) is resolved to the slot it ultimately comes from (`origin`), and every
assignment becomes a write of a constant taken from `q` (the state BEFORE the run).  `compile_sound` proves that the
dynamic execution `execP q P` (every read in the current state, as in Python) performs exactly these writes.
`compile` gives up (`none`) when a statically unknown value would be read: a slot assigned under an unsatisfied
`hasattr` test, or the `g` field of a record written earlier in the same run. -/
namespace Pyrealb.Heap
open Pyrealb

inductive Wr where
  | peng (x r : Nat)                 -- `x.peng` := the record `r`
  | taux (x r : Nat)
  | fn (r : Nat) (v : Val)           -- field `n` of record `r`
  | fg (r : Nat) (v : Val)           -- field `g` of record `r`
  | cod (x y : Nat)
  | subj (x : Nat) (y : Option Nat)
  deriving DecidableEq, Repr

def Wr.apply (s : Ptr) : Wr → Ptr
  | .peng x r => { s with peng := upd s.peng x (some r) }
  | .taux x r => { s with taux := upd s.taux x (some r) }
  | .fn r v => { s with prec := upd s.prec r { s.prec r with n := some v } }
  | .fg r v => { s with prec := upd s.prec r { s.prec r with g := some v } }
  | .cod x y => { s with cod := upd s.cod x (some y) }
  | .subj x y => { s with subject := upd s.subject x (some y) }

def applyW (s : Ptr) (ws : List Wr) : Ptr := ws.foldl Wr.apply s

/-- what is known, during the symbolic run, about the current state in terms of the state `q` before the run -/
structure REnv where
  pe : List (Nat × Nat) := []     -- `x.peng` currently equals `q.peng origin`
  ta : List (Nat × Nat) := []
  soft : List Nat := []           -- `peng` slots assigned under an unsatisfied-or-not `hasattr` test: unknown
  softT : List Nat := []
  gt : List Nat := []             -- records whose `g` field has been written

def REnv.origin (e : REnv) (y : Nat) : Nat := (e.pe.lookup y).getD y
def REnv.originT (e : REnv) (y : Nat) : Nat := (e.ta.lookup y).getD y

/-- outcome of a compiled run: the constant writes performed, then success (`none`) or the exception raised -/
abbrev Compiled := List Wr × Option Crash

/-- symbolic execution; `none` = a statically unknown value is read -/
def compile (q : Ptr) : REnv → List Act → Option Compiled
  | _, [] => some ([], none)
  | e, a :: as =>
    let cont (e' : REnv) (w : List Wr) : Option Compiled :=
      match compile q e' as with
      | none => none
      | some (ws, r) => some (w ++ ws, r)
    match a with
    | .setPeng strict x y =>
      if e.soft.contains y then none else
      match q.peng (e.origin y) with
      | some r => cont { e with pe := (x, e.origin y) :: e.pe, soft := e.soft.erase x } [.peng x r]
      | none => if strict then some ([], some .attributeError) else cont e []
    | .setTaux strict x y =>
      if e.softT.contains y then none else
      match q.taux (e.originT y) with
      | some r => cont { e with ta := (x, e.originT y) :: e.ta, softT := e.softT.erase x } [.taux x r]
      | none => if strict then some ([], some .attributeError) else cont e []
    | .writeN strict y v =>
      if e.soft.contains y then none else
      match q.peng (e.origin y) with
      | some r => cont e [.fn r v]
      | none => if strict then some ([], some .attributeError) else cont e []
    | .copyG strict t y =>
      if e.soft.contains y || e.soft.contains t then none else
      match q.peng (e.origin y) with
      | none => if strict then some ([], some .attributeError) else cont e []
      | some r =>
        if e.gt.contains r then none else
        match (q.prec r).g with
        | none => some ([], some .keyError)
        | some gv =>
          match q.peng (e.origin t) with
          | none => some ([], some .attributeError)
          | some rt => cont { e with gt := rt :: e.gt } [.fg rt gv]
    | .setCod x y => cont e [.cod x y]
    | .setSubject x y => cont e [.subj x y]
    | .guardHas o =>
      if e.soft.contains o then none else
      if (q.peng (e.origin o)).isNone then some ([], none) else cont e []
    | .crash c => some ([], some c)
    | .fresh _ _ => none
    | .morphoError _ => none

/-- the current state `s` is what the environment says, relative to the state `q` before the run -/
structure EnvOK (q s : Ptr) (e : REnv) : Prop where
  pe : ∀ y, ¬ y ∈ e.soft → s.peng y = q.peng (e.origin y)
  ta : ∀ y, ¬ y ∈ e.softT → s.taux y = q.taux (e.originT y)
  g : ∀ r, ¬ r ∈ e.gt → (s.prec r).g = (q.prec r).g

theorem origin_cons_same (e : REnv) (x o : Nat) (so : List Nat) :
    ({ e with pe := (x, o) :: e.pe, soft := so } : REnv).origin x = o := by
  simp [REnv.origin, List.lookup]

theorem origin_cons_other (e : REnv) (x o y : Nat) (so : List Nat) (h : y ≠ x) :
    ({ e with pe := (x, o) :: e.pe, soft := so } : REnv).origin y = e.origin y := by
  simp [REnv.origin, List.lookup, beq_false_of_ne h]

theorem originT_cons_same (e : REnv) (x o : Nat) (so : List Nat) :
    ({ e with ta := (x, o) :: e.ta, softT := so } : REnv).originT x = o := by
  simp [REnv.originT, List.lookup]

theorem originT_cons_other (e : REnv) (x o y : Nat) (so : List Nat) (h : y ≠ x) :
    ({ e with ta := (x, o) :: e.ta, softT := so } : REnv).originT y = e.originT y := by
  simp [REnv.originT, List.lookup, beq_false_of_ne h]

theorem envOK_init (q : Ptr) : EnvOK q q {} :=
  ⟨fun _ _ => by simp [REnv.origin], fun _ _ => by simp [REnv.originT], fun _ _ => rfl⟩

theorem EnvOK.setPeng {q s : Ptr} {e : REnv} (ok : EnvOK q s e) (x : Nat) {o r : Nat} (hq : q.peng o = some r) :
    EnvOK q { s with peng := upd s.peng x (some r) } { e with pe := (x, o) :: e.pe, soft := e.soft.erase x } where
  pe z hz := by
    by_cases hzx : z = x
    · subst hzx; rw [origin_cons_same, hq]; exact upd_same _ _ _
    · rw [origin_cons_other _ _ _ _ _ hzx]
      exact (upd_other _ _ _ _ hzx).trans (ok.pe z fun hm => hz ((List.mem_erase_of_ne hzx).mpr hm))
  ta := ok.ta
  g := ok.g

theorem EnvOK.setTaux {q s : Ptr} {e : REnv} (ok : EnvOK q s e) (x : Nat) {o r : Nat} (hq : q.taux o = some r) :
    EnvOK q { s with taux := upd s.taux x (some r) } { e with ta := (x, o) :: e.ta, softT := e.softT.erase x } where
  pe := ok.pe
  ta z hz := by
    by_cases hzx : z = x
    · subst hzx; rw [originT_cons_same, hq]; exact upd_same _ _ _
    · rw [originT_cons_other _ _ _ _ _ hzx]
      exact (upd_other _ _ _ _ hzx).trans (ok.ta z fun hm => hz ((List.mem_erase_of_ne hzx).mpr hm))
  g := ok.g

theorem EnvOK.writeN {q s : Ptr} {e : REnv} (ok : EnvOK q s e) (r : Nat) (v : Val) :
    EnvOK q { s with prec := upd s.prec r { s.prec r with n := some v } } e where
  pe := ok.pe
  ta := ok.ta
  g z hz := by
    by_cases hzr : z = r
    · subst hzr; simpa [upd_same] using ok.g z hz
    · simpa [upd_other _ _ _ _ hzr] using ok.g z hz

theorem EnvOK.writeG {q s : Ptr} {e : REnv} (ok : EnvOK q s e) (r : Nat) (v : Val) :
    EnvOK q { s with prec := upd s.prec r { s.prec r with g := some v } } { e with gt := r :: e.gt } where
  pe := ok.pe
  ta := ok.ta
  g z hz := by
    have hz' : z ≠ r ∧ ¬ z ∈ e.gt := by simpa using hz
    simpa [upd_other _ _ _ _ hz'.1] using ok.g z hz'.2

theorem applyW_append (s : Ptr) (a b : List Wr) : applyW s (a ++ b) = applyW (applyW s a) b := by
  simp [applyW, List.foldl_append]

/-- the result of a compiled run started in `s` -/
def finish (s : Ptr) (c : Compiled) : Except Crash Ptr :=
  match c.2 with
  | none => .ok (applyW s c.1)
  | some e => .error e

theorem compile_sound (q : Ptr) (P : List Act) (e : REnv) (s : Ptr) (ok : EnvOK q s e)
    (c : Compiled) (hc : compile q e P = some c) : execP s P = finish s c := by
  induction P generalizing e s c with
  | nil => cases hc; rfl
  | cons a as ih =>
    -- the rest of the run, after the writes `w` of this assignment
    have contL : ∀ (e' : REnv) (w : List Wr), EnvOK q (applyW s w) e' →
        (match compile q e' as with | none => none | some (ws, r) => some (w ++ ws, r)) = some c →
        execP (applyW s w) as = finish s c := by
      intro e' w ok' hcc
      split at hcc
      · cases hcc
      · next ws2 r2 hcomp =>
        cases hcc
        rw [ih e' _ ok' _ hcomp]
        cases r2 <;> simp [finish, applyW_append]
    have stopL : ∀ (cr : Crash), some (([], some cr) : Compiled) = some c → Except.error cr = finish s c := by
      intro cr h; cases h; rfl
    cases a with
    | setPeng strict x y =>
      simp only [compile] at hc
      split at hc
      · cases hc
      · next hsoft =>
        simp only [execP, Act.stops, Bool.false_eq_true, if_false, stepP, ok.pe y (by simpa using hsoft)]
        split at hc
        · next r hq => rw [hq]; exact contL _ [.peng x r] (ok.setPeng x hq) hc
        · next hq =>
          -- a statement under an unsatisfied `hasattr` test
          rw [hq]
          cases strict
          · exact contL e [] ok hc
          · exact stopL _ hc
    | setTaux strict x y =>
      simp only [compile] at hc
      split at hc
      · cases hc
      · next hsoft =>
        simp only [execP, Act.stops, Bool.false_eq_true, if_false, stepP, ok.ta y (by simpa using hsoft)]
        split at hc
        · next r hq => rw [hq]; exact contL _ [.taux x r] (ok.setTaux x hq) hc
        · next hq =>
          rw [hq]
          cases strict
          · exact contL e [] ok hc
          · exact stopL _ hc
    | writeN strict y v =>
      simp only [compile] at hc
      split at hc
      · cases hc
      · next hsoft =>
        simp only [execP, Act.stops, Bool.false_eq_true, if_false, stepP, ok.pe y (by simpa using hsoft)]
        split at hc
        · next r hq => rw [hq]; exact contL e [.fn r v] (ok.writeN r v) hc
        · next hq =>
          rw [hq]
          cases strict
          · exact contL e [] ok hc
          · exact stopL _ hc
    | copyG strict t y =>
      simp only [compile] at hc
      split at hc
      · cases hc
      · next hsoft =>
        have hs2 : ¬ y ∈ e.soft ∧ ¬ t ∈ e.soft := by simpa using hsoft
        simp only [execP, Act.stops, Bool.false_eq_true, if_false, stepP, ok.pe y hs2.1, ok.pe t hs2.2]
        split at hc
        · next hq =>
          rw [hq]
          cases strict
          · exact contL e [] ok hc
          · exact stopL _ hc
        · next r hq =>
          rw [hq]
          split at hc
          · cases hc
          · next hgt =>
            dsimp only
            rw [ok.g r (by simpa using hgt)]
            split at hc
            · next hg => rw [hg]; exact stopL _ hc
            · next gv hg =>
              rw [hg]
              split at hc
              · next hqt => rw [hqt]; exact stopL _ hc
              · next rt hqt => rw [hqt]; exact contL _ [.fg rt gv] (ok.writeG rt gv) hc
    | setCod x y => exact contL e [.cod x y] ⟨ok.pe, ok.ta, ok.g⟩ hc
    | setSubject x y => exact contL e [.subj x y] ⟨ok.pe, ok.ta, ok.g⟩ hc
    | guardHas o =>
      simp only [compile] at hc
      split at hc
      · cases hc
      · next hsoft =>
        simp only [execP, Act.stops, ok.pe o (by simpa using hsoft)]
        split at hc
        · next hn => cases hc; rw [if_pos hn]; rfl
        · next hn => rw [if_neg hn]; exact contL e [] ok hc
    | crash cr => exact stopL _ hc
    | fresh x i => cases hc
    | morphoError x => cases hc

theorem compile_run (q : Ptr) (P : List Act) (c : Compiled) (hc : compile q {} P = some c) :
    execP q P = finish q c :=
  compile_sound q P {} q (envOK_init q) c hc

end Pyrealb.Heap
