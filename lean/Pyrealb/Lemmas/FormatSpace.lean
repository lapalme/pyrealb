import Pyrealb.Lemmas.FormatWrap
/-! Spaces in the text `detokenize` builds (for C10).  One invariant, for a class `p` of characters: no space is
    followed by a character of `p`, and the text does not begin with one.  With `p` = the space this is “no doubled
    and no leading space”, with `p` = comma and full stop “no space before a comma or a full stop”. -/
namespace Pyrealb.Format

theorem upperAt_cons_succ (cm : CaseMap) (a : Char) (x : Str) (i : Nat) :
    upperAt cm (a :: x) (i + 1) = a :: upperAt cm x i := by
  unfold upperAt
  simp only [List.drop_succ_cons, List.take_succ_cons]
  split <;> simp_all

theorem upperAt_zero (cm : CaseMap) (a : Char) (x : Str) : upperAt cm (a :: x) 0 = cm.upper a :: x := by
  simp [upperAt]

theorem upperAt_nil (cm : CaseMap) (i : Nat) : upperAt cm [] i = [] := by
  simp [upperAt]

theorem upperAt_length (cm : CaseMap) (x : Str) : upperAt cm x x.length = x := by
  simp [upperAt]

theorem upperAt_append (cm : CaseMap) (pre : Str) (c : Char) (rest : Str) :
    upperAt cm (pre ++ c :: rest) pre.length = pre ++ cm.upper c :: rest := by
  simp [upperAt]

theorem upperAt_eq (cm : CaseMap) (x : Str) (i : Nat) : upperAt cm x i = x ∨
    ∃ pre c rest, x = pre ++ c :: rest ∧ upperAt cm x i = pre ++ cm.upper c :: rest ∧ pre.length = i := by
  by_cases h : i < x.length
  · have hd : x.drop i = x[i] :: x.drop (i + 1) := List.drop_eq_getElem_cons h
    refine .inr ⟨x.take i, x[i], x.drop (i + 1), ?_, ?_, ?_⟩
    · rw [← hd, List.take_append_drop]
    · unfold upperAt; rw [hd]
    · rw [List.length_take]; omega
  · have hd : x.drop i = [] := List.drop_eq_nil_of_le (Nat.le_of_not_lt h)
    left; unfold upperAt; rw [hd]

def hd (p : Char → Bool) : Str → Bool
  | [] => false
  | c :: _ => p c

@[simp] theorem hd_nil (p : Char → Bool) : hd p [] = false := rfl
@[simp] theorem hd_cons (p : Char → Bool) (c : Char) (r : Str) : hd p (c :: r) = p c := rfl

def noSp (p : Char → Bool) : Str → Bool
  | [] => true
  | a :: r => !(a == ' ' && hd p r) && noSp p r

def isCS (c : Char) : Bool := c == ',' || c == '.'

def headCS (x : Str) : Bool :=
  match x.head? with
  | some c => isCS c
  | none => false

def NoDbl (x : Str) : Prop := ¬ [' ', ' '] <:+: x

def NoSpaceBefore (x : Str) : Prop := ¬ [' ', ','] <:+: x ∧ ¬ [' ', '.'] <:+: x

theorem headCS_eq (x : Str) : headCS x = hd isCS x := by cases x <;> rfl

theorem noSp_iff (p : Char → Bool) (x : Str) : noSp p x = true ↔ ∀ c, p c = true → ¬ [' ', c] <:+: x := by
  induction x with
  | nil => simp [noSp]
  | cons a r ih =>
    simp only [noSp, Bool.and_eq_true, Bool.not_eq_true', ih, List.infix_cons_iff, not_or, forall_and]
    refine and_congr_left fun _ => ?_
    cases r with
    | nil => simp [hd]
    | cons b r =>
      simp only [hd, List.cons_prefix_cons, List.nil_prefix, and_true, Bool.and_eq_false_iff, beq_eq_false_iff_ne]
      constructor
      · rintro (h | h) c hc ⟨ha, hb⟩
        · exact h ha.symm
        · rw [hb, h] at hc; cases hc
      · intro h
        by_cases ha : a = ' '
        · right
          cases hb : p b with
          | false => rfl
          | true => exact absurd ⟨ha.symm, rfl⟩ (h b hb)
        · exact .inl ha

theorem noDbl_iff (x : Str) : NoDbl x ↔ noSp (· == ' ') x = true := by
  simp [NoDbl, noSp_iff]

theorem noSpaceBefore_iff (x : Str) : NoSpaceBefore x ↔ noSp isCS x = true := by
  simp [NoSpaceBefore, noSp_iff, isCS, or_imp, forall_and]

theorem noSp_of_not_mem {p : Char → Bool} {x : Str} (h : ' ' ∉ x) : noSp p x = true := by
  induction x with
  | nil => rfl
  | cons a r ih =>
    simp only [List.mem_cons, not_or] at h
    simp [noSp, Ne.symm h.1, ih h.2]

theorem hd_append (p : Char → Bool) (a b : Str) : hd p (a ++ b) = if a = [] then hd p b else hd p a := by
  cases a <;> simp [hd]

theorem noSp_append {p : Char → Bool} {a b : Str} (ha : noSp p a = true) (hb : noSp p b = true)
    (h : a.getLast? ≠ some ' ' ∨ hd p b = false) : noSp p (a ++ b) = true := by
  induction a with
  | nil => exact hb
  | cons c r ih =>
    simp only [noSp, Bool.and_eq_true, Bool.not_eq_true'] at ha
    cases r with
    | nil =>
      simp only [List.singleton_append, noSp, hb, Bool.and_true, Bool.not_eq_true', Bool.and_eq_false_iff,
        beq_eq_false_iff_ne]
      exact h.imp_left (by simpa using ·)
    | cons d r =>
      have := ih ha.2 (h.imp_left (by simpa [List.getLast?_cons_cons] using ·))
      simp only [List.cons_append, noSp, hd, Bool.and_eq_true, Bool.not_eq_true'] at this ha ⊢
      exact ⟨ha.1, this⟩

/-- the case map neither creates nor destroys a space or a member of `p` -/
def Keeps (cm : CaseMap) (p : Char → Bool) : Prop := ∀ c, (cm.upper c == ' ') = (c == ' ') ∧ p (cm.upper c) = p c

def SpaceOK (cm : CaseMap) : Prop := ∀ c, cm.upper c = ' ' ↔ c = ' '

def PunctOK (cm : CaseMap) : Prop :=
  ∀ c, (cm.upper c == ' ') = (c == ' ') ∧ isCS (cm.upper c) = isCS c

theorem SpaceOK.keeps {cm : CaseMap} (h : SpaceOK cm) : Keeps cm (· == ' ') := by
  intro c
  have : (cm.upper c == ' ') = (c == ' ') := by rw [Bool.eq_iff_iff]; simp [h c]
  exact ⟨this, this⟩

theorem Keeps.sp {cm : CaseMap} {p : Char → Bool} (h : Keeps cm p) (c : Char) : cm.upper c = ' ' ↔ c = ' ' := by
  have := (h c).1
  rw [Bool.eq_iff_iff] at this
  simpa using this

theorem upperAt_noSp {cm : CaseMap} {p : Char → Bool} (h : Keeps cm p) (x : Str) (i : Nat) :
    noSp p (upperAt cm x i) = noSp p x ∧ hd p (upperAt cm x i) = hd p x := by
  induction x generalizing i with
  | nil => simp [upperAt_nil]
  | cons a r ih =>
    cases i with
    | zero => simp [upperAt_zero, noSp, h a]
    | succ i => simp [upperAt_cons_succ, noSp, ih i]

theorem upperAt_getLast {cm : CaseMap} {p : Char → Bool} (h : Keeps cm p) (x : Str) (i : Nat) :
    (upperAt cm x i).getLast? = some ' ' ↔ x.getLast? = some ' ' := by
  rcases upperAt_eq cm x i with e | ⟨pre, c, rest, rfl, e, _⟩
  · rw [e]
  · rw [e]
    cases rest with
    | nil => simpa using h.sp c
    | cons d r => simp [List.getLast?_append, List.getLast?_cons_cons]

theorem stripLead_cons_ne {a : Char} {r : Str} (h : a ≠ ' ') : stripLead (a :: r) = a :: r := by
  rw [stripLead.eq_2]
  intro r heq
  injection heq with h1
  exact h h1

theorem stripLead_noSp {p : Char → Bool} {x : Str} (h : noSp p x = true) : noSp p (stripLead x) = true := by
  unfold stripLead
  split
  · simp only [noSp, Bool.and_eq_true] at h
    exact h.2
  · exact h

theorem stripLead_hd {x : Str} (h : noSp (· == ' ') x = true) : hd (· == ' ') (stripLead x) = false := by
  cases x with
  | nil => rfl
  | cons a r =>
    by_cases ha : a = ' '
    · subst ha
      cases r with
      | nil => rfl
      | cons b r =>
        simp only [noSp, hd_cons, beq_self_eq_true, Bool.true_and, Bool.and_eq_true, Bool.not_eq_true'] at h
        exact h.1
    · rw [stripLead_cons_ne ha]; simpa using ha

/-- the case change of one character commutes with the removal of a leading space, as far as `p` can see -/
theorem stripLead_upperAt {cm : CaseMap} {p : Char → Bool} (h : Keeps cm p) (x : Str) (i : Nat) :
    hd p (stripLead (upperAt cm x i)) = hd p (stripLead x) := by
  cases x with
  | nil => simp [upperAt_nil]
  | cons a r =>
    by_cases ha : a = ' '
    · subst ha
      have hu : cm.upper ' ' = ' ' := (h.sp ' ').mpr rfl
      cases i with
      | zero => rw [upperAt_zero, hu]
      | succ i => rw [upperAt_cons_succ]; exact (upperAt_noSp h r i).2
    · cases i with
      | zero =>
        have hu : cm.upper a ≠ ' ' := fun e => ha ((h.sp a).mp e)
        rw [upperAt_zero, stripLead_cons_ne hu, stripLead_cons_ne ha]
        exact (h a).2
      | succ i => rw [upperAt_cons_succ, stripLead_cons_ne ha, stripLead_cons_ne ha]; rfl

theorem checkForT_cases (cm : CaseMap) (lang : Lang) (r : Str) (c : Cat) (nxt : Tok) :
    checkForT cm lang r c nxt = (r, []) ∨ checkForT cm lang r c nxt = (r, ['t', '-']) ∨
      checkForT cm lang r c nxt = (['p', 'u', 'i', 's'], []) := by
  cases lang
  · exact .inl rfl
  · -- `notDT` stays a variable, so that `split` sees the three `if`s and not the `match` inside it
    simp -zeta only [checkForT]
    extract_lets notDT
    split
    · split
      · exact .inr (.inl rfl)
      · split
        · exact .inr (.inr rfl)
        · exact .inl rfl
    · exact .inl rfl

/-- what one terminal contributes to the joined text (a liaison may add `-` or the `p` of `puis` in front of the next) -/
theorem chunk_noSp {p : Char → Bool} (hm : p '-' = false) (hpu : p 'p' = false) (cm : CaseMap) (lang : Lang)
    (t nxt : Tok) (h : noSp p t.real = true) :
    noSp p (chunk cm lang t nxt) = true ∧ (hd p (chunk cm lang t nxt) = true → hd p (stripLead t.real) = true) := by
  have h1 := stripLead_noSp h
  -- a liaison: the text or `puis`, then `-` or `-t-`
  have key : ∀ w suf : Str, noSp p w = true → ' ' ∉ '-' :: suf → (w = stripLead t.real ∨ hd p w = false ∧ w ≠ []) →
      noSp p (w ++ '-' :: suf) = true ∧ (hd p (w ++ '-' :: suf) = true → hd p (stripLead t.real) = true) := by
    intro w suf hw hs hw'
    refine ⟨noSp_append hw (noSp_of_not_mem hs) (.inr hm), ?_⟩
    rw [hd_append]
    split
    · rw [hd_cons, hm]; exact Bool.noConfusion
    · rcases hw' with rfl | ⟨e, _⟩
      · exact id
      · rw [e]; exact Bool.noConfusion
  unfold chunk
  simp only
  split
  · rcases checkForT_cases cm lang (stripLead t.real) t.cat nxt with e | e | e <;> rw [e]
    · exact key _ [] h1 (by decide) (.inl rfl)
    · exact key _ ['t', '-'] h1 (by decide) (.inl rfl)
    · exact key ['p', 'u', 'i', 's'] [] (noSp_of_not_mem (by decide)) (by decide) (.inr ⟨hpu, by decide⟩)
  · split
    · exact ⟨h1, id⟩
    · split
      · rename_i hsep hlen
        refine ⟨noSp_append h1 rfl (.inl fun e => by simp [endsSep, e] at hsep), ?_⟩
        rw [hd_append]
        split
        · rename_i e; rw [e] at hlen; cases hlen
        · exact id
      · exact ⟨rfl, Bool.noConfusion⟩

theorem titled_bind {α} (cm : CaseMap) (tit : Bool) (t : Tok) (k : Tok → Except Crash α) :
    ∃ i, (if tit = true then titleCase cm t >>= k else pure t >>= k) = k { t with real := upperAt cm t.real i } := by
  have hid : k t = k { t with real := upperAt cm t.real t.real.length } := by rw [upperAt_length]
  cases tit with
  | false => exact ⟨_, hid⟩
  | true =>
    simp only [if_true]
    unfold titleCase
    split
    · exact ⟨_, hid⟩
    · split
      · exact ⟨_, rfl⟩
      · exact ⟨_, hid⟩

theorem joinToks_one (cm : CaseMap) (lang : Lang) (tit : Bool) (t : Tok) :
    ∃ i, joinToks cm lang tit [t] = .ok (stripLead (upperAt cm t.real i)) := by
  rw [joinToks]; exact titled_bind cm tit t _

theorem joinToks_cons (cm : CaseMap) (lang : Lang) (tit : Bool) (t t2 : Tok) (rest : List Tok) :
    ∃ i, joinToks cm lang tit (t :: t2 :: rest) =
      joinToks cm lang tit (t2 :: rest) >>= fun tail =>
        pure (chunk cm lang { t with real := upperAt cm t.real i } t2 ++ tail) := by
  rw [joinToks]; exact titled_bind cm tit t _

/-- **the invariant of the joined text**: tokens free of “space + `p`”, none after the first beginning (leading space
    aside) with a character of `p` -/
theorem joinToks_noSp {cm : CaseMap} {p : Char → Bool} (hk : Keeps cm p) (hm : p '-' = false) (hpu : p 'p' = false)
    (lang : Lang) (tit : Bool) (t : Tok) (rest : List Tok) (x : Str)
    (h : ∀ u ∈ t :: rest, noSp p u.real = true) (hh : ∀ u ∈ rest, hd p (stripLead u.real) = false)
    (hx : joinToks cm lang tit (t :: rest) = .ok x) :
    noSp p x = true ∧ (hd p x = true → hd p (stripLead t.real) = true) := by
  induction rest generalizing t x with
  | nil =>
    obtain ⟨i, hi⟩ := joinToks_one cm lang tit t
    rw [hi] at hx
    cases hx
    refine ⟨stripLead_noSp ?_, ?_⟩
    · rw [(upperAt_noSp hk _ _).1]; exact h t (by simp)
    · rw [stripLead_upperAt hk]; exact id
  | cons t2 rest ih =>
    obtain ⟨i, hi⟩ := joinToks_cons cm lang tit t t2 rest
    rw [hi] at hx
    obtain ⟨tail, hj, hx⟩ := ex_bind_eq_ok hx
    cases hx
    obtain ⟨i1, i2⟩ := ih t2 tail (fun u hu => h u (List.mem_cons_of_mem _ hu))
      (fun u hu => hh u (List.mem_cons_of_mem _ hu)) hj
    have i3 : hd p tail = false := by
      cases e : hd p tail with
      | false => rfl
      | true => rw [hh t2 (by simp)] at i2; exact absurd (i2 e) (by simp)
    obtain ⟨c1, c2⟩ := chunk_noSp hm hpu cm lang { t with real := upperAt cm t.real i } t2
      (by rw [(upperAt_noSp hk _ _).1]; exact h t (by simp))
    refine ⟨noSp_append c1 i1 (.inr i3), ?_⟩
    rw [hd_append, ← stripLead_upperAt hk t.real i]
    split
    · simp [i3]
    · exact c2

theorem finish_top (cm : CaseMap) (cfg : DetokCfg) (x : Str) (htop : cfg.top = true)
    (hcap : cfg.cap = .absent ∨ cfg.cap = .t ∨ cfg.cap = .tit) (hx : x ≠ []) :
    finish cm cfg x = upperAt cm x (sepWord cm x).1 ++
      if cfg.tagged = false ∧ (lastVis (upperAt cm x (sepWord cm x).1)).any (!marks.contains ·) = true
      then ['.', ' '] else [] := by
  have hlen : x.length > 0 := List.length_pos_iff.mpr hx
  unfold finish
  simp only [htop, hlen, true_and, if_true, if_pos hcap]
  cases cfg.tagged
  · cases lastVis (upperAt cm x (sepWord cm x).1) with
    | none => simp
    | some c => by_cases h : c ∈ marks <;> simp [h]
  · simp

/-- the top-level step: nothing, the capital, or the capital and `". "` after a last visible character that is no mark -/
theorem finish_cases (cm : CaseMap) (cfg : DetokCfg) (x : Str) :
    finish cm cfg x = x ∨ finish cm cfg x = upperAt cm x (sepWord cm x).1 ∨
      (finish cm cfg x = upperAt cm x (sepWord cm x).1 ++ ['.', ' '] ∧
        ∃ c, lastVis (upperAt cm x (sepWord cm x).1) = some c ∧ marks.contains c = false) := by
  by_cases h : cfg.top = true ∧ x ≠ [] ∧ (cfg.cap = .absent ∨ cfg.cap = .t ∨ cfg.cap = .tit)
  · rw [finish_top cm cfg x h.1 h.2.2 h.2.1]
    split
    · rename_i hs
      obtain ⟨c, hc, hm⟩ := (Option.any_eq_true _ _).mp hs.2
      exact .inr (.inr ⟨rfl, c, hc, by simpa using hm⟩)
    · exact .inr (.inl (List.append_nil _))
  · refine .inl ?_
    rw [finish]
    by_cases h1 : cfg.top = true ∧ x.length > 0
    · rw [if_pos h1, if_neg fun h2 => h ⟨h1.1, List.ne_nil_of_length_pos h1.2, h2⟩]
    · rw [if_neg h1]

theorem finish_nil (cm : CaseMap) (cfg : DetokCfg) : finish cm cfg [] = [] := by simp [finish]

theorem detokenize_eq (cm : CaseMap) (cfg : DetokCfg) (toks : List Tok) :
    detokenize cm cfg toks =
      joinToks cm cfg.lang (decide (cfg.lang = .en ∧ cfg.cap = .tit)) toks >>= fun x => pure (finish cm cfg x) := by
  cases toks with
  | nil => simp [detokenize, joinToks, finish_nil]
  | cons t r => rfl

/-- **the invariant of the detokenized text**; the full stop that may be appended must not follow a space when it
    belongs to `p` -/
theorem detokenize_noSp {cm : CaseMap} {p : Char → Bool} (hk : Keeps cm p) (hm : p '-' = false) (hpu : p 'p' = false)
    (cfg : DetokCfg) (toks : List Tok) (x : Str)
    (h : ∀ u ∈ toks, noSp p u.real = true) (hh : ∀ u ∈ toks.tail, hd p (stripLead u.real) = false)
    (hstop : p '.' = false ∨ ∀ body c, joinToks cm cfg.lang (decide (cfg.lang = .en ∧ cfg.cap = .tit)) toks = .ok body →
      lastVis (upperAt cm body (sepWord cm body).1) = some c → marks.contains c = false → body.getLast? ≠ some ' ')
    (hx : detokenize cm cfg toks = .ok x) :
    noSp p x = true ∧ (hd p x = true → ∃ t, toks.head? = some t ∧ hd p (stripLead t.real) = true) := by
  rw [detokenize_eq] at hx
  cases toks with
  | nil => cases hx; rw [finish_nil]; exact ⟨rfl, by simp⟩
  | cons t rest =>
    obtain ⟨body, hj, hx⟩ := ex_bind_eq_ok hx
    cases hx
    obtain ⟨j1, j2⟩ := joinToks_noSp hk hm hpu _ _ t rest body h hh hj
    obtain ⟨u1, u2⟩ := upperAt_noSp hk body (sepWord cm body).1
    rcases finish_cases cm cfg body with e | e | ⟨e, c, hc, hmk⟩ <;> rw [e]
    · exact ⟨j1, fun hb => ⟨t, rfl, j2 hb⟩⟩
    · exact ⟨u1.trans j1, fun hb => ⟨t, rfl, j2 (u2 ▸ hb)⟩⟩
    · refine ⟨noSp_append (u1.trans j1) (by simp [noSp, hd]) ?_, fun hb => ⟨t, rfl, j2 ?_⟩⟩
      · rcases hstop with hs | hs
        · exact .inr (by simpa [hd] using hs)
        · exact .inl fun hl => hs body c hj hc hmk ((upperAt_getLast hk body _).mp hl)
      · rw [hd_append] at hb
        split at hb
        · rename_i e0; rw [e0] at hc; cases hc
        · exact u2 ▸ hb

theorem detokenize_spaces {cm : CaseMap} (hc : SpaceOK cm) (cfg : DetokCfg) (toks : List Tok) (x : Str)
    (h : ∀ t ∈ toks, NoDbl t.real) (hx : detokenize cm cfg toks = .ok x) : NoDbl x ∧ x.head? ≠ some ' ' := by
  have h' : ∀ t ∈ toks, noSp (· == ' ') t.real = true := fun t ht => (noDbl_iff _).mp (h t ht)
  obtain ⟨h1, h2⟩ := detokenize_noSp hc.keeps rfl rfl cfg toks x h'
    (fun t ht => stripLead_hd (h' t (List.mem_of_mem_tail ht))) (.inl rfl) hx
  refine ⟨(noDbl_iff x).mpr h1, fun e => ?_⟩
  obtain ⟨t, ht, ht2⟩ := h2 (by cases x <;> simp at e ⊢; exact e)
  rw [stripLead_hd (h' t (List.mem_of_mem_head? ht))] at ht2
  cases ht2

/-- a terminal whose text (after the removal of a leading space) does not begin with a comma or a full stop -/
def HeadOK (t : Tok) : Prop := headCS (stripLead t.real) = false

end Pyrealb.Format
