import Pyrealb.Lemmas.AgreeNP
/-! # The S / SP branch of `linkProperties` establishes the declarative agreement class of the clause (`sDeps`) -/
namespace Pyrealb.Agree
open Pyrealb Pyrealb.Heap

/-- The run of a clause with subject `subj` is star-shaped around the subject: assignments to `taux` and `subject`, the
    test that the subject has a record, `self.peng = subject.peng`, then the verb (or the verbs of coordinated verb
    phrases) with the French attributes. -/
theorem planS_run (h : Heap) (p : Nat) (acts : List Act) (subj : Nat) (hplan : planS h p = some acts)
    (hs : sSubject h p = some subj) : StarRun subj acts (p :: sDeps h p subj) [] := by
  unfold planS at hplan
  unfold sSubject sVerb subjKinds at hs
  dsimp only at hplan hs
  generalize h.getFromPath p [([.VP], true), ([.V], false)] = vpv at hplan hs
  -- not an imperative (plan and specification state the test by different `match`es on `vpv`)
  obtain ⟨himp, hs⟩ := ite_none_eq_some hs
  rw [if_neg (by cases vpv <;> exact himp)] at hplan
  generalize h.getIndex p [.NP, .N, .CP, .Pro] = gi at hplan hs
  cases gi with
  | none => cases hs
  | some i =>
    dsimp only at hplan hs
    generalize (h.kids p)[i]? = k0 at hplan hs
    cases k0 with
    | none => cases hs
    | some s0 =>
      dsimp only at hplan hs
      -- the subject the plan chooses is the one of the specification; recording it re-points nothing
      generalize hCH : (if (decide (h.kind p = .SP) && decide (h.kind s0 = .Pro)) = true then _ else _ :
        Option (Nat × List Act)) = ch at hplan
      have hch : ∃ sacts, ch = some (subj, sacts) ∧ StarRun subj sacts [] [] := by
        subst hCH
        by_cases c1 : (decide (h.kind p = .SP) && decide (h.kind s0 = .Pro)) = true
        · rw [if_pos c1]
          rw [c1, Bool.true_and] at hs
          by_cases c2 : shouldTryAnotherSubject h (h.node p).lang p (h.lemmaOf s0) i = true
          · rw [if_pos c2] at hs ⊢
            generalize findIdxFrom _ _ _ = fj at hs ⊢
            cases fj with
            | none => cases hs
            | some j =>
              dsimp only at hs ⊢
              rw [hs]
              exact ⟨_, rfl, .skip (.setSubject p (some subj))⟩
          · rw [if_neg c2] at hs ⊢
            cases hs
            exact ⟨_, rfl, .skip (.setSubject p (some subj))⟩
        · rw [if_neg c1]
          rw [Bool.eq_false_iff.mpr c1, Bool.false_and, if_neg Bool.false_ne_true] at hs
          cases hs
          exact ⟨_, rfl, .nil⟩
      obtain ⟨sacts, rfl, hsacts⟩ := hch
      dsimp only at hplan
      cases hplan
      have hpre : StarRun subj ((match vpv with | some v => [Act.setTaux true p v] | none => []) ++
          [.setSubject p none] ++ sacts) [] [] := by
        refine .appendInert (.appendInert ?_ (.skip (.setSubject p none))) hsacts
        cases vpv with
        | none => exact .nil
        | some v => exact .skip (.setTaux true p v)
      unfold sDeps
      rcases lpws_cases h p .VP .V subj subj with ⟨hf, hl⟩ | ⟨l, v, la, hf, hl, hrun⟩ <;> rw [hf, hl] <;>
        dsimp only
      · -- no verb of its own: the verbs of the coordinated verb phrases
        refine .append (.append (.append hpre (.append (.skip (.guardHas subj)) (.link true p))) .nil) ?_
        refine .appendInert (.flatMap fun cp _ => .ite (fun _ => .flatMap fun e _ => .ite (fun _ => ?_) fun _ => .nil)
          fun _ => .nil) ?_
        · rcases lpws_cases h e .VP .V subj subj with ⟨hf, hl⟩ | ⟨l, v, la, hf, hl, hrun⟩ <;> rw [hf, hl]
          · exact .nil
          · exact .append hrun (linkAttributes_run ..)
        · -- the `cod` of a French object subordinate re-points nothing
          cases (h.node p).lang with
          | en => exact .nil
          | fr =>
            dsimp only
            cases h.getConst p [.CP] with
            | none => exact .nil
            | some cp =>
              cases h.getConst p [.SP] with
              | none => exact .nil
              | some sp =>
                dsimp only
                cases h.getConst sp [.Pro] with
                | none => exact .nil
                | some sppro =>
                  refine .iteActs (fun _ => ?_) fun _ => .nil
                  cases h.getFromPath sp [([.VP], true), ([.V], false)] with
                  | none => exact .nil
                  | some w => exact .skip (.setCod w cp)
      · exact .append (.append (.append hpre (.append (.skip (.guardHas subj)) (.link true p))) hrun)
          (.append (.skip (.setTaux true p v)) (linkAttributes_run ..))

/-- **the S / SP branch of `linkProperties`**: afterwards exactly the clause and the nodes of the declarative
    agreement class of its subject hold the subject's record `r`; every other slot is unchanged. -/
theorem planS_link (h : Heap) (p : Nat) (acts : List Act) (h' : Heap) (subj r : Nat)
    (hplan : planS h p = some acts) (hex : exec h acts = .ok h')
    (hs : sSubject h p = some subj) (hr : h.peng subj = some r) :
    ∀ x, h'.peng x = if x = p ∨ x ∈ sDeps h p subj then some r else h.peng x := by
  have hrun := planS_run h p acts subj hplan hs
  intro x
  rw [(exec_star subj r _ h h' hrun.star hr hex).1 x, hrun.targets]
  simp only [List.mem_cons]

end Pyrealb.Agree
