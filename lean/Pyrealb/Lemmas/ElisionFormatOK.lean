import Pyrealb.Model.ElisionTree
import Pyrealb.Lemmas.ElisionTree
import Pyrealb.Model.FormatTables
import Pyrealb.Lemmas.FormatWrap
/-! # `FormatOK` for the formatting model of C10

`Format.formatCore` (C10's model of `Constituent.doFormat` after `doElision`) wraps the token list: a prefix `B` on
the first token, a suffix `A` on the last one (`Format.formatCore_eq`).  Here: when `B` is made of characters that
`sepWordREC` skips and of complete tags, and `A` does not start with a word character, contains no word outside
tags and no newline, every token keeps its first word and what `doElision` reads of it (`SameView`), hence the
hypothesis `FormatOK` of `tree_settled_partial` holds for the real formatting model restricted to the options
`tag`, `a`, `b`, `en`, `ba` with the signs of the generated `Pc` tables other than `'` and `-` (which ARE word
characters of `sepWordREC`: `.b("-")`, `.en("'")` change the first word — excluded, as are `poss` and `cap`). -/
namespace Pyrealb.Elision
open Pyrealb

/-! ## prefixes that `sepWordREC` skips -/

def SkipAll (ℓ : Lang) (B : Str) : Prop :=
  ∀ y, skipLen (isWd ℓ) .out (B ++ y) = B.length + skipLen (isWd ℓ) .out y

theorem skipAll_nil (ℓ : Lang) : SkipAll ℓ [] := by intro y; simp

theorem skipAll_append (ℓ : Lang) (B1 B2 : Str) (h1 : SkipAll ℓ B1) (h2 : SkipAll ℓ B2) : SkipAll ℓ (B1 ++ B2) := by
  intro y
  rw [List.append_assoc, h1, h2, List.length_append]; omega

/-- a character outside tags that group 1 of `sepWordREC` consumes -/
def plainSkip (ℓ : Lang) (c : Char) : Bool := c != '<' && !isWd ℓ c && c != '\n'

theorem skipAll_plain (ℓ : Lang) : ∀ (B : Str), (∀ c ∈ B, plainSkip ℓ c = true) → SkipAll ℓ B := by
  intro B
  induction B with
  | nil => intro _; exact skipAll_nil ℓ
  | cons c r ih =>
    intro h y
    have hc := h c (by simp)
    simp only [plainSkip, Bool.and_eq_true, bne_iff_ne, ne_eq, Bool.not_eq_eq_eq_not, Bool.not_true] at hc
    have := ih (fun c hc => h c (List.mem_cons_of_mem _ hc)) y
    simp [skipLen, hc.1.1, hc.1.2, this]; omega

theorem tag_scan (wd : Char → Bool) : ∀ (t y : Str), '>' ∉ t →
    skipLen wd .tag (t ++ '>' :: y) = t.length + 1 + skipLen wd .out y := by
  intro t
  induction t with
  | nil => intro y _; simp [skipLen]
  | cons c r ih =>
    intro y h
    have hc : c ≠ '>' := by intro e; apply h; simp [e]
    have := ih y (by intro e; apply h; simp [e])
    simp [skipLen, hc, this]; omega

/-- a complete tag `<…>` -/
theorem skipAll_tag (ℓ : Lang) (t : Str) (hne : t ≠ []) (h : '>' ∉ t) : SkipAll ℓ ('<' :: t ++ ['>']) := by
  intro y
  have hok : tagOK (t ++ '>' :: y) = true := by
    cases t with
    | nil => exact absurd rfl hne
    | cons d ds =>
      have hd : d ≠ '>' := by intro e; apply h; simp [e]
      simp [tagOK, hd]
  have := tag_scan (isWd ℓ) t y h
  simp [skipLen, hok, this]; omega

/-- `sepWordREC.match(B + x)`: group 1 grows by `B`, groups 2 and 3 are those of `x` -/
theorem sepWord_prefix (ℓ : Lang) (B x : Str) (h : SkipAll ℓ B) :
    sepWord ℓ (B ++ x) = ⟨B ++ (sepWord ℓ x).pre, (sepWord ℓ x).word, (sepWord ℓ x).rest⟩ := by
  simp only [sepWord, h x, List.take_length_add_append, List.drop_length_add_append]

/-! ## suffixes -/

/-- scanning from a state of the skip automaton finds no word -/
def noWordFrom (wd : Char → Bool) : Sk → Str → Bool
  | .out, [] => true
  | .out, c :: cs =>
    if c == '<' then (if tagOK cs then noWordFrom wd .tag cs else true)
    else if wd c then false else noWordFrom wd .out cs
  | .tag, [] => true
  | .tag, c :: cs => if c == '>' then noWordFrom wd .out cs else noWordFrom wd .tag cs

/-- `noWordFrom` says that group 2 is `None` (the two automata branch alike) -/
theorem noWordFrom_iff (wd : Char → Bool) (hlt : wd '<' = false) (x : Str) (st : Sk) :
    noWordFrom wd st x = ((x.drop (skipLen wd st x)).takeWhile wd).isEmpty := by
  fun_induction skipLen wd st x <;> simp_all [noWordFrom, Nat.add_comm 1]

theorem tagOK_append (cs A : Str) (h : tagOK cs = true) : tagOK (cs ++ A) = true := by
  refine tagOK_prefix cs [] A (by rw [List.append_nil]; exact h) ?_
  cases cs with
  | nil => cases h
  | cons d ds =>
    simp only [tagOK, Bool.and_eq_true, List.contains_iff_mem] at h
    exact List.mem_cons_of_mem _ h.2

theorem noWord_tag_nogt (wd : Char → Bool) : ∀ (cs z : Str), '>' ∉ cs →
    noWordFrom wd .tag (cs ++ z) = noWordFrom wd .tag z
  | [], _, _ => rfl
  | c :: r, z, h => by
    have hc : ¬ (c == '>') = true := fun e => h (by rw [beq_iff_eq.mp e]; exact List.mem_cons_self)
    rw [List.cons_append, noWordFrom, if_neg hc]
    exact noWord_tag_nogt wd r z fun e => h (List.mem_cons_of_mem _ e)

/-- what a suffix must satisfy so that a token without a word stays without a word -/
def GoodSuf (ℓ : Lang) (A : Str) : Prop :=
  noWordFrom (isWd ℓ) .out A = true ∧ noWordFrom (isWd ℓ) .tag A = true

theorem noWord_append (ℓ : Lang) (A : Str) (hA : GoodSuf ℓ A) (x : Str) (st : Sk)
    (h : noWordFrom (isWd ℓ) st x = true) : noWordFrom (isWd ℓ) st (x ++ A) = true := by
  fun_induction noWordFrom (isWd ℓ) st x with
  | case1 => exact hA.1
  | case2 c cs hc ht ih => rw [List.cons_append, noWordFrom, if_pos hc, if_pos (tagOK_append cs A ht)]; exact ih h
  | case3 c cs hc ht =>
    rw [List.cons_append, noWordFrom, if_pos hc]
    split
    · -- the tag is completed by the suffix: what is left of `x` has no `>`
      rename_i ht2
      have hgt : '>' ∉ cs := by
        intro e
        apply ht
        cases cs with
        | nil => cases e
        | cons d ds =>
          simp only [List.cons_append, tagOK, Bool.and_eq_true, bne_iff_ne, ne_eq, List.contains_iff_mem] at ht2 ⊢
          exact ⟨ht2.1, (List.mem_cons.mp e).resolve_left fun e' => ht2.1 e'.symm⟩
      rw [noWord_tag_nogt _ cs A hgt]; exact hA.2
    · rfl
  | case4 c cs hc hw => cases h
  | case5 c cs hc hw ih => rw [List.cons_append, noWordFrom, if_neg hc, if_neg hw]; exact ih h
  | case6 => exact hA.2
  | case7 c cs hc ih => rw [List.cons_append, noWordFrom, if_pos hc]; exact ih h
  | case8 c cs hc ih => rw [List.cons_append, noWordFrom, if_neg hc]; exact ih h

theorem goodSuf_append (ℓ : Lang) (A1 A2 : Str) (h1 : GoodSuf ℓ A1) (h2 : GoodSuf ℓ A2) : GoodSuf ℓ (A1 ++ A2) :=
  ⟨noWord_append ℓ A2 h2 A1 .out h1.1, noWord_append ℓ A2 h2 A1 .tag h1.2⟩

theorem goodSuf_nil (ℓ : Lang) : GoodSuf ℓ [] := ⟨rfl, rfl⟩

theorem goodSuf_plain (ℓ : Lang) : ∀ (A : Str), (∀ c ∈ A, plainSkip ℓ c = true) → GoodSuf ℓ A := by
  intro A
  induction A with
  | nil => intro _; exact goodSuf_nil ℓ
  | cons c r ih =>
    intro h
    have hc := h c (by simp)
    simp only [plainSkip, Bool.and_eq_true, bne_iff_ne, ne_eq, Bool.not_eq_eq_eq_not, Bool.not_true] at hc
    have g := ih (fun c hc => h c (List.mem_cons_of_mem _ hc))
    refine ⟨by simp [noWordFrom, hc.1.1, hc.1.2, g.1], ?_⟩
    by_cases hg : c = '>'
    · simp [noWordFrom, hg, g.1]
    · simp [noWordFrom, hg, g.2]

theorem noWord_tag_close (wd : Char → Bool) : ∀ (t z : Str), '>' ∉ t →
    noWordFrom wd .tag (t ++ '>' :: z) = noWordFrom wd .out z := by
  intro t z h
  rw [noWord_tag_nogt wd t _ h]; simp [noWordFrom]

theorem goodSuf_tag (ℓ : Lang) (t : Str) (hne : t ≠ []) (h : '>' ∉ t) : GoodSuf ℓ ('<' :: t ++ ['>']) := by
  have hok : tagOK (t ++ ['>']) = true := by
    cases t with
    | nil => exact absurd rfl hne
    | cons d ds =>
      have hd : d ≠ '>' := by intro e; apply h; simp [e]
      simp [tagOK, hd]
  constructor
  · simp only [List.cons_append, noWordFrom, beq_self_eq_true, if_true, hok]
    rw [noWord_tag_close _ t [] h]; rfl
  · have : noWordFrom (isWd ℓ) .tag ('<' :: t ++ ['>']) = noWordFrom (isWd ℓ) .tag (t ++ ['>']) := by
      simp [noWordFrom]
    rw [this, noWord_tag_close _ t [] h]; rfl

/-- what a suffix appended to the last token must satisfy -/
structure SufOK (A : Str) : Prop where
  nw : noWords A = true
  nl : '\n' ∉ A
  good : GoodSuf .fr A

/-- a suffix in which the scan finds no word does not start with a word character -/
theorem SufOK.head {A : Str} (hA : SufOK A) (c : Char) (t : Str) (e : A = c :: t) : isWd .fr c = false := by
  have h := hA.good.1
  rw [e, noWordFrom] at h
  by_cases hc : (c == '<') = true
  · rw [beq_iff_eq.mp hc]; exact isWd_lt .fr
  · rw [if_neg hc] at h
    cases hw : isWd .fr c with
    | false => rfl
    | true => rw [hw] at h; cases h

/-- apply `f` to the realization (a `None` realization is left alone) -/
def mapReal (f : Str → Str) (t : Tok) : Tok :=
  match t.real with
  | some x => t.setReal (f x)
  | none => t

theorem sameView_trans {a b c : Tok} (h1 : SameView a b) (h2 : SameView b c) : SameView a c := by
  obtain ⟨a1, a2, a3, a4, a5, a6, a7, m1⟩ := h1
  obtain ⟨b1, b2, b3, b4, b5, b6, b7, m2⟩ := h2
  refine ⟨b1.trans a1, b2.trans a2, b3.trans a3, b4.trans a4, b5.trans a5, b6.trans a6, b7.trans a7, ?_⟩
  cases ha : view .fr a <;> cases hb : view .fr b <;> cases hc : view .fr c <;>
    simp only [ha, hb, hc] at m1 m2 ⊢ <;> try trivial
  exact ⟨m2.1.trans m1.1, m2.2.trans m1.2⟩

theorem sameView_prefix (t : Tok) (B : Str) (h : SkipAll .fr B) : SameView t (mapReal (B ++ ·) t) := by
  unfold mapReal
  cases hr : t.real with
  | none => simp only []; exact sameView_refl t
  | some x =>
    simp only []
    refine ⟨rfl, rfl, rfl, rfl, rfl, by simp [hr], rfl, ?_⟩
    simp only [view, hr, setReal_real, sepWord_prefix .fr B x h]
    cases (sepWord .fr x).word with
    | none => trivial
    | some w => exact ⟨rfl, rfl⟩

theorem tw_append_right {α} (p : α → Bool) (A : List α) (hA : ∀ c t, A = c :: t → p c = false) :
    ∀ l : List α, (l ++ A).takeWhile p = l.takeWhile p ∧ (l ++ A).dropWhile p = l.dropWhile p ++ A := by
  intro l
  induction l with
  | nil =>
    cases A with
    | nil => simp
    | cons c t => simp [List.takeWhile, List.dropWhile, hA c t rfl]
  | cons x r ih =>
    by_cases hx : p x = true
    · simp [List.takeWhile, List.dropWhile, hx, ih.1, ih.2]
    · simp [List.takeWhile, List.dropWhile, hx]

theorem noWords_append (A : Str) (hA : noWords A = true) : ∀ d : Str, noWords (d ++ A) = noWords d := by
  intro d
  induction d with
  | nil => simp [hA]; rfl
  | cons c r ih =>
    by_cases hc : isSp c = true
    · have e1 : noWords (c :: r ++ A) = noWords (r ++ A) := by simp [noWords, hc]
      have e2 : noWords (c :: r) = noWords r := by simp [noWords, List.dropWhile, hc]
      rw [e1, e2, ih]
    · simp [noWords, List.dropWhile, hc]

theorem tw_nl_append (q : Char → Bool) (A : Str) (hA : ∀ c ∈ A, q c = true) :
    ∀ d : Str, (d ++ A).takeWhile q = if d.all q then d ++ A else d.takeWhile q := by
  intro d
  induction d with
  | nil => simp [takeWhile_all q A hA]
  | cons c r ih =>
    by_cases hc : q c = true
    · simp only [List.cons_append, List.takeWhile, hc, ih, List.all_cons, Bool.true_and]
      split <;> rfl
    · simp [List.takeWhile, hc]

/-- a suffix on a realization that has a word: same groups 1 and 2, and `w3NoWords` is unchanged -/
theorem sepWord_suffix_word (x A p w r : Str) (hA : SufOK A) (h : sepWord .fr x = ⟨p, some w, r⟩) :
    ∃ r', sepWord .fr (x ++ A) = ⟨p, some w, r'⟩ ∧ noWords r' = noWords r := by
  have hne := (sepWord_word_spec .fr x p w r h).1
  obtain ⟨hp, hw, hr, hx⟩ := sepWord_some .fr x p w r h
  have hy : ∃ c t, x.drop (skipLen (isWd .fr) .out x) ++ A = c :: t ∧ isWd .fr c = true := by
    obtain ⟨c, t, e, hc⟩ := hx
    exact ⟨c, t ++ A, by rw [e]; rfl, hc⟩
  have hk := skip_stable (isWd .fr) (isWd_lt .fr) x .out _ hx hy
  rw [← List.append_assoc, List.take_append_drop] at hk
  have hle := skipLen_le (isWd .fr) x .out
  have tw := tw_append_right (isWd .fr) A hA.head (x.drop (skipLen (isWd .fr) .out x))
  have hq : ∀ c ∈ A, (c != '\n') = true := by
    intro c hc; simp only [bne_iff_ne, ne_eq]; intro e; exact hA.nl (e ▸ hc)
  refine ⟨(((x.drop (skipLen (isWd .fr) .out x)).dropWhile (isWd .fr)) ++ A).takeWhile (fun c => c != '\n'), ?_, ?_⟩
  · simp only [sepWord, hk, List.take_append_of_le_length hle, List.drop_append_of_le_length hle, tw.1, tw.2,
      Sep.mk.injEq]
    refine ⟨hp.symm, ?_⟩
    rw [hw]; simp [hne]
  · rw [tw_nl_append _ A hq, hr]
    split
    · rename_i hall
      have : ((x.drop (skipLen (isWd .fr) .out x)).dropWhile (isWd .fr)).takeWhile (fun c => c != '\n') =
          (x.drop (skipLen (isWd .fr) .out x)).dropWhile (isWd .fr) :=
        takeWhile_all _ _ (by intro c hc; exact List.all_eq_true.mp hall c hc)
      rw [this]; exact noWords_append A hA.nw _
    · rfl

theorem sameView_suffix (t : Tok) (A : Str) (hA : SufOK A) : SameView t (mapReal (· ++ A) t) := by
  unfold mapReal
  cases hr : t.real with
  | none => simp only []; exact sameView_refl t
  | some x =>
    simp only []
    refine ⟨rfl, rfl, rfl, rfl, rfl, by simp [hr], rfl, ?_⟩
    cases hs : sepWord .fr x with
    | mk p w? r =>
      cases w? with
      | some w =>
        obtain ⟨r', hs', hn⟩ := sepWord_suffix_word x A p w r hA hs
        have e1 : view .fr t = some ⟨p, w, r⟩ := by simp [view, hr, hs]
        have e2 : view .fr (t.setReal (x ++ A)) = some ⟨p, w, r'⟩ := by simp [view, hs']
        rw [e1, e2]; exact ⟨rfl, hn⟩
      | none =>
        have h0 : noWordFrom (isWd .fr) .out x = true := by
          rw [noWordFrom_iff _ (isWd_lt .fr)]
          have : (sepWord .fr x).word = none := by rw [hs]
          simp only [sepWord] at this
          split at this
          · assumption
          · cases this
        have h1 := noWord_append .fr A hA.good x .out h0
        rw [noWordFrom_iff _ (isWd_lt .fr)] at h1
        have hw : (sepWord .fr (x ++ A)).word = none := by simp [sepWord, h1]
        have e1 : view .fr t = none := by simp [view, hr, hs]
        have e2 : view .fr (t.setReal (x ++ A)) = none := by simp [view, hw]
        rw [e1, e2]; trivial

theorem sufOK_nil : SufOK [] where
  nw := rfl
  nl := by simp
  good := goodSuf_nil .fr

theorem sufOK_append (A1 A2 : Str) (h1 : SufOK A1) (h2 : SufOK A2) : SufOK (A1 ++ A2) := by
  refine ⟨?_, ?_, goodSuf_append .fr A1 A2 h1.good h2.good⟩
  · rw [noWords_append A2 h2.nw]; exact h1.nw
  · intro e; simp only [List.mem_append] at e
    cases e with
    | inl e => exact h1.nl e
    | inr e => exact h2.nl e

def plainStr (x : Str) : Bool := x.all (plainSkip .fr)

theorem plainStr_mem (x : Str) (h : plainStr x = true) : ∀ c ∈ x, plainSkip .fr c = true := by
  intro c hc; exact List.all_eq_true.mp h c hc

theorem isWd_of_isW (c : Char) (h : isWd .fr c = false) : isW c = false := by
  simp only [isWd, Bool.or_eq_false_iff] at h; exact h.1

theorem sufOK_plain (A : Str) (h : plainStr A = true) : SufOK A := by
  have hm := plainStr_mem A h
  refine ⟨?_, ?_, goodSuf_plain .fr A hm⟩
  · unfold noWords
    cases hd : A.dropWhile isSp with
    | nil => rfl
    | cons c t =>
      have hc : c ∈ A := by
        have : c ∈ A.dropWhile isSp := by rw [hd]; simp
        exact (List.dropWhile_sublist _).subset this
      have := hm c hc
      simp only [plainSkip, Bool.and_eq_true, Bool.not_eq_eq_eq_not, Bool.not_true] at this
      simp [isWd_of_isW c this.1.2]
  · intro e
    have := hm _ e
    simp [plainSkip] at this

/-- a predicate on strings that holds of `[]` and is closed under `++` holds of whatever is accumulated, in front
    or behind, from pieces of which it holds -/
theorem closed_fold {α} (P : Str → Prop) (h0 : P []) (happ : ∀ a b, P a → P b → P (a ++ b)) (f : List α → Str)
    (g : α → Str) (e0 : f [] = []) (e1 : ∀ p r, f (p :: r) = g p ++ f r ∨ f (p :: r) = f r ++ g p) :
    ∀ l, (∀ p ∈ l, P (g p)) → P (f l)
  | [], _ => e0 ▸ h0
  | p :: r, h => by
    have hp := h p List.mem_cons_self
    have hr := closed_fold P h0 happ f g e0 e1 r fun q hq => h q (List.mem_cons_of_mem _ hq)
    rcases e1 p r with e | e <;> rw [e]
    · exact happ _ _ hp hr
    · exact happ _ _ hr hp

open Pyrealb.Format in
/-- a tag whose name and attributes cannot close the tag early: non-empty name, no `>`, no newline -/
def cleanStr (x : Str) : Bool := !x.contains '>' && !x.contains '\n'

def cleanTag (tg : Str × List (Str × Str)) : Bool :=
  !tg.1.isEmpty && cleanStr tg.1 && tg.2.all (fun kv => cleanStr kv.1 && cleanStr kv.2)

/-- `getBeforeAfterString(sign)` yields two strings that `sepWordREC` skips entirely -/
def safeSign (tb : Format.Tables) (sign : Str) : Bool :=
  match Format.getBA tb sign with
  | .ok (b, a) => plainStr b && plainStr a
  | .error _ => false

/-- the non-capitalising options, with clean tags and safe signs -/
structure SafeOpts (tb : Format.Tables) (o : Format.Opts) : Prop where
  noPoss : o.poss = false
  noCap : o.cap ≠ .t
  tags : ∀ tg ∈ Format.optList o.tags, cleanTag tg = true
  signs : ∀ x ∈ Format.optList o.a ++ Format.optList o.b ++ Format.ensOf o, safeSign tb x = true

/-- every sign of the generated French `Pc` table is safe, except `-` (a word character of `sepWordREC`) -/
theorem fact_safe_signs_fr : ∀ e ∈ Format.tablesFr.lex, e.1 ≠ ['-'] → safeSign Format.tablesFr e.1 = true := by
  decide +kernel

theorem cleanStr_spec (x : Str) (h : cleanStr x = true) : '>' ∉ x ∧ '\n' ∉ x := by
  simpa [cleanStr] using h

theorem cleanTag_spec (tg : Str × List (Str × Str)) (h : cleanTag tg = true) :
    tg.1 ≠ [] ∧ '>' ∉ tg.1 ∧ '\n' ∉ tg.1 ∧ ∀ kv ∈ tg.2, '>' ∉ kv.1 ∧ '>' ∉ kv.2 := by
  simp only [cleanTag, Bool.and_eq_true, Bool.not_eq_true', List.isEmpty_eq_false_iff, List.all_eq_true] at h
  exact ⟨h.1.1, (cleanStr_spec _ h.1.2).1, (cleanStr_spec _ h.1.2).2,
    fun kv hkv => ⟨(cleanStr_spec _ (h.2 kv hkv).1).1, (cleanStr_spec _ (h.2 kv hkv).2).1⟩⟩

theorem skipAll_startTag (tg : Str × List (Str × Str)) (h : cleanTag tg = true) :
    SkipAll .fr (Format.startTag tg.1 tg.2) := by
  obtain ⟨hne, hgt, _, hattr⟩ := cleanTag_spec tg h
  have := skipAll_tag .fr (tg.1 ++ (tg.2.map (fun kv => ' ' :: kv.1 ++ ['=', '"'] ++ kv.2 ++ ['"'])).flatten)
    (fun e => hne (List.append_eq_nil_iff.mp e).1) ?_
  · simpa [Format.startTag, List.append_assoc] using this
  · intro e
    rcases List.mem_append.mp e with e | e
    · exact hgt e
    · obtain ⟨x, hx, hm⟩ := List.mem_flatten.mp e
      obtain ⟨kv, hkv, rfl⟩ := List.mem_map.mp hx
      simp only [List.mem_cons, List.mem_append, List.not_mem_nil, or_false] at hm
      rcases hm with (((hm | hm) | hm) | hm) | hm
      · cases hm
      · exact (hattr kv hkv).1 hm
      · rcases hm with hm | hm <;> cases hm
      · exact (hattr kv hkv).2 hm
      · cases hm

theorem sufOK_endTag (name : Str) (h1 : '>' ∉ name) (h2 : '\n' ∉ name) : SufOK (Format.endTag name) := by
  have hg := goodSuf_tag .fr ('/' :: name) (by simp) (by
    intro e; simp only [List.mem_cons] at e
    cases e with
    | inl e => cases e
    | inr e => exact h1 e)
  refine ⟨?_, ?_, by simpa [Format.endTag] using hg⟩
  · have : isSp '<' = false := by decide
    have hw : isW '<' = false := by decide
    simp [Format.endTag, noWords, this, hw]
  · intro e
    have e' : '\n' ∈ name := by
      simpa [Format.endTag] using e
    exact h2 e'

theorem skipAll_tagsB (tags : List (Str × List (Str × Str))) (h : ∀ tg ∈ tags, cleanTag tg = true) :
    SkipAll .fr (Format.tagsB tags) :=
  closed_fold _ (skipAll_nil .fr) (skipAll_append .fr) Format.tagsB (fun tg => Format.startTag tg.1 tg.2) rfl
    (fun _ _ => Or.inr rfl) tags fun tg htg => skipAll_startTag tg (h tg htg)

theorem sufOK_tagsA (tags : List (Str × List (Str × Str))) (h : ∀ tg ∈ tags, cleanTag tg = true) :
    SufOK (Format.tagsA tags) :=
  closed_fold _ sufOK_nil sufOK_append Format.tagsA (fun tg => Format.endTag tg.1) rfl (fun _ _ => Or.inl rfl) tags
    fun tg htg => sufOK_endTag tg.1 (cleanTag_spec tg (h tg htg)).2.1 (cleanTag_spec tg (h tg htg)).2.2.1

theorem baAll_safe (tb : Format.Tables) : ∀ (signs : List Str), (∀ x ∈ signs, safeSign tb x = true) →
    ∃ bas, Format.baAll tb signs = .ok bas ∧ ∀ p ∈ bas, plainStr p.1 = true ∧ plainStr p.2 = true := by
  intro signs
  induction signs with
  | nil => intro _; exact ⟨[], rfl, by intro p hp; simp at hp⟩
  | cons x r ih =>
    intro h
    obtain ⟨q, hq, hqp⟩ := ih (fun y hy => h y (List.mem_cons_of_mem _ hy))
    have hx := h x (by simp)
    unfold safeSign at hx
    cases hg : Format.getBA tb x with
    | error e => simp [hg] at hx
    | ok p =>
      obtain ⟨b, a⟩ := p
      simp only [hg, Bool.and_eq_true] at hx
      refine ⟨(b, a) :: q, ?_, ?_⟩
      · simp [Format.baAll, hg, hq, bind, Except.bind, pure, Except.pure]
      · intro p hp
        simp only [List.mem_cons] at hp
        cases hp with
        | inl e => rw [e]; exact hx
        | inr e => exact hqp p e

theorem skipAll_revB (bas : List (Str × Str)) (h : ∀ p ∈ bas, plainStr p.1 = true ∧ plainStr p.2 = true) :
    SkipAll .fr (Format.revB bas) :=
  closed_fold _ (skipAll_nil .fr) (skipAll_append .fr) Format.revB (·.1) rfl (fun _ _ => Or.inr rfl) bas
    fun p hp => skipAll_plain .fr _ (plainStr_mem _ (h p hp).1)

theorem sufOK_fwdB (bas : List (Str × Str)) (h : ∀ p ∈ bas, plainStr p.1 = true ∧ plainStr p.2 = true) :
    SufOK (Format.fwdB bas) :=
  closed_fold _ sufOK_nil sufOK_append Format.fwdB (·.1) rfl (fun _ _ => Or.inl rfl) bas
    fun p hp => sufOK_plain _ (h p hp).1

theorem sufOK_fwdA (bas : List (Str × Str)) (h : ∀ p ∈ bas, plainStr p.1 = true ∧ plainStr p.2 = true) :
    SufOK (Format.fwdA bas) :=
  closed_fold _ sufOK_nil sufOK_append Format.fwdA (·.2) rfl (fun _ _ => Or.inl rfl) bas
    fun p hp => sufOK_plain _ (h p hp).2

/-- the token as the formatter sees it -/
def toF (t : Tok) : Format.Tok := { real := t.real.getD [], lier := t.lier }

/-- the formatter's realization written back -/
def backF (t : Tok) (f : Format.Tok) : Tok :=
  match t.real with
  | some _ => t.setReal f.real
  | none => t

/-- `Format.formatCore` (C10's model of lines 331-355 of `Constituent.doFormat`) on a list of C06 tokens -/
def fmtC10 (tb : Format.Tables) (cm : Format.CaseMap) (o : Format.Opts) (l : List Tok) : List Tok :=
  match Format.formatCore tb cm o (l.map toF) with
  | .ok l' => List.zipWith backF l l'
  | .error _ => l

theorem backF_mapReal (t : Tok) (f : Str → Str) :
    backF t { toF t with real := f (toF t).real } = mapReal f t := by
  unfold backF mapReal toF
  cases t.real <;> rfl

theorem backF_id (t : Tok) : backF t (toF t) = t := by
  cases t with
  | mk real ct lier sg hW hR fr =>
    cases real <;> simp [backF, toF, Tok.setReal]

theorem all2_zip_modLast (A : Str) (hA : SufOK A) : ∀ l : List Tok,
    All2 SameView l (List.zipWith backF l (Format.modLast (· ++ A) (l.map toF)))
  | [] => .nil
  | [t] => by
    simp only [List.map, Format.modLast, List.zipWith]
    rw [backF_mapReal t (· ++ A)]
    exact .cons (sameView_suffix t A hA) .nil
  | t :: u :: r => by
    simp only [List.map, Format.modLast, List.zipWith, backF_id]
    exact .cons (sameView_refl t) (all2_zip_modLast A hA (u :: r))

/-- **wrapping keeps every token's view**: prefix `B` on the first token, suffix `A` on the last one -/
theorem all2_zip_wrapAll (B A : Str) (hB : SkipAll .fr B) (hA : SufOK A) : ∀ l : List Tok,
    All2 SameView l (List.zipWith backF l (Format.wrapAll B A (l.map toF)))
  | [] => .nil
  | [t] => by
    have e : backF t { toF t with real := B ++ (toF t).real ++ A } = mapReal (· ++ A) (mapReal (B ++ ·) t) := by
      unfold backF mapReal toF
      cases h : t.real <;> simp [Tok.setReal, h]
    simp only [List.map, Format.wrapAll, List.zipWith]
    rw [e]
    exact .cons (sameView_trans (sameView_prefix t B hB) (sameView_suffix _ A hA)) .nil
  | t :: u :: r => by
    simp only [List.map, Format.wrapAll, List.zipWith]
    rw [backF_mapReal t (B ++ ·)]
    exact .cons (sameView_prefix t B hB) (all2_zip_modLast A hA (u :: r))

/-- **`FormatOK` for C10's formatting model**, non-capitalising options, clean tags, safe signs -/
theorem fmtC10_sameView (tb : Format.Tables) (cm : Format.CaseMap) (o : Format.Opts) (h : SafeOpts tb o)
    (l : List Tok) : All2 SameView l (fmtC10 tb cm o l) := by
  cases hl : l with
  | nil =>
    unfold fmtC10
    cases Format.formatCore tb cm o ([].map toF) with
    | ok l' => simp [List.zipWith]; exact .nil
    | error e => exact .nil
  | cons t r =>
    rw [← hl]
    have hne : l.map toF ≠ [] := by rw [hl]; simp
    have hs := h.signs
    obtain ⟨as, has, pas⟩ := baAll_safe tb (Format.optList o.a) (fun x hx => hs x (by simp [hx]))
    obtain ⟨bs, hbs, pbs⟩ := baAll_safe tb (Format.optList o.b) (fun x hx => hs x (by simp [hx]))
    obtain ⟨es, hes, pes⟩ := baAll_safe tb (Format.ensOf o) (fun x hx => hs x (by simp [hx]))
    have hcp : Format.capPoss cm o (l.map toF) = l.map toF := by
      simp [Format.capPoss, h.noPoss, h.noCap]
    have hfc := Format.formatCore_eq tb cm o (l.map toF) hne as bs es has hbs hes
    rw [hcp] at hfc
    unfold fmtC10
    rw [hfc]
    simp only []
    apply all2_zip_wrapAll
    · exact skipAll_append .fr _ _ (skipAll_append .fr _ _ (skipAll_revB es pes) (skipAll_revB bs pbs))
        (skipAll_tagsB _ h.tags)
    · exact sufOK_append _ _ (sufOK_append _ _ (sufOK_tagsA _ h.tags) (sufOK_fwdB as pas)) (sufOK_fwdA es pes)

/-- the hypothesis `FormatOK` of `tree_settled_partial`, for the real formatting model: each node `id` carries
    options `opts id` -/
theorem formatOK_c10 (tb : Format.Tables) (cm : Format.CaseMap) (opts : Nat → Format.Opts)
    (h : ∀ id, SafeOpts tb (opts id)) : FormatOK (fun id l => fmtC10 tb cm (opts id) l) :=
  fun id l => fmtC10_sameView tb cm (opts id) (h id) l

/-! ## what remains excluded: `cap`, `poss`, the signs `-` and `'`

`cap` (and the sentence capital of `detokenize`) changes the case of the first letter of the first word, so
`SameView` (same `m[2]`) fails by definition.  `Settled` is nevertheless preserved for the pairs in which the
capitalised token stands FIRST: every clause reads `w1` through `lower`, except the contraction table, where a
capital can only remove a key (`clauses_case_first`).  It is NOT preserved where the capitalised token stands
SECOND, because `contractionFrTable` and the euphony exceptions `et/ou/où/aujourd'hui` are compared with the word
as written (`settled_not_case_invariant`): that is the known finding `fr:F3p:capitalised` / the side condition T5. -/

theorem clauses_case_first (w1 w1' w2 : Str) (sg V isD fr2 : Bool) (hl : lower w1' = lower w1)
    (hc : contrFr w1' w2 = none ∨ contrFr w1' w2 = contrFr w1 w2)
    (h : clausesFr w1 sg w2 V isD fr2 = true) : clausesFr w1' sg w2 V isD fr2 = true := by
  have e1 : isElidableWord w1' = isElidableWord w1 := by simp [isElidableWord, hl]
  have e2 : isElidedForm w1' = isElidedForm w1 := by simp [isElidedForm, hl]
  have e3 : isEuphonic w1' = isEuphonic w1 := by simp [isEuphonic, hl]
  have e4 : isPrevocalicOnly w1' = isPrevocalicOnly w1 := by simp [isPrevocalicOnly, hl]
  simp only [clausesFr, e1, e2, e3, e4, hl, Bool.and_eq_true] at h ⊢
  refine ⟨⟨⟨⟨⟨h.1.1.1.1.1, h.1.1.1.1.2⟩, ?_⟩, h.1.1.2⟩, h.1.2⟩, h.2⟩
  cases hc with
  | inl hc => simp [hc]
  | inr hc => rw [hc]; exact h.1.1.1.2

/-- a capital on the SECOND word can unsettle a pair: `beau et` is left alone (exception), `beau Et` is not -/
theorem settled_not_case_invariant :
    settled .fr [⟨some "beau".toList, ['A'], false, true, .mute, .mute, true⟩,
                 ⟨some "et".toList, ['C'], false, true, .mute, .mute, true⟩] = true ∧
    settled .fr [⟨some "beau".toList, ['A'], false, true, .mute, .mute, true⟩,
                 ⟨some "Et".toList, ['C'], false, true, .mute, .mute, true⟩] = false := by
  simp -index only [String.toList_ofList]
  decide +kernel

end Pyrealb.Elision
