import Pyrealb.Lemmas.HeapResolve
/-! # Absorption: a run of constant writes overrides an earlier run that wrote a subset of its locations

`applyW (applyW s ws') ws = applyW s ws` whenever every location written by `ws'` is written by `ws`
(last write wins).  With `compile_sound` this is the engine of `link_confluent_partial`: re-linking after each
insertion converges to the link state of the LAST link run alone. -/
namespace Pyrealb.Heap
open Pyrealb

inductive Loc where
  | peng (x : Nat) | taux (x : Nat) | fn (r : Nat) | fg (r : Nat) | cod (x : Nat) | subj (x : Nat)
  deriving DecidableEq, Repr

def Wr.loc : Wr → Loc
  | .peng x _ => .peng x
  | .taux x _ => .taux x
  | .fn r _ => .fn r
  | .fg r _ => .fg r
  | .cod x _ => .cod x
  | .subj x _ => .subj x

def locs (ws : List Wr) : List Loc := ws.map Wr.loc

def Loc.Ty : Loc → Type
  | .peng _ | .taux _ | .cod _ => Option Nat
  | .fn _ | .fg _ => Option Val
  | .subj _ => Option (Option Nat)

def Ptr.get (s : Ptr) : (l : Loc) → l.Ty
  | .peng x => s.peng x
  | .taux x => s.taux x
  | .fn r => (s.prec r).n
  | .fg r => (s.prec r).g
  | .cod x => s.cod x
  | .subj x => s.subject x

/-- the two states agree everywhere except possibly on the locations of `L` (the `pe` fields and the tense records are
    not written by a link run) -/
structure AgreeOff (L : List Loc) (s1 s2 : Ptr) : Prop where
  get : ∀ l, ¬ l ∈ L → s1.get l = s2.get l
  pe : ∀ r, (s1.prec r).pe = (s2.prec r).pe
  trec : s1.trec = s2.trec

theorem PRec.ext' {a b : PRec} (h1 : a.pe = b.pe) (h2 : a.n = b.n) (h3 : a.g = b.g) : a = b := by
  cases a; cases b; simp_all

theorem agreeOff_nil {s1 s2 : Ptr} (h : AgreeOff [] s1 s2) : s1 = s2 := by
  have g := fun l => h.get l List.not_mem_nil
  cases s1; cases s2
  simp only [Ptr.mk.injEq]
  refine ⟨funext fun x => g (.peng x), funext fun x => g (.taux x), funext fun r => ?_, h.trec,
          funext fun x => g (.cod x), funext fun x => g (.subj x)⟩
  exact PRec.ext' (h.pe r) (g (.fn r)) (g (.fg r))

theorem agreeOff_refl (L : List Loc) (s : Ptr) : AgreeOff L s s := ⟨fun _ _ => rfl, fun _ => rfl, rfl⟩

theorem agreeOff_mono {L L' : List Loc} {s1 s2 : Ptr} (sub : ∀ l ∈ L, l ∈ L') (h : AgreeOff L s1 s2) :
    AgreeOff L' s1 s2 := ⟨fun l hl => h.get l fun m => hl (sub l m), h.pe, h.trec⟩

theorem agreeOff_trans {L : List Loc} {s1 s2 s3 : Ptr} (h : AgreeOff L s1 s2) (h' : AgreeOff L s2 s3) :
    AgreeOff L s1 s3 :=
  ⟨fun l hl => (h.get l hl).trans (h'.get l hl), fun r => (h.pe r).trans (h'.pe r), h.trec.trans h'.trec⟩

theorem get_apply_ne (s : Ptr) (w : Wr) {l : Loc} (hl : l ≠ w.loc) : (w.apply s).get l = s.get l := by
  -- another field: by definition; the same field: `upd` at another key, or the other projection of the record
  cases w <;> cases l <;> first
    | rfl
    | (simp only [Ptr.get, Wr.apply, upd]; split <;> subst_vars <;> first | rfl | exact absurd rfl hl)

theorem get_apply_eq (s1 s2 : Ptr) (w : Wr) : (w.apply s1).get w.loc = (w.apply s2).get w.loc := by
  cases w <;> simp [Ptr.get, Wr.apply, Wr.loc] <;> rfl

theorem apply_fixed (s : Ptr) (w : Wr) : (∀ r, ((w.apply s).prec r).pe = (s.prec r).pe) ∧ (w.apply s).trec = s.trec := by
  cases w <;> refine ⟨fun r => ?_, rfl⟩ <;> first
    | rfl
    | (simp only [Wr.apply, upd]; split <;> first | rfl | (subst_vars; rfl))

theorem apply_frame (s : Ptr) (w : Wr) : AgreeOff [w.loc] (w.apply s) s :=
  ⟨fun _ hl => get_apply_ne s w (by simpa using hl), (apply_fixed s w).1, (apply_fixed s w).2⟩

theorem apply_agree {L : List Loc} {s1 s2 : Ptr} (w : Wr) (h : AgreeOff (w.loc :: L) s1 s2) :
    AgreeOff L (w.apply s1) (w.apply s2) where
  get l hl := by
    by_cases e : l = w.loc
    · subst e; exact get_apply_eq s1 s2 w
    · rw [get_apply_ne s1 w e, get_apply_ne s2 w e]; exact h.get l (by simp [e, hl])
  pe r := ((apply_fixed s1 w).1 r).trans ((h.pe r).trans ((apply_fixed s2 w).1 r).symm)
  trec := (apply_fixed s1 w).2.trans (h.trec.trans (apply_fixed s2 w).2.symm)

theorem applyW_frame (s : Ptr) (ws : List Wr) : AgreeOff (locs ws) (applyW s ws) s := by
  induction ws generalizing s with
  | nil => exact agreeOff_refl _ _
  | cons w ws ih =>
    have h1 : AgreeOff (locs (w :: ws)) (applyW (w.apply s) ws) (w.apply s) :=
      agreeOff_mono (fun l hl => by simp [locs] at hl ⊢; exact Or.inr hl) (ih (w.apply s))
    have h2 : AgreeOff (locs (w :: ws)) (w.apply s) s :=
      agreeOff_mono (fun l hl => by simp [locs] at hl ⊢; exact Or.inl hl) (apply_frame s w)
    simpa [applyW] using agreeOff_trans h1 h2

theorem applyW_det (ws : List Wr) (s1 s2 : Ptr) (h : AgreeOff (locs ws) s1 s2) : applyW s1 ws = applyW s2 ws := by
  induction ws generalizing s1 s2 with
  | nil => simpa [applyW] using agreeOff_nil h
  | cons w ws ih =>
    simp only [applyW, List.foldl_cons]
    exact ih _ _ (apply_agree w (by simpa [locs] using h))

/-- **absorption**: an earlier run that wrote a subset of the locations leaves no trace -/
theorem applyW_absorb (s : Ptr) (ws' ws : List Wr) (sub : ∀ l ∈ locs ws', l ∈ locs ws) :
    applyW (applyW s ws') ws = applyW s ws :=
  applyW_det ws _ _ (agreeOff_mono sub (applyW_frame s ws'))

end Pyrealb.Heap
