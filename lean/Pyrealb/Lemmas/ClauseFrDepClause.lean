import Pyrealb.Lemmas.ClauseFrClause
import Pyrealb.Model.ClauseFrDep
/-! What `Dependent.processTyp` hands to the realization of the root (dependency notation): the root verb carries the
    negation, every other verb is a `post` dependent that is a clean infinitive or participle, and the root followed
    by the verbs among its dependents is the declared nesting; then the pieces `Dependent.real` puts together. -/
namespace Pyrealb.ClauseFr
open Pyrealb
open Pyrealb.Gen.ClauseFr

def DTerm.isV : DTerm → Bool | .v _ => true | _ => false

/-- a dependent of the root: if its terminal is a verb it is a `post` dependent, without negation or hyphen, an
    infinitive or a participle -/
def DepOk (d : Dep) : Prop :=
  match d.t with
  | .v y => d.rel = .post ∧ y.neg2 = none ∧ y.lier = false ∧ (y.t = .b ∨ y.t = .pp)
  | _ => True

def DI (deps : List Dep) : Prop := ∀ d ∈ deps, DepOk d

theorem depOk_nonV (d : Dep) (h : d.t.isV = false) : DepOk d := by
  unfold DepOk; cases hd : d.t <;> simp_all [DTerm.isV]

theorem di_of_nonV (l : List Dep) (h : ∀ d ∈ l, d.t.isV = false) : DI l := fun d hd => depOk_nonV d (h d hd)

theorem di_set (l : List Dep) (i : Nat) (d : Dep) (h : DI l) (hd : DepOk d) : DI (l.set i d) := by
  intro e he
  rcases List.mem_or_eq_of_mem_set he with he | rfl
  · exact h e he
  · exact hd

theorem di_filter (l : List Dep) (p : Dep → Bool) (h : DI l) : DI (l.filter p) :=
  fun d hd => h d (List.mem_filter.mp hd).1

def NV (l : List Dep) : Prop := ∀ d ∈ l, d.t.isV = false

def Dep.vc? (d : Dep) : Option (Str × Tense) :=
  match d.t with
  | .v y => some (y.lex.lemma, y.t)
  | _ => none

/-- the verbs among the dependents, in order -/
def depChain (deps : List Dep) : List (Str × Tense) := deps.filterMap Dep.vc?

/-- the root verb first, then the verbs among its dependents -/
def chainOf (s : VT × List Dep) : List (Str × Tense) := (s.1.lex.lemma, s.1.t) :: depChain s.2

theorem vc_nonV (d : Dep) (h : d.t.isV = false) : d.vc? = none := by
  unfold Dep.vc?; cases hd : d.t <;> simp_all [DTerm.isV]

theorem depChain_nv (l : List Dep) (h : NV l) : depChain l = [] := by
  unfold depChain
  rw [List.filterMap_eq_nil_iff]
  exact fun d hd => vc_nonV d (h d hd)

theorem depChain_pyInsert_nv (k : Nat) (d : Dep) (l : List Dep) (h : NV l) :
    depChain (pyInsert k d l) = d.vc?.toList := by
  have hn : ∀ l' : List Dep, (∀ e ∈ l', e ∈ l) → l'.filterMap Dep.vc? = [] :=
    fun l' hl => List.filterMap_eq_nil_iff.mpr fun e he => vc_nonV e (h e (hl e he))
  rw [depChain, filterMap_pyInsert, hn _ (fun _ => List.mem_of_mem_take), hn _ (fun _ => List.mem_of_mem_drop),
    List.nil_append, List.append_nil]

theorem vc_none_of_rel (d : Dep) (hd : DepOk d) (hr : d.rel ≠ .post) : d.vc? = none := by
  unfold Dep.vc?
  unfold DepOk at hd
  cases hdt : d.t with
  | v y => simp only [hdt] at hd; exact absurd hd.1 hr
  | _ => rfl

theorem depChain_cons (d : Dep) (l : List Dep) : depChain (d :: l) = d.vc?.toList ++ depChain l := by
  cases h : d.vc? <;> simp [depChain, h]

theorem depChain_map (f : Dep → Dep) (l : List Dep) (h : ∀ d, (f d).vc? = d.vc?) : depChain (l.map f) = depChain l := by
  induction l with
  | nil => rfl
  | cons a r ih => simp only [List.map_cons, depChain_cons, h a, ih]

theorem pronominalizeDeps_nonV (l : List Dep) (c : Option (Gd × Nb × Int)) (h : NV l) :
    NV (pronominalizeDeps l c).1 := by
  fun_induction pronominalizeDeps l c
  case case1 => intro d hd; cases hd
  all_goals
    rename_i ih
    intro e he
    rcases List.mem_cons.mp he with rfl | he
    -- the head is the dependent itself, or it has a new terminal: a pronoun, or a preposition with a pronoun
    · first
        | exact h _ List.mem_cons_self
        | rfl
        | (rename_i d' _; unfold d'; repeat' split
           all_goals rfl)
    · exact ih (fun x hx => h x (List.mem_cons_of_mem _ hx)) e he

theorem withPids_t (k : Nat) (l : List Dep) (h : ∀ d ∈ l, d.t.isV = false) : ∀ d ∈ withPids k l, d.t.isV = false := by
  induction l generalizing k with
  | nil => simp [withPids]
  | cons a r ih =>
    intro d hd
    simp only [withPids, List.mem_cons] at hd
    rcases hd with rfl | hd
    · exact h a List.mem_cons_self
    · exact ih (k + 1) (fun d hd => h d (List.mem_cons_of_mem _ hd)) d hd

theorem subjDeps_nonV (sp : Spec) : ∀ d ∈ subjDeps sp, d.t.isV = false := by
  intro d hd
  unfold subjDeps at hd
  cases hs : sp.subj with
  | none => simp [hs] at hd
  | some s => cases s <;> simp [hs] at hd <;> subst hd <;> rfl

theorem compDep_nonV (cs : List Comp) : ∀ d ∈ cs.map compDep, d.t.isV = false := by
  intro d hd
  obtain ⟨c, _, rfl⟩ := List.mem_map.mp hd
  cases c <;> rfl

theorem passivateDepObj_nv (deps deps1 : List Dep) (obj : Option (Nat × Nb × Gd × Int)) (hd : NV deps)
    (h1 : passivateDepObj deps = .ok (obj, deps1)) : NV deps1 := by
  unfold passivateDepObj at h1
  simp only [] at h1
  split at h1
  · rename_i i _
    split at h1
    · rename_i o ho
      have hot := hd o (List.mem_of_getElem? ho)
      split at h1
      · cases h1
      · cases h1
        have hset : NV (deps.set i { o with rel := .subj, t := match o.t with
            | .pro p => .pro (getTonicPro p (some .nom))
            | t => t }) := by
          intro e he
          rcases List.mem_or_eq_of_mem_set he with he | rfl
          · exact hd e he
          · cases hto : o.t <;> simp_all [DTerm.isV]
        split
        · split
          · exact List.forall_mem_append.mpr ⟨fun d hd' => hset d (List.mem_of_mem_eraseIdx hd'),
              List.forall_mem_singleton.mpr rfl⟩
          · exact hset
        · exact hset
    · cases h1; exact hd
  · split at h1
    · split at h1
      · cases h1
        exact List.forall_mem_append.mpr ⟨fun d hd' => hd d (List.mem_of_mem_eraseIdx hd'),
          List.forall_mem_cons.mpr ⟨rfl, List.forall_mem_singleton.mpr rfl⟩⟩
      · cases h1; exact hd
    · cases h1; exact hd

theorem passivateDep_dc (v v' : VT) (deps deps' : List Dep) (hd : NV deps)
    (h : passivateDep v deps = .ok (v', deps')) :
    v'.neg2 = v.neg2 ∧ v'.lier = v.lier ∧ DI deps' ∧
      chainOf (v', deps') = [(if v.lex.lemma = etre then avoir else etre, v.t), (v.lex.lemma, .pp)] := by
  unfold passivateDep at h
  obtain ⟨el, hel, h⟩ := bindE_ok _ _ _ h
  obtain ⟨al, hal, h⟩ := bindE_ok _ _ _ h
  cases hel.symm.trans auxLex_etre
  cases hal.symm.trans auxLex_avoir
  obtain ⟨⟨obj, deps1⟩, h1, h⟩ := bindE_ok _ _ _ h
  have hd1 := passivateDepObj_nv deps deps1 obj hd h1
  cases h
  have hlem : (v.setLemma (if v.lex.lemma = etre then verb_avoir else verb_etre)).lex.lemma =
      (if v.lex.lemma = etre then avoir else etre) := by
    show (if v.lex.lemma = etre then verb_avoir else verb_etre).lemma = _
    by_cases he : v.lex.lemma = etre
    · rw [if_pos he, if_pos he]; exact verb_avoir_lemma
    · rw [if_neg he, if_neg he]; exact verb_etre_lemma
  rcases obj with _ | ⟨pe, n, g, pid⟩
  · exact ⟨rfl, rfl, forall_mem_pyInsert _ _ _ ⟨rfl, rfl, rfl, Or.inr rfl⟩ (di_of_nonV _ hd1),
      by rw [chainOf, depChain_pyInsert_nv _ _ _ hd1, ← hlem]; rfl⟩
  · exact ⟨rfl, rfl, forall_mem_pyInsert _ _ _ ⟨rfl, rfl, rfl, Or.inr rfl⟩ (di_of_nonV _ hd1),
      by rw [chainOf, depChain_pyInsert_nv _ _ _ hd1, ← hlem]; rfl⟩

end Pyrealb.ClauseFr

namespace Pyrealb.C05
open Pyrealb Pyrealb.ClauseFr Pyrealb.Gen.ClauseFr

/-- passive in the dependency notation: `self.t("s")` for an imperative sets the Dependent's props, the terminal's own
    `t` still wins — the auxiliary keeps the tense as given -/
def pasLayerDep (on : Bool) : List (Str × Tense) → List (Str × Tense)
  | (l, t) :: r => if on then (if l = etre then avoir else etre, t) :: (l, .pp) :: r else (l, t) :: r
  | [] => []

def expectedChainDep (sp : Spec) : List (Str × Tense) :=
  auxLayer (sp.typ.mod.bind modalLemma)
    (auxLayer (if sp.typ.prog then some progAux else none) (pasLayerDep sp.typ.pas [(sp.verb.lemma, sp.t)]))

end Pyrealb.C05

namespace Pyrealb.ClauseFr
open Pyrealb
open Pyrealb.Gen.ClauseFr
open Pyrealb.C05 (auxLayer pasLayerDep expectedChainDep)

/-- the root verb carries `w` and `b`, the dependents are `DI`, and the root followed by the verbs among them is `c` -/
def DC (w : Option Str) (b : Bool) (c : List (Str × Tense)) (s : VT × List Dep) : Prop :=
  s.1.neg2 = w ∧ s.1.lier = b ∧ DI s.2 ∧ chainOf s = c

theorem depElems_dc (sp : Spec) : DC none false [(sp.verb.lemma, sp.t)] (depElems sp) ∧ NV (depElems sp).2 := by
  have hnv : NV (depElems sp).2 := by
    apply pronominalizeDeps_nonV
    apply withPids_t
    exact List.forall_mem_append.mpr ⟨subjDeps_nonV sp, compDep_nonV _⟩
  refine ⟨?_, hnv⟩
  have hv : (depElems sp).1.neg2 = none ∧ (depElems sp).1.lier = false ∧ (depElems sp).1.lex = sp.verb ∧
      (depElems sp).1.t = sp.t := by
    unfold depElems
    dsimp only
    split <;> exact ⟨rfl, rfl, rfl, rfl⟩
  exact ⟨hv.1, hv.2.1, di_of_nonV _ hnv, by rw [chainOf, depChain_nv _ hnv, hv.2.2.1, hv.2.2.2]⟩

theorem depStagePas_dc (sp : Spec) (s s' : VT × List Dep) (hn : s.1.neg2 = none) (hl : s.1.lier = false) (hd : NV s.2)
    (h : depStagePas sp s = .ok s') : DC none false (pasLayerDep sp.typ.pas [(s.1.lex.lemma, s.1.t)]) s' := by
  unfold depStagePas at h
  cases hp : sp.typ.pas with
  | false =>
    rw [hp] at h
    cases h
    exact ⟨hn, hl, di_of_nonV _ hd, by rw [chainOf, depChain_nv _ hd]; rfl⟩
  | true =>
    rw [hp, if_pos rfl] at h
    obtain ⟨h1, h2, h3, h4⟩ := passivateDep_dc s.1 s'.1 s.2 s'.2 hd h
    exact ⟨h1.trans hn, h2.trans hl, h3, h4⟩

theorem depStageProg_dc (sp : Spec) (s s' : VT × List Dep) (c : List (Str × Tense)) (hs : DC none false c s)
    (h : depStageProg sp s = .ok s') : DC none false (auxLayer (if sp.typ.prog then some progAux else none) c) s' := by
  obtain ⟨hn, hl, hd, rfl⟩ := hs
  unfold depStageProg at h
  cases hp : sp.typ.prog with
  | false => rw [hp] at h; cases h; exact ⟨hn, hl, hd, rfl⟩
  | true =>
    rw [hp, if_pos rfl] at h
    obtain ⟨lx, hlx, h⟩ := bindE_ok _ _ _ h
    cases h
    refine ⟨hn, hl, ?_, ?_⟩
    · exact List.forall_mem_cons.mpr ⟨trivial, List.forall_mem_cons.mpr ⟨trivial,
        List.forall_mem_cons.mpr ⟨⟨rfl, rfl, rfl, Or.inl rfl⟩, hd⟩⟩⟩
    · show (lx.lemma, s.1.t) :: (s.1.lex.lemma, Tense.b) :: depChain s.2 = _
      rw [auxLex_lemma _ _ hlx]
      rfl

theorem depStageMod_dc (sp : Spec) (s s' : VT × List Dep) (c : List (Str × Tense)) (hs : DC none false c s)
    (h : depStageMod sp s = .ok s') : DC none false (modLayer sp c) s' := by
  obtain ⟨hn, hl, hd, rfl⟩ := hs
  unfold depStageMod modLayer at *
  cases hm : sp.typ.mod with
  | none => simp only [hm] at h; cases h; exact ⟨hn, hl, hd, rfl⟩
  | some m =>
    simp only [hm] at h
    -- `va`: the root as the modality verb, or unchanged when `mod` names none
    have key : ∀ va : VT, va.neg2 = s.1.neg2 → va.lier = s.1.lier → va.t = s.1.t →
        va.lex.lemma = (modalLemma m).getD s.1.lex.lemma →
        DC none false (((modalLemma m).getD s.1.lex.lemma, s.1.t) :: (s.1.lex.lemma, .b) :: depChain s.2)
          ({ va with isMod := true, isProg := false },
            ({ rel := .post, t := .v { mkV s.1.lex .b with isProg := va.isProg } } : Dep) :: s.2) :=
      fun va h1 h2 h3 h4 => ⟨h1.trans hn, h2.trans hl,
        List.forall_mem_cons.mpr ⟨⟨rfl, rfl, rfl, Or.inl rfl⟩, hd⟩, by rw [← h4, ← h3]; rfl⟩
    cases hml : modalLemma m with
    | none =>
      simp only [hml] at h
      cases h
      exact key s.1 rfl rfl rfl (by rw [hml]; rfl)
    | some ml =>
      simp only [hml] at h
      obtain ⟨lx, hlx, h⟩ := bindE_ok _ _ _ h
      cases h
      exact key (s.1.setLemma lx) rfl rfl rfl (by rw [hml]; exact auxLex_lemma _ _ hlx)

theorem depStageNeg_dc (sp : Spec) (s : VT × List Dep) (c : List (Str × Tense)) (hs : DC none false c s) :
    DC (sp.typ.neg.map NegV.word2) false c (depStageNeg sp s) := by
  unfold depStageNeg
  cases sp.typ.neg with
  | none => exact hs
  | some nv => exact ⟨rfl, hs.2.1, hs.2.2.1, hs.2.2.2⟩

theorem erase_first_inv (p : Dep → Bool) (l : List Dep) (i : Nat) (hp : ∀ d, p d = true → d.rel ≠ .post) (hl : DI l)
    (hi : firstIdx p l = some i) : DI (l.eraseIdx i) ∧ depChain (l.eraseIdx i) = depChain l := by
  obtain ⟨e, he, hpe⟩ := firstIdx_getElem p l i hi
  refine ⟨fun d hd => hl d (List.mem_of_mem_eraseIdx hd), filterMap_eraseIdx_none _ l i ?_⟩
  intro d hd
  rw [he] at hd
  cases hd
  exact vc_none_of_rel e (hl e (List.mem_of_getElem? he)) (hp e hpe)

theorem subj_not_post (d : Dep) (h : decide (d.rel = .subj) = true) : d.rel ≠ .post := by
  intro h2; rw [h2] at h; cases h

theorem moveObjectDep_inv (int : Str) (v : VT) (deps l : List Dep) (hl : DI l) (hc : depChain l = depChain deps) :
    (moveObjectDep int v l).1.neg2 = v.neg2 ∧ DI (moveObjectDep int v l).2 ∧
      chainOf (moveObjectDep int v l) = chainOf (v, deps) := by
  have hcd : chainOf (v, deps) = chainOf (v, l) := by rw [chainOf, chainOf, hc]
  rw [hcd]
  have hestce : ∀ q : Str, DI ({ rel := .det, t := .q q } :: l) ∧
      chainOf (v, ({ rel := .det, t := .q q } : Dep) :: l) = chainOf (v, l) :=
    fun q => ⟨List.forall_mem_cons.mpr ⟨trivial, hl⟩, rfl⟩
  have hinv : ∀ (p : ProT) (l' : List Dep), DI l' → depChain l' = depChain l →
      DI ({ rel := .post, t := .pro p } :: l') ∧
      chainOf ({ v with lier := true }, ({ rel := .post, t := .pro p } : Dep) :: l') = chainOf (v, l) :=
    fun p l' hl' hc' => ⟨List.forall_mem_cons.mpr ⟨trivial, hl'⟩, congrArg (_ :: ·) hc'⟩
  unfold moveObjectDep
  cases hsi : firstIdx (fun (d : Dep) => decide (d.rel = .subj)) l with
  | none => exact ⟨rfl, hl, rfl⟩
  | some si =>
    have her := erase_first_inv _ l si subj_not_post hl hsi
    dsimp only
    cases hsd : l[si]? with
    | none => exact ⟨rfl, hl, rfl⟩
    | some sd =>
      dsimp only
      cases hst : sd.t with
      | pro p =>
        dsimp only
        split
        · split
          · exact ⟨rfl, hestce _⟩
          · exact ⟨rfl, hinv _ l hl rfl⟩
        · split
          · exact ⟨rfl, hestce _⟩
          · exact ⟨rfl, hinv _ _ her.1 her.2⟩
      | np a =>
        dsimp only
        split
        · exact ⟨rfl, hestce _⟩
        · exact ⟨rfl, hinv _ l hl rfl⟩
      | _ => exact ⟨rfl, hl, rfl⟩

/-- `wos` / `was`: the verbs that share the `peng` of the root verb become 3rd person singular with it -/
def wosMap (d : Dep) : Dep :=
  match d.t with
  | .v x => if x.shared then { d with t := .v { x with n := .s, pe := 3 } } else d
  | _ => d

theorem wosMap_vc (d : Dep) : (wosMap d).vc? = d.vc? := by
  unfold wosMap
  split
  · rename_i x hx
    split
    · simp [Dep.vc?, hx]
    · rfl
  · rfl

theorem wosMap_ok (d : Dep) (hd : DepOk d) : DepOk (wosMap d) := by
  unfold wosMap
  split
  · rename_i x hx
    split
    · unfold DepOk at hd ⊢
      simp only [hx] at hd
      exact hd
    · exact hd
  · exact hd

theorem processIntDepCore_inv (int : Str) (v : VT) (deps : List Dep) (r : VT × List Dep × Bool × Str × Option Str)
    (hd : DI deps) (h : processIntDepCore int v deps = .ok r) :
    r.1.neg2 = v.neg2 ∧ DI r.2.1 ∧ chainOf (r.1, r.2.1) = chainOf (v, deps) := by
  have hmove : ∀ l, DI l ∧ depChain l = depChain deps → ∀ (x : Bool) (s : Option Str),
      r = ((moveObjectDep int v l).1, (moveObjectDep int v l).2, x, [], s) →
      r.1.neg2 = v.neg2 ∧ DI r.2.1 ∧ chainOf (r.1, r.2.1) = chainOf (v, deps) := by
    intro l hl x s hr
    subst hr
    exact moveObjectDep_inv int v deps l hl.1 hl.2
  unfold processIntDepCore at h
  rcases ite_cases h with ⟨_, h⟩ | ⟨_, h⟩
  · cases h
    exact hmove deps ⟨hd, rfl⟩ _ _ rfl
  rcases ite_cases h with ⟨_, h⟩ | ⟨_, h⟩
  · cases hi : firstIdx (fun (d : Dep) => decide (d.rel = .subj)) deps with
    | none => rw [hi] at h; cases h; exact ⟨rfl, hd, rfl⟩
    | some i =>
      rw [hi] at h
      cases h
      have her := erase_first_inv _ deps i subj_not_post hd hi
      refine ⟨rfl, ?_, ?_⟩
      · show DI ((deps.eraseIdx i).map wosMap)
        intro d hdm
        obtain ⟨d0, hd0, rfl⟩ := List.mem_map.mp hdm
        exact wosMap_ok d0 (her.1 d0 hd0)
      · show chainOf (_, (deps.eraseIdx i).map wosMap) = _
        simp only [chainOf]
        rw [depChain_map _ _ wosMap_vc, her.2]
  rcases ite_cases h with ⟨_, h⟩ | ⟨_, h⟩
  · extract_lets a bp m at h
    refine hmove bp.1 ?_ _ _ (Except.ok.inj h).symm
    clear h m
    -- the questioned object goes, then the agent « par … »
    have ha : DI a ∧ depChain a = depChain deps := by
      unfold a
      split
      · rename_i i hi
        exact erase_first_inv _ deps i (by intro d h1 h2; simp at h1; rw [h1.1] at h2; cases h2) hd hi
      · exact ⟨hd, rfl⟩
    clear_value a
    unfold bp
    split
    · rename_i j hj
      have hb := erase_first_inv _ a j (by intro d h1 h2; simp at h1; rw [h1.1] at h2; cases h2) ha.1 hj
      exact ⟨hb.1, hb.2.trans ha.2⟩
    · exact ha
  rcases ite_cases h with ⟨_, h⟩ | ⟨_, h⟩
  · rcases ite_cases h with ⟨_, h⟩ | ⟨_, h⟩
    · cases h
    extract_lets q dp m at h
    refine hmove dp.1 ?_ _ _ (Except.ok.inj h).symm
    clear h m
    unfold dp
    split
    · rename_i i hi
      exact erase_first_inv _ deps i (by
        intro d h1 h2
        simp only [q, Bool.and_eq_true, Bool.or_eq_true, decide_eq_true_eq] at h1
        rcases h1.1 with h3 | h3 <;> (rw [h3] at h2; cases h2)) hd hi
    · exact ⟨hd, rfl⟩
  split at h <;>
  · cases h; exact ⟨rfl, hd, rfl⟩

/-- **`Dependent.processTypInt`** (the root may become hyphen-linked: the inverted subject pronoun follows it) -/
theorem processIntDep_inv (int : Str) (v v' : VT) (deps deps' : List Dep) (e : Str) (hd : DI deps)
    (h : processIntDep int v deps = .ok (v', deps', e)) :
    v'.neg2 = v.neg2 ∧ DI deps' ∧ chainOf (v', deps') = chainOf (v, deps) := by
  unfold processIntDep at h
  obtain ⟨dflt, _, h⟩ := bindE_ok _ _ _ h
  obtain ⟨r, hr, h⟩ := bindE_ok _ _ _ h
  obtain ⟨c1, c2, c3⟩ := processIntDepCore_inv int v deps r hd hr
  simp only [pure, Except.pure, Except.ok.injEq, Prod.mk.injEq] at h
  obtain ⟨rfl, rfl, _⟩ := h
  have hq : ∀ t : DTerm, t.isV = false → DI ({ rel := .pre, t := t } :: r.2.1) :=
    fun t ht => List.forall_mem_cons.mpr ⟨depOk_nonV _ ht, c2⟩
  refine ⟨c1, ?_, ?_⟩
  · split
    · refine List.forall_mem_cons.mpr ⟨trivial, ?_⟩
      split
      · exact hq _ rfl
      · exact hq _ rfl
    · exact hq _ rfl
  · rw [← c3]
    split
    · split <;> simp [chainOf, depChain_cons, Dep.vc?]
    · simp [chainOf, depChain_cons, Dep.vc?]

/-- **what `Dependent.processTyp` hands to the realization**, with or without an interrogative; the nesting is the
    declared one when `mod` names a modality verb -/
theorem depTyped_all (sp : Spec) (v : VT) (deps : List Dep) (e : Str) (h : depTyped sp = .ok (v, deps, e)) :
    ∃ b c, DC (sp.typ.neg.map NegV.word2) b c (v, deps) ∧ (sp.typ.int = none → b = false ∧ e = []) ∧
      ((∀ m, sp.typ.mod = some m → (modalLemma m).isSome = true) → c = expectedChainDep sp) := by
  unfold depTyped at h
  obtain ⟨s2, h2, h⟩ := bindE_ok _ _ _ h
  obtain ⟨s3, h3, h⟩ := bindE_ok _ _ _ h
  obtain ⟨s4, h4, h⟩ := bindE_ok _ _ _ h
  obtain ⟨⟨e1, e2, _, e4⟩, e5⟩ := depElems_dc sp
  have c2 := depStagePas_dc sp _ s2 e1 e2 e5 h2
  rw [(List.cons.inj e4).1] at c2
  have c5 := depStageNeg_dc sp s4 _ (depStageMod_dc sp s3 s4 _ (depStageProg_dc sp s2 s3 _ c2 h3) h4)
  have hc := modLayer_eq sp (auxLayer (if sp.typ.prog then some progAux else none)
    (pasLayerDep sp.typ.pas [(sp.verb.lemma, sp.t)]))
  cases hint : sp.typ.int with
  | none =>
    simp only [hint, pure, Except.pure, Except.ok.injEq, Prod.mk.injEq] at h
    obtain ⟨rfl, rfl, rfl⟩ := h
    exact ⟨false, _, c5, fun _ => ⟨rfl, rfl⟩, hc⟩
  | some i =>
    simp only [hint] at h
    obtain ⟨i1, i2, i3⟩ := processIntDep_inv i _ v _ deps e c5.2.2.1 h
    exact ⟨v.lier, _, ⟨i1.trans c5.1, rfl, i2, i3.trans c5.2.2.2⟩, fun hc' => (by cases hc'), hc⟩

/-- the root verb carries `w` and no hyphen, the dependents are `DI` -/
def DS (w : Option Str) (s : VT × List Dep) : Prop := s.1.neg2 = w ∧ s.1.lier = false ∧ DI s.2

/-- **what `Dependent.processTyp` hands to the realization** (no interrogative) -/
theorem depTyped_inv (sp : Spec) (v : VT) (deps : List Dep) (e : Str) (hint : sp.typ.int = none)
    (h : depTyped sp = .ok (v, deps, e)) : DS (sp.typ.neg.map NegV.word2) (v, deps) ∧ e = [] := by
  obtain ⟨b, c, ⟨h1, h2, h3, _⟩, hb, _⟩ := depTyped_all sp v deps e h
  exact ⟨⟨h1, h2.trans (hb hint).1, h3⟩, (hb hint).2⟩

theorem depToks_noV (refl : Bool) (d : Dep) (ts : List Tok) (hd : d.t.isV = false) (h : d.toks refl = .ok ts) :
    ∀ t ∈ ts, t.isV = false := by
  have : ts.all (fun t => !t.isV) = true := by
    unfold Dep.toks at h
    cases hdt : d.t with
    | v x => rw [hdt] at hd; cases hd
    | pp prep inner => rw [hdt] at h; cases h; cases inner <;> rfl
    | _ => rw [hdt] at h; cases h; rfl
  simpa using this

theorem depToks_clean (refl : Bool) (d : Dep) (ts : List Tok) (hd : DepOk d) (h : d.toks refl = .ok ts) :
    CleanToks ts := by
  cases hdt : d.t with
  | v x =>
    unfold DepOk at hd
    unfold Dep.toks at h
    simp only [hdt] at hd h
    obtain ⟨r, hr, h⟩ := bindE_ok _ _ _ h
    cases h
    exact (conj_clean x refl none r (fun _ hq => nomatch hq) hd.2 hr).1
  | _ => exact cleanToks_of_noV ts (depToks_noV refl d ts (by rw [hdt]; rfl) h)

theorem mapM_flatten {α} (f : α → Except Crash (List Tok)) (P : List Tok → Prop) (hnil : P [])
    (happ : ∀ a b, P a → P b → P (a ++ b)) (l : List α) (r : List (List Tok))
    (hf : ∀ a ∈ l, ∀ ts, f a = .ok ts → P ts) (h : l.mapM f = .ok r) : P r.flatten := by
  induction l generalizing r with
  | nil => cases h; exact hnil
  | cons a rest ih =>
    rw [List.mapM_cons] at h
    obtain ⟨ts, hts, h⟩ := bindE_ok _ _ _ h
    obtain ⟨rr, hrr, h⟩ := bindE_ok _ _ _ h
    cases h
    exact happ _ _ (hf a List.mem_cons_self ts hts) (ih rr (fun a ha => hf a (List.mem_cons_of_mem _ ha)) hrr)

theorem depConsumed_mem (used : Bool) (pres posts : List Dep) :
    (∀ d ∈ (depConsumed used pres posts).1, d ∈ pres) ∧ (∀ d ∈ (depConsumed used pres posts).2, d ∈ posts) := by
  unfold depConsumed
  split
  · split
    · split
      · exact ⟨fun d hd => List.mem_of_mem_eraseIdx hd, fun d hd => hd⟩
      · exact ⟨fun d hd => hd, fun d hd => List.mem_of_mem_eraseIdx hd⟩
    · exact ⟨fun d hd => hd, fun d hd => hd⟩
  · exact ⟨fun d hd => hd, fun d hd => hd⟩

theorem isPre_nonV (d : Dep) (hd : DepOk d) (hp : d.isPre = true) : d.t.isV = false := by
  cases hdt : d.t with
  | v x =>
    unfold DepOk at hd
    simp only [hdt] at hd
    simp [Dep.isPre, hd.1] at hp
  | _ => rfl

theorem depNextPro_noV (l : List Dep) (q : Tok) (h : depNextPro l = some q) : q.isV = false := by
  unfold depNextPro at h
  split at h
  · split at h
    · split at h
      · cases h; rfl
      · cases h
    · cases h
  · cases h

/-- **the pieces `depReal` puts together**: verb-free tokens of the `pre` dependents, the conjugated root verb, clean
    tokens of the others -/
theorem depReal_parts (refl : Bool) (v : VT) (deps : List Dep) (toks : List Tok) (hd : DI deps)
    (h : depReal refl v deps = .ok toks) :
    ∃ rv preT postT, conjugate v refl (depNextPro (deps.filter Dep.isPre ++ deps.filter (fun d => !d.isPre))) = .ok rv ∧
      (∀ t ∈ preT, t.isV = false) ∧ CleanToks postT ∧
      (if rootIsVToks rv.1 then placePronouns refl (removeEmpty (preT ++ rv.1 ++ postT)) = .ok toks
       else toks = removeEmpty (preT ++ rv.1 ++ postT)) := by
  unfold depReal at h
  obtain ⟨rv, hrv, h⟩ := bindE_ok _ _ _ h
  obtain ⟨preToks, hpre, h⟩ := bindE_ok _ _ _ h
  obtain ⟨postToks, hpost, h⟩ := bindE_ok _ _ _ h
  obtain ⟨m1, m2⟩ := depConsumed_mem rv.2 (deps.filter Dep.isPre) (deps.filter (fun d => !d.isPre))
  refine ⟨rv, preToks.flatten, postToks.flatten, hrv, ?_, ?_, ?_⟩
  · refine mapM_flatten _ (fun ts => ∀ t ∈ ts, t.isV = false) (fun _ ht => nomatch ht) ?_ _ _ ?_ hpre
    · exact fun a b ha hb => List.forall_mem_append.mpr ⟨ha, hb⟩
    · intro d hd' ts hts
      have hdm := List.mem_filter.mp (m1 d hd')
      exact depToks_noV refl d ts (isPre_nonV d (hd d hdm.1) hdm.2) hts
  · refine mapM_flatten _ CleanToks (cleanToks_of_noV [] (fun _ ht => nomatch ht)) cleanToks_append _ _ ?_ hpost
    intro d hd' ts hts
    exact depToks_clean _ d ts (hd d (List.mem_filter.mp (m2 d hd')).1) hts
  · by_cases hroot : rootIsVToks rv.1 = true
    · rw [if_pos hroot] at h ⊢; exact h
    · rw [if_neg hroot] at h ⊢; cases h; rfl

/-- **one finite verb, dependency notation**: among the verb tokens of the realized clause only the first can be a
    finite form -/
theorem depReal_one_finite (refl : Bool) (v : VT) (deps : List Dep) (toks : List Tok) (hd : DI deps)
    (h : depReal refl v deps = .ok toks) : ∀ t ∈ (vts toks).tail, NonFin t := by
  obtain ⟨rv, preT, postT, hrv, hpre, hpost, hfin⟩ := depReal_parts refl v deps toks hd h
  have h1 := parts_one_finite v refl _ rv preT postT hrv (fun q hq => depNextPro_noV _ q hq) hpre hpost
  have h2 := tail_sublist_nonfin _ _ (vts_sublist _ _ (removeEmpty_sublist _)) h1
  by_cases hroot : rootIsVToks rv.1 = true
  · rw [if_pos hroot] at hfin; rw [vts_place refl _ toks hfin]; exact h2
  · rw [if_neg hroot] at hfin; rw [hfin]; exact h2

end Pyrealb.ClauseFr
