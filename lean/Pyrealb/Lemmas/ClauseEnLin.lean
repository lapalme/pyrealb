import Pyrealb.Lemmas.ClauseEnDep
/-! What can be read off the declarative linearisations.  All three are of one shape, question word ++ subject and verb
    group ++ remaining complements (`linG`, `linDepDummy_eq`); `Body.lin` reads words, arguments and prepositional
    complements off that shape. -/
namespace Pyrealb.ClauseEn

/-- the verb-group words of a token list -/
def wordsOf (l : List Tok) : List Tok := l.filter Tok.isWord

/-- the arguments (noun phrases and pronouns) of a token list, in order -/
def argsOf : List Tok → List ArgTok
  | [] => []
  | .arg a :: r => a :: argsOf r
  | _ :: r => argsOf r

/-- the prepositional complements (preposition, argument) of a token list, in order -/
def ppsOf : List Tok → List (Str × ArgTok)
  | .prep p :: .arg a :: r => (p, a) :: ppsOf r
  | _ :: r => ppsOf r
  | [] => []

theorem wordsOf_append (l1 l2 : List Tok) : wordsOf (l1 ++ l2) = wordsOf l1 ++ wordsOf l2 := List.filter_append ..

theorem argsOf_append (l1 l2 : List Tok) : argsOf (l1 ++ l2) = argsOf l1 ++ argsOf l2 := by
  induction l1 with
  | nil => rfl
  | cons t r ih => cases t <;> simp [argsOf, ih]

@[simp] theorem wordsOf_arg (a : ArgTok) (l : List Tok) : wordsOf (.arg a :: l) = wordsOf l := rfl
@[simp] theorem wordsOf_q (x : Str) (l : List Tok) : wordsOf (.q x :: l) = wordsOf l := rfl
@[simp] theorem wordsOf_nil : wordsOf [] = [] := rfl
@[simp] theorem argsOf_q (x : Str) (l : List Tok) : argsOf (.q x :: l) = argsOf l := rfl
@[simp] theorem argsOf_arg (a : ArgTok) (l : List Tok) : argsOf (.arg a :: l) = a :: argsOf l := rfl
@[simp] theorem argsOf_nil : argsOf [] = [] := rfl
@[simp] theorem ppsOf_arg (a : ArgTok) (r : List Tok) : ppsOf (.arg a :: r) = ppsOf r := rfl
@[simp] theorem ppsOf_q (x : Str) (r : List Tok) : ppsOf (.q x :: r) = ppsOf r := rfl

/-- a piece made of verb-group words and arguments only -/
structure Body (as : List ArgTok) (ws B : List Tok) : Prop where
  words : wordsOf B = ws
  args : argsOf B = as
  pps : ∀ c, ppsOf (B ++ c) = ppsOf c

theorem Body.nil : Body [] [] [] := ⟨rfl, rfl, fun _ => rfl⟩

theorem Body.append {as1 as2 ws1 ws2 B1 B2} (h1 : Body as1 ws1 B1) (h2 : Body as2 ws2 B2) :
    Body (as1 ++ as2) (ws1 ++ ws2) (B1 ++ B2) :=
  ⟨by rw [wordsOf_append, h1.words, h2.words], by rw [argsOf_append, h1.args, h2.args],
   fun c => by rw [List.append_assoc, h1.pps, h2.pps]⟩

theorem Body.arg (a : ArgTok) : Body [a] [] [.arg a] := ⟨rfl, rfl, fun _ => rfl⟩
theorem Body.q (x : Str) : Body [] [] [.q x] := ⟨rfl, rfl, fun _ => rfl⟩

theorem Body.word (t : Tok) (h : t.isWord = true) : Body [] [t] [t] := by
  cases t <;> first | exact ⟨rfl, rfl, fun _ => rfl⟩ | cases h

theorem Body.of_words (ws : List Tok) (h : ws.all Tok.isWord = true) : Body [] ws ws := by
  induction ws with
  | nil => exact Body.nil
  | cons t r ih =>
    simp only [List.all_cons, Bool.and_eq_true] at h
    exact (Body.word t h.1).append (ih h.2)

theorem Body.of_take_drop {ws : List Tok} (h : ws.all Tok.isWord = true) (k : Nat) (a : ArgTok) :
    Body [a] ws (ws.take k ++ [.arg a] ++ ws.drop k) := by
  rw [List.all_eq_true] at h
  have h1 := Body.of_words (ws.take k) (List.all_eq_true.mpr fun x hx => h x (List.mem_of_mem_take hx))
  have h2 := Body.of_words (ws.drop k) (List.all_eq_true.mpr fun x hx => h x (List.mem_of_mem_drop hx))
  have := (h1.append (Body.arg a)).append h2
  simpa using this

theorem front_split (sj : ArgTok) (ws compl : List Tok) : front sj ws compl = front sj ws [] ++ compl := by
  unfold front; split <;> simp

theorem frontD_split (sj : ArgTok) (ws compl : List Tok) : frontD sj ws compl = frontD sj ws [] ++ compl := by
  unfold frontD; split
  · simp
  · split <;> simp

theorem Body.of_front (sj : ArgTok) {ws : List Tok} (h : ws.all Tok.isWord = true) : Body [sj] ws (front sj ws []) := by
  unfold front
  split
  · simpa using Body.of_take_drop h 1 sj
  · simpa using (Body.arg sj).append (Body.of_words ws h)

theorem Body.of_frontD (sj : ArgTok) {ws : List Tok} (h : ws.all Tok.isWord = true) : Body [sj] ws (frontD sj ws []) := by
  unfold frontD
  split
  · simpa using Body.of_take_drop h 1 sj
  · split
    · simpa using (Body.of_words ws h).append (Body.arg sj)
    · simpa using (Body.arg sj).append (Body.of_words ws h)

@[simp] theorem wordsOf_objToks (o : Option ArgTok) : wordsOf (objToks o) = [] := by cases o <;> rfl
@[simp] theorem wordsOf_ppToks (pl : List (Str × ArgTok)) : wordsOf (ppToks pl) = [] := by
  induction pl with
  | nil => rfl
  | cons a r ih => simpa [ppToks, wordsOf, Tok.isWord] using ih
@[simp] theorem argsOf_objToks (o : Option ArgTok) : argsOf (objToks o) = o.toList := by cases o <;> rfl
@[simp] theorem argsOf_ppToks (pl : List (Str × ArgTok)) : argsOf (ppToks pl) = pl.map (·.2) := by
  induction pl with
  | nil => rfl
  | cons a r ih => simp [ppToks, argsOf, ih]
@[simp] theorem ppsOf_objToks (o : Option ArgTok) (r : List Tok) : ppsOf (objToks o ++ r) = ppsOf r := by
  cases o <;> rfl
@[simp] theorem ppsOf_ppToks (pl : List (Str × ArgTok)) : ppsOf (ppToks pl) = pl := by
  induction pl with
  | nil => rfl
  | cons a r ih => obtain ⟨p, x⟩ := a; simp [ppToks, ppsOf, ih]

theorem Body.lin {as : List ArgTok} {ws qs B : List Tok} (hq : Body [] [] qs) (hb : Body as ws B) (o : Option ArgTok)
    (pl : List (Str × ArgTok)) :
    wordsOf (qs ++ B ++ (objToks o ++ ppToks pl)) = ws ∧
    argsOf (qs ++ B ++ (objToks o ++ ppToks pl)) = as ++ (o.toList ++ pl.map (·.2)) ∧
    ppsOf (qs ++ B ++ (objToks o ++ ppToks pl)) = pl := by
  refine ⟨?_, ?_, ?_⟩
  · simp [wordsOf_append, hq.words, hb.words]
  · simp [argsOf_append, hq.args, hb.args]
  · rw [List.append_assoc, hq.pps, hb.pps, ppsOf_objToks, ppsOf_ppToks]

def qToks (hum : Bool) (qpp : Int → List (Str × ArgTok) → Str × List (Str × ArgTok)) (obj : Option ArgTok)
    (pl : List (Str × ArgTok)) : Option Int → List Tok
  | none | some .yon => []
  | some .wod => [.q (if hum && objHuman obj then s "whom" else intPrefix .wod)]
  | some i => [.q (if i.isPPq then (qpp i pl).1 else intPrefix i)]

def bodyToks (fr : ArgTok → List Tok → List Tok → List Tok) (sj : ArgTok) (ws : List Tok) : Option Int → List Tok
  | none | some .tag => [.arg sj] ++ ws
  | some .wos | some .was => ws
  | some _ => fr sj ws []

def subjAfter (sj : ArgTok) : Option Int → List ArgTok
  | some .wos | some .was => []
  | _ => [sj]

def objAfter (obj : Option ArgTok) : Option Int → Option ArgTok
  | some .wod | some .wad => none
  | _ => obj

/-- the prepositional complements left by an interrogative -/
def ppsAfter (qpp : Int → List (Str × ArgTok) → Str × List (Str × ArgTok)) (i : Option Int) (pl : List (Str × ArgTok)) :
    List (Str × ArgTok) :=
  match i with
  | some i => if i.isPPq then (qpp i pl).2 else pl
  | none => pl

/-- `fr`: the inversion of the notation, `qpp`: its prepositional question, `hum`: `whom` for a human object -/
def linG (hum : Bool) (qpp : Int → List (Str × ArgTok) → Str × List (Str × ArgTok))
    (fr : ArgTok → List Tok → List Tok → List Tok) (sj : ArgTok) (obj : Option ArgTok) (pl : List (Str × ArgTok))
    (i : Option Int) (ws : List Tok) : List Tok :=
  qToks hum qpp obj pl i ++ bodyToks fr sj ws i ++ (objToks (objAfter obj i) ++ ppToks (ppsAfter qpp i pl))

theorem linPh_eq (m : Mid) (i : Option Int) (ws : List Tok) :
    linPh m i ws = linG Gen.ClauseEn.phraseHumanObjectGetsIntValue questionPPPh front m.subj m.obj m.pl i ws := by
  cases i with
  | none => rfl
  | some i => cases i <;> first | rfl | (simp only [linPh]; rw [front_split]; rfl)

theorem linDepPlain_eq (sj : ArgTok) (obj : Option ArgTok) (ql : List (Str × ArgTok)) (i : Option Int) (ws : List Tok) :
    linDepPlain sj obj ql i ws
      = some (linG Gen.ClauseEn.depHumanObjectGetsIntValue questionPPDep frontD sj obj ql i ws) := by
  cases i with
  | none => rfl
  | some i => cases i <;> first | rfl | (simp only [linDepPlain]; rw [frontD_split]; rfl)

theorem Body.of_qToks (hum : Bool) (qpp : Int → List (Str × ArgTok) → Str × List (Str × ArgTok)) (obj : Option ArgTok)
    (pl : List (Str × ArgTok)) (i : Option Int) : Body [] [] (qToks hum qpp obj pl i) := by
  cases i with
  | none => exact Body.nil
  | some i => cases i <;> first | exact Body.nil | exact Body.q _

def Inverts (fr : ArgTok → List Tok → List Tok → List Tok) : Prop :=
  ∀ sj {ws}, ws.all Tok.isWord = true → Body [sj] ws (fr sj ws [])

theorem Body.of_bodyToks {fr : ArgTok → List Tok → List Tok → List Tok} (hfr : Inverts fr) (sj : ArgTok) {ws : List Tok}
    (hw : ws.all Tok.isWord = true) (i : Option Int) : Body (subjAfter sj i) ws (bodyToks fr sj ws i) := by
  have h0 : Body [sj] ws ([.arg sj] ++ ws) := (Body.arg sj).append (Body.of_words ws hw)
  cases i with
  | none => exact h0
  | some i => cases i <;> first | exact hfr sj hw | exact Body.of_words ws hw | exact h0

theorem linG_parts {fr : ArgTok → List Tok → List Tok → List Tok} (hfr : Inverts fr) (hum : Bool)
    (qpp : Int → List (Str × ArgTok) → Str × List (Str × ArgTok)) (sj : ArgTok) (obj : Option ArgTok)
    (pl : List (Str × ArgTok)) (i : Option Int) {ws : List Tok} (hw : ws.all Tok.isWord = true) :
    wordsOf (linG hum qpp fr sj obj pl i ws) = ws ∧
    argsOf (linG hum qpp fr sj obj pl i ws)
      = subjAfter sj i ++ ((objAfter obj i).toList ++ (ppsAfter qpp i pl).map (·.2)) ∧
    ppsOf (linG hum qpp fr sj obj pl i ws) = ppsAfter qpp i pl :=
  (Body.of_qToks ..).lin (Body.of_bodyToks hfr sj hw i) _ _

theorem mem_of_mem_argsOf {a : ArgTok} {l : List Tok} (h : a ∈ argsOf l) : Tok.arg a ∈ l := by
  induction l with
  | nil => cases h
  | cons t r ih =>
    cases t <;> simp only [argsOf, List.mem_cons] at h ⊢
    case arg b => rcases h with rfl | h; exact Or.inl rfl; exact Or.inr (ih h)
    all_goals exact Or.inr (ih h)

/-- outside the prepositional questions the prepositional complements come last, untouched, and the subject before
    them -/
theorem linG_pps_last {fr : ArgTok → List Tok → List Tok → List Tok} (hfr : Inverts fr) (hum : Bool)
    (qpp : Int → List (Str × ArgTok) → Str × List (Str × ArgTok)) (sj : ArgTok) (obj : Option ArgTok)
    (pl : List (Str × ArgTok)) (i : Option Int) {ws : List Tok} (hw : ws.all Tok.isWord = true)
    (hi : ∀ j, i = some j → j.isPPq = false) :
    ∃ X, linG hum qpp fr sj obj pl i ws = X ++ ppToks pl ∧ (i ≠ some .wos → i ≠ some .was → Tok.arg sj ∈ X) := by
  have hp : ppsAfter qpp i pl = pl := by
    cases i with
    | none => rfl
    | some j => simp [ppsAfter, hi j rfl]
  refine ⟨qToks hum qpp obj pl i ++ bodyToks fr sj ws i ++ objToks (objAfter obj i), by simp [linG, hp], fun h1 h2 => ?_⟩
  have hs : sj ∈ subjAfter sj i := by
    unfold subjAfter
    split
    · exact absurd rfl h1
    · exact absurd rfl h2
    · exact List.mem_singleton.mpr rfl
  rw [← (Body.of_bodyToks hfr sj hw i).args] at hs
  exact List.mem_append_left _ (List.mem_append_right _ (mem_of_mem_argsOf hs))

theorem linDepDummy_eq (pps bl : List (Str × ArgTok)) (i : Option Int) (ws : List Tok) :
    linDepDummy pps bl i ws = some (qToks false questionPPDep none (pps ++ bl) i ++ ([.arg .it] ++ ws)
      ++ (objToks none ++ ppToks (ppsAfter questionPPDep i (pps ++ bl)))) := by
  cases i with
  | none => simp [linDepDummy, qToks, ppsAfter, ppToks_append, objToks]
  | some i => cases i <;> simp [linDepDummy, qToks, ppsAfter, ppToks_append, objToks, Int.isPPq]

theorem linDepDummy_parts (pps bl : List (Str × ArgTok)) (i : Option Int)
    {ws L : List Tok} (hw : ws.all Tok.isWord = true) (hL : linDepDummy pps bl i ws = some L) :
    wordsOf L = ws ∧ argsOf L = .it :: (ppsAfter questionPPDep i (pps ++ bl)).map (·.2) ∧
    ppsOf L = ppsAfter questionPPDep i (pps ++ bl) := by
  rw [linDepDummy_eq] at hL
  injection hL with hL
  subst hL
  exact (Body.of_qToks ..).lin ((Body.arg .it).append (Body.of_words ws hw)) none _

/-- the prepositional dependents of the dependency clause, in the order of the dependency notation (by-phrase last) -/
def depPPs (sp : Spec) (pas : Bool) : List (Str × ArgTok) :=
  if pas then ppArgs sp ++ [byArg sp] else ppArgs sp

/-- subject and object are those of the constituent notation; only the place of the by-phrase differs -/
theorem linDep_plain (sp : Spec) (ty : Typ) (ws : List Tok) (h : ¬ (ty.pas = true ∧ sp.obj = none)) :
    linDep sp ty ws = some (linG Gen.ClauseEn.depHumanObjectGetsIntValue questionPPDep frontD (midPh sp ty.pas).subj
      (midPh sp ty.pas).obj (depPPs sp ty.pas) ty.int ws) := by
  unfold linDep midPh depPPs
  cases hp : ty.pas
  · exact linDepPlain_eq ..
  · cases ho : sp.obj with
    | none => exact absurd ⟨hp, ho⟩ h
    | some o => cases o <;> exact linDepPlain_eq ..

theorem linDep_dummy (sp : Spec) (ty : Typ) (ws : List Tok) (hp : ty.pas = true) (ho : sp.obj = none) :
    linDep sp ty ws = linDepDummy (ppArgs sp) [byArg sp] ty.int ws := by
  unfold linDep; rw [hp, ho]; rfl

theorem wordsOf_linDep (sp : Spec) (ty : Typ) {ws L : List Tok} (hw : ws.all Tok.isWord = true)
    (hL : linDep sp ty ws = some L) : wordsOf L = ws := by
  by_cases h : ty.pas = true ∧ sp.obj = none
  · rw [linDep_dummy sp ty ws h.1 h.2] at hL
    exact (linDepDummy_parts _ _ _ hw hL).1
  · rw [linDep_plain sp ty ws h] at hL
    injection hL with hL
    subst hL
    exact (linG_parts Body.of_frontD _ _ _ _ _ _ hw).1

/-- interrogatives that invert subject and first auxiliary -/
def Int.fronting : Int → Bool
  | .wos | .was | .tag => false
  | _ => true

theorem questioned_eq (ty : Typ) (i : Int) (h : ty.int = some i) : ty.questioned = i.fronting := by
  unfold Typ.questioned; rw [h]; cases i <;> rfl

/-- question word (none for yes/no), first word of the verb group, subject, the other words, the complements -/
def Fronted (i : Int) (ws : List Tok) (sj : ArgTok) (main : List Tok) : Prop :=
  ∃ pre rest, main = pre ++ (ws.take 1 ++ [.arg sj] ++ ws.drop 1 ++ rest) ∧
    ((i = .yon ∧ pre = []) ∨ (i ≠ .yon ∧ ∃ x, pre = [.q x]))

theorem linG_fronted {fr : ArgTok → List Tok → List Tok → List Tok} (hum : Bool)
    (qpp : Int → List (Str × ArgTok) → Str × List (Str × ArgTok)) (sj : ArgTok) (obj : Option ArgTok)
    (pl : List (Str × ArgTok)) (i : Int) (ws : List Tok) (hi : i.fronting = true)
    (hfr : ∀ c, fr sj ws c = ws.take 1 ++ [.arg sj] ++ ws.drop 1 ++ c) :
    Fronted i ws sj (linG hum qpp fr sj obj pl (some i) ws) := by
  refine ⟨qToks hum qpp obj pl (some i), objToks (objAfter obj (some i)) ++ ppToks (ppsAfter qpp (some i) pl), ?_, ?_⟩
  · have hb : bodyToks fr sj ws (some i) = ws.take 1 ++ [.arg sj] ++ ws.drop 1 := by
      rw [← List.append_nil (_ ++ ws.drop 1), ← hfr]
      cases i <;> first | rfl | cases hi
    unfold linG
    rw [hb, List.append_assoc]
  · cases i <;> first | exact Or.inl ⟨rfl, rfl⟩ | exact Or.inr ⟨by decide, _, rfl⟩ | cases hi

theorem Fronted_map (a : Agr) (i : Int) (ws : List Tok) (sj : ArgTok) (L : List Tok) (h : Fronted i ws sj L) :
    Fronted i (ws.map (Tok.resolve a)) sj (L.map (Tok.resolve a)) := by
  obtain ⟨pre, rest, hL, hp⟩ := h
  refine ⟨pre.map (Tok.resolve a), rest.map (Tok.resolve a), ?_, ?_⟩
  · subst hL; simp [List.map_append, List.map_take, Tok.resolve]
  · rcases hp with ⟨h1, h2⟩ | ⟨h1, x, h2⟩
    · left; subst h2; exact ⟨h1, rfl⟩
    · right; subst h2; exact ⟨h1, x, rfl⟩

theorem Fronted_yon_head (ws : List Tok) (sj : ArgTok) (main : List Tok) (h : Fronted .yon ws sj main) (hne : ws ≠ []) :
    main.head? = ws.head? := by
  obtain ⟨pre, rest, hm, hp⟩ := h
  rcases hp with ⟨_, rfl⟩ | ⟨hne', _⟩
  · subst hm
    cases ws with
    | nil => exact absurd rfl hne
    | cons w r => simp
  · exact absurd rfl hne'

theorem front_eq (sj : ArgTok) (ws compl : List Tok) (hv : hasV ws = true) :
    front sj ws compl = ws.take 1 ++ [.arg sj] ++ ws.drop 1 ++ compl := by
  simp [front, hv]

theorem frontD_eq (sj : ArgTok) (ws compl : List Tok) (hc : 2 ≤ ws.length ∨ headAlone ws = true) :
    frontD sj ws compl = ws.take 1 ++ [.arg sj] ++ ws.drop 1 ++ compl := by
  unfold frontD
  by_cases h2 : 2 ≤ ws.length
  · simp [h2]
  · have ha : headAlone ws = true := by rcases hc with h | h; exact absurd h h2; exact h
    simp only [h2, if_false, ha, if_true]
    match ws, h2, ha with
    | [], _, ha => simp [headAlone] at ha
    | [w], _, _ => simp
    | _ :: _ :: _, h2, _ => simp at h2

theorem isWord_resolve (a : Agr) (t : Tok) : (Tok.resolve a t).isWord = t.isWord := by
  cases t with
  | verb l f rf => cases rf <;> rfl
  | _ => rfl

theorem wordsOf_map_resolve (a : Agr) (l : List Tok) : wordsOf (l.map (Tok.resolve a)) = (wordsOf l).map (Tok.resolve a) := by
  unfold wordsOf
  rw [List.filter_map]
  congr 1
  apply List.filter_congr
  intro x _
  exact isWord_resolve a x

theorem argsOf_map_resolve (a : Agr) (l : List Tok) : argsOf (l.map (Tok.resolve a)) = argsOf l := by
  induction l with
  | nil => rfl
  | cons t r ih =>
    cases t with
    | verb l f rf => cases rf <;> simp [argsOf, Tok.resolve, ih]
    | _ => simp [argsOf, Tok.resolve, ih]

theorem ppsOf_map_resolve (a : Agr) (l : List Tok) : ppsOf (l.map (Tok.resolve a)) = ppsOf l := by
  induction l using ppsOf.induct with
  | case1 p x r ih => simp [ppsOf, Tok.resolve, ih]
  | case2 t r hne ih =>
    have : ppsOf (t :: r) = ppsOf r := by
      cases t with
      | prep p =>
        cases r with
        | nil => rfl
        | cons t2 r2 => cases t2 <;> first | rfl | exact (hne _ _ _ rfl rfl).elim
      | _ => rfl
    rw [this, List.map_cons, ← ih]
    cases t with
    | prep p =>
      cases r with
      | nil => rfl
      | cons t2 r2 =>
        cases t2 with
        | arg x => exact (hne _ _ _ rfl rfl).elim
        | verb l f rf => cases rf <;> rfl
        | _ => rfl
    | verb l f rf => cases rf <;> rfl
    | _ => rfl
  | case3 => rfl

end Pyrealb.ClauseEn
