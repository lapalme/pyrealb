import Pyrealb.Lemmas.ElisionStep
/-! The French pass, by recursion over the token list as `goFr` itself: on well-formed tokens it does not raise
    (`goFr_total`), a settled list is a fixed point (`goFr_fix`), and under the backward clauses and the `Tame`
    side conditions of the input it leaves every adjacent pair settled (`goFr_settles`).  `pl` is the `lier` flag of the
    token on the left, which waives the clauses of the next pair. -/
namespace Pyrealb.Elision
open Pyrealb Pyrealb.Gen.Elision

theorem wf_cons (t : Tok) (l : List Tok) (h : tokWF t = true) (hl : TokWF l) : TokWF (t :: l) :=
  List.forall_mem_cons.mpr ⟨h, hl⟩

theorem lastFresh_cons_cons (a b : Tok) (l : List Tok) : LastFresh (a :: b :: l) ↔ LastFresh (b :: l) := by
  unfold LastFresh; rw [List.getLast?_cons_cons]

theorem bwdFrom_tail (pl : Bool) (t : Tok) (r : List Tok) (h : bwdFromFr pl (t :: r) = true) :
    bwdFromFr t.lier r = true := by
  cases r with
  | nil => rfl
  | cons x r' => exact (Bool.and_eq_true _ _ ▸ h).2

theorem tameFrom_tail (pl : Bool) (t : Tok) (r : List Tok) (h : tameFromFr pl (t :: r) = true) :
    tameFromFr t.lier r = true := by
  cases r with
  | nil => rfl
  | cons x r' => exact (Bool.and_eq_true _ _ ▸ h).2

theorem settledFrom_tail (pl : Bool) (t : Tok) (r : List Tok) (h : settledFrom .fr pl (t :: r) = true) :
    settledFrom .fr t.lier r = true := by
  cases r with
  | nil => rfl
  | cons x r' => exact (Bool.and_eq_true _ _ ▸ h).2

/-- the output of the pass starts with a rewriting of the first token of its input -/
def HeadOK : List Tok → List Tok → Prop
  | [], [] => True
  | t :: r, h :: _ => Rew t r.head? h
  | _, _ => False

theorem HeadOK.cons {t : Tok} {r out : List Tok} (h : HeadOK (t :: r) out) :
    ∃ h' l, out = h' :: l ∧ Rew t r.head? h' := by
  cases out with
  | nil => exact h.elim
  | cons h' l => exact ⟨h', l, rfl, h⟩

theorem goFr_settles : ∀ (toks : List Tok) (pl : Bool), TokWF toks → bwdFromFr pl toks = true →
    tameFromFr pl toks = true →
    ∃ out, goFr pl toks = .ok out ∧ settledFrom .fr pl out = true ∧ HeadOK toks out ∧
      (LastFresh toks → LastFresh out)
  | [], _, _, _, _ => ⟨[], rfl, rfl, trivial, id⟩
  | [t], _, _, _, _ => ⟨[t], rfl, rfl, Or.inl rfl, id⟩
  | t1 :: t2 :: rest, pl, hwf, hbwd, htame => by
    obtain ⟨w1, hwf1⟩ := List.forall_mem_cons.mp hwf
    obtain ⟨w2, hwf2⟩ := List.forall_mem_cons.mp hwf1
    have w3 : ∀ t, rest.head? = some t → tokWF t = true := fun t ht => hwf2 t (List.mem_of_head? ht)
    have bTail := bwdFrom_tail pl t1 (t2 :: rest) hbwd
    have tTail := tameFrom_tail pl t1 (t2 :: rest) htame
    -- the pass on the tail: its output starts with a rewriting `h2` of `t2`
    obtain ⟨l, hgo1, hset1, hhead1, hlast1⟩ := goFr_settles (t2 :: rest) t1.lier hwf1 bTail tTail
    obtain ⟨h2, l', rfl, hrew2⟩ := hhead1.cons
    -- a rewriting `a` of `t1` in front of it
    have onTail : ∀ a, Rew t1 (some t2) a → (pl = true ∨ pairOKFr a h2 = true) →
        settledFrom .fr pl (a :: h2 :: l') = true ∧ HeadOK (t1 :: t2 :: rest) (a :: h2 :: l') ∧
          (LastFresh (t1 :: t2 :: rest) → LastFresh (a :: h2 :: l')) := by
      intro a ha hp
      refine ⟨?_, ha, fun hl => (lastFresh_cons_cons ..).mpr (hlast1 ((lastFresh_cons_cons ..).mp hl))⟩
      rw [settledFrom, ha.fields.2.2.1, hset1, Bool.and_true]
      rcases hp with hp | hp
      · rw [hp]; rfl
      · rw [pairOK, hp, Bool.or_true]
    cases pl with
    | true => exact ⟨t1 :: h2 :: l', by simp only [goFr, if_true, hgo1], onTail t1 (Or.inl rfl) (Or.inl rfl)⟩
    | false =>
      simp only [bwdFromFr, tameFromFr, Bool.false_or, Bool.and_eq_true] at hbwd htame
      obtain ⟨act, hst, hok⟩ := stepFr_sound t1 t2 rest.head? w1 w2 w3 hbwd.1 htame.1
      cases act with
      | keep => exact ⟨t1 :: h2 :: l', by simp [goFr, hst, hgo1], onTail t1 (Or.inl rfl) (Or.inr (hok h2 hrew2))⟩
      | one a => exact ⟨a :: h2 :: l', by simp [goFr, hst, hgo1], onTail a hok.1 (Or.inr (hok.2 h2 hrew2))⟩
      | two a b =>
        -- `i += 2`: the loop goes on after `b`
        obtain ⟨hrewA, hbl, hokab, hnext, hfresh⟩ := hok
        obtain ⟨l3, hgo3, hset3, hhead3, hlast3⟩ := goFr_settles rest t2.lier hwf2
          (bwdFrom_tail t1.lier t2 rest bTail) (tameFrom_tail t1.lier t2 rest tTail)
        refine ⟨a :: b :: l3, by simp [goFr, hst, hgo3], ?_, hrewA, ?_⟩
        · rw [settledFrom, pairOK, hokab, Bool.or_true, Bool.true_and]
          cases rest with
          | nil => cases hgo3; rfl
          | cons t3 r3 =>
            obtain ⟨h3, l3', rfl, hrew3⟩ := hhead3.cons
            rw [settledFrom, pairOK, hnext t3 h3 _ rfl hrew3, Bool.or_true, Bool.true_and, hbl]
            exact hset3
        · cases rest with
          | nil =>
            cases hgo3
            intro _ t ht
            cases ht
            exact hfresh rfl
          | cons t3 r3 =>
            obtain ⟨h3, l3', rfl, _⟩ := hhead3.cons
            intro hl
            rw [lastFresh_cons_cons, lastFresh_cons_cons] at hl ⊢
            exact hlast3 hl

theorem goFr_fix : ∀ (toks : List Tok) (pl : Bool), TokWF toks → settledFrom .fr pl toks = true →
    goFr pl toks = .ok toks
  | [], _, _, _ => rfl
  | [t], _, _, _ => rfl
  | t1 :: t2 :: rest, pl, hwf, hs => by
    obtain ⟨w1, hwf1⟩ := List.forall_mem_cons.mp hwf
    have g1 := goFr_fix (t2 :: rest) t1.lier hwf1 (settledFrom_tail pl t1 (t2 :: rest) hs)
    cases pl with
    | true => simp only [goFr, if_true, g1]
    | false =>
      simp only [settledFrom, pairOK, Bool.and_eq_true, Bool.or_eq_true, Bool.and_false, Bool.false_eq_true,
        false_or] at hs
      have h := stepFr_fix t1 t2 rest.head? w1 (hwf1 t2 List.mem_cons_self) hs.1
      simp [goFr, h, g1]

/-- the pass never raises on well-formed tokens (since /repo commit 5847d2f) and keeps them well-formed -/
theorem goFr_total : ∀ (toks : List Tok) (pl : Bool), TokWF toks → ∃ out, goFr pl toks = .ok out ∧ TokWF out
  | [], _, hwf => ⟨[], rfl, hwf⟩
  | [t], _, hwf => ⟨[t], rfl, hwf⟩
  | t1 :: t2 :: rest, pl, hwf => by
    obtain ⟨w1, hwf1⟩ := List.forall_mem_cons.mp hwf
    obtain ⟨w2, hwf2⟩ := List.forall_mem_cons.mp hwf1
    obtain ⟨l, hgo1, hf1⟩ := goFr_total (t2 :: rest) t1.lier hwf1
    obtain ⟨l3, hgo3, hf3⟩ := goFr_total rest t2.lier hwf2
    cases pl with
    | true => exact ⟨t1 :: l, by simp only [goFr, if_true, hgo1], wf_cons _ _ w1 hf1⟩
    | false =>
      obtain ⟨act, h, ha⟩ := stepFr_total t1 t2 rest.head? w1 w2 fun t ht => hwf2 t (List.mem_of_head? ht)
      cases act with
      | keep => exact ⟨t1 :: l, by simp [goFr, h, hgo1], wf_cons _ _ w1 hf1⟩
      | one a => exact ⟨a :: l, by simp [goFr, h, hgo1], wf_cons _ _ ha hf1⟩
      | two a b => exact ⟨a :: b :: l3, by simp [goFr, h, hgo3], wf_cons _ _ ha.1 (wf_cons _ _ ha.2 hf3)⟩

end Pyrealb.Elision
