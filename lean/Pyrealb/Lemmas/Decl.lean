import Pyrealb.Model.DeclWF
/-! Lemmas for the totality clauses of C02, proved along the shape of the model functions.

`Returns W Q r` says what a step in `Except Crash` returns (`Q`) and when it does return (`W`); `Ok Q r` / `Total r` is
the case without a condition. Two frames say what a step leaves alone: `Same` (the constructor) and `Kept` (the option
calls, and `decline` short of a majestic substitution). With them: the constructor keeps the normalized lemma, sets up
"a stored table id names a table of the rules and a stem was computed" (`TabInv`) and never raises on well-formed rules;
option calls in the value domain and realization never raise. -/
namespace Pyrealb.Decl

theorem ite_both {α} {P : α → Prop} {c : Prop} [Decidable c] {x y : α} (hx : P x) (hy : P y) :
    P (if c then x else y) := by
  split <;> assumption

theorem ite_ind {α} {P : α → Prop} {c : Prop} [Decidable c] {x y : α} (hx : c → P x) (hy : ¬ c → P y) :
    P (if c then x else y) := by
  split
  · exact hx ‹_›
  · exact hy ‹_›

theorem bind_eq_ok {α β} {x : Except Crash α} {f : α → Except Crash β} {b : β} (h : x >>= f = .ok b) :
    ∃ a, x = .ok a ∧ f a = .ok b := by
  cases x with
  | error e => cases h
  | ok a => exact ⟨a, rfl, h⟩

def Ok {α} (Q : α → Prop) (r : Except Crash α) : Prop := ∃ a, r = .ok a ∧ Q a

abbrev Total {α} (r : Except Crash α) : Prop := Ok (fun _ => True) r

namespace Ok
variable {α β : Type} {Q : α → Prop}

theorem pure {a : α} (h : Q a) : Ok Q (pure a) := ⟨a, rfl, h⟩

theorem pure_fst {a : α} {b : β} (h : Q a) : Ok (fun p : α × β => Q p.1) (Pure.pure (a, b)) := ⟨_, rfl, h⟩

theorem bind {Q' : β → Prop} {x : Except Crash α} {f : α → Except Crash β}
    (hx : Ok Q x) (hf : ∀ a, Q a → Ok Q' (f a)) : Ok Q' (x >>= f) := by
  obtain ⟨a, rfl, ha⟩ := hx
  exact hf a ha

theorem mono {Q' : α → Prop} {r : Except Crash α} (h : Ok Q r) (hq : ∀ a, Q a → Q' a) : Ok Q' r :=
  h.imp (fun a ha => ⟨ha.1, hq a ha.2⟩)

theorem ne_error {r : Except Crash α} (h : Ok Q r) (c : Crash) : r ≠ .error c := by
  obtain ⟨a, rfl, _⟩ := h
  exact nofun

theorem of_ne_error {r : Except Crash α} (h : ∀ c, r ≠ .error c) : Ok (fun _ => True) r := by
  cases r with
  | error c => exact absurd rfl (h c)
  | ok a => exact ⟨a, rfl, trivial⟩

end Ok

theorem Total.pure {α} {a : α} : Total (Pure.pure a : Except Crash α) := ⟨a, rfl, trivial⟩

def Returns {α} (W : Prop) (Q : α → Prop) (r : Except Crash α) : Prop :=
  (∀ a, r = .ok a → Q a) ∧ (W → ∃ a, r = .ok a)

namespace Returns
variable {α β : Type} {W : Prop} {Q : α → Prop}

theorem pure {a : α} (h : Q a) : Returns W Q (pure a) :=
  ⟨fun _ e => by cases e; exact h, fun _ => ⟨a, rfl⟩⟩

theorem bind {Q' : β → Prop} {x : Except Crash α} {f : α → Except Crash β}
    (hx : Returns W Q x) (hf : ∀ a, Q a → Returns W Q' (f a)) : Returns W Q' (x >>= f) := by
  cases x with
  | error e => exact ⟨fun _ h => (nomatch h), fun w => (hx.2 w).elim (fun _ h => nomatch h)⟩
  | ok a => exact hf a (hx.1 a rfl)

theorem mono {Q' : α → Prop} {r : Except Crash α} (h : Returns W Q r) (hq : ∀ a, Q a → Q' a) : Returns W Q' r :=
  ⟨fun a e => hq a (h.1 a e), h.2⟩

theorem of_total {r : Except Crash α} (h : W → Total r) : Returns W (fun _ => True) r :=
  ⟨fun _ _ => trivial, fun w => (h w).imp fun _ e => e.1⟩

theorem ok {r : Except Crash α} (h : Returns W Q r) (w : W) : Ok Q r := by
  obtain ⟨a, e⟩ := h.2 w
  exact ⟨a, e, h.1 a e⟩

end Returns

/-- what the constructor and the option calls other than `.maje()` leave alone -/
structure Same (t t' : Term) : Prop where
  lemma : t'.lemma = t.lemma
  lang : t'.lang = t.lang
  pos : t'.pos = t.pos
  maje : t'.pMaje = t.pMaje

/-- what an option call other than `.maje()` keeps, and `decline` too short of a majestic substitution -/
structure Kept (t t' : Term) : Prop extends Same t t' where
  tab : t'.tab = t.tab
  stem : t'.stem = t.stem
  real : t'.real = t.real

theorem Same.trans {a b c : Term} (h1 : Same a b) (h2 : Same b c) : Same a c :=
  ⟨h2.lemma.trans h1.lemma, h2.lang.trans h1.lang, h2.pos.trans h1.pos, h2.maje.trans h1.maje⟩

theorem Kept.refl (t : Term) : Kept t t := ⟨⟨rfl, rfl, rfl, rfl⟩, rfl, rfl, rfl⟩
theorem Kept.trans {a b c : Term} (h1 : Kept a b) (h2 : Kept b c) : Kept a c :=
  ⟨h1.toSame.trans h2.toSame, h2.tab.trans h1.tab, h2.stem.trans h1.stem, h2.real.trans h1.real⟩

theorem kept_upd (t : Term) (peng : Option Peng) (g n pe own tn c f : Option FV) (w : Nat) :
    Kept t { t with peng := peng, pG := g, pN := n, pPe := pe, pOwn := own, pTn := tn, pC := c, pF := f, warns := w } :=
  ⟨⟨rfl, rfl, rfl, rfl⟩, rfl, rfl, rfl⟩

@[simp] theorem Term.warn_lemma (t : Term) : t.warn.lemma = t.lemma := rfl

theorem kept_warn (t : Term) : Kept t t.warn := kept_upd ..
theorem kept_setPe (t : Term) (v : FV) (b : Bool) : Kept t (t.setPe v b) := by
  cases b <;> exact kept_upd ..
theorem kept_setN (t : Term) (v : FV) (b : Bool) : Kept t (t.setN v b) := by
  cases b <;> exact kept_upd ..
theorem kept_setG (t : Term) (v : FV) (b : Bool) : Kept t (t.setG v b) := by
  cases b <;> exact kept_upd ..

theorem lookup_mem {α} (k : Str) (l : List (Str × α)) (v : α) (h : lookup k l = some v) : (k, v) ∈ l := by
  induction l with
  | nil => simp [lookup] at h
  | cons p r ih =>
    obtain ⟨k', v'⟩ := p
    unfold lookup at h
    split at h
    · rename_i hk; cases h; subst hk; simp
    · simp [ih h]

theorem wf_lookup {rules : Rules} {tb : Str} {table : Table} (hw : WFRules rules)
    (h : lookup tb rules = some table) : WFTable table :=
  hw (tb, table) (lookup_mem tb rules table h)

theorem wf_rows_ne (table : Table) (h : WFTable table) : table.rows ≠ [] := by
  unfold WFTable at h
  split at h
  · exact h.elim
  · rename_i heq; rw [heq]; simp

theorem allSamePe_total (pe : FV) (rows : List Row) (h : ∀ d ∈ rows, d.get Feat.pe ≠ none) :
    Total (allSamePe pe rows) := by
  induction rows with
  | nil => exact Total.pure
  | cons d r ih =>
    unfold allSamePe
    cases hd : d.get Feat.pe with
    | none => exact absurd hd (h d (by simp))
    | some w => exact ite_both (ih fun d' hd' => h d' (by simp [hd'])) Total.pure

/-- the person of a pronoun is read off a table whose rows all carry `pe` when the first one does -/
theorem personInfer_total (table : Table) (hw : WFTable table) : Total (personInfer table.rows) := by
  unfold WFTable at hw
  cases hr : table.rows with
  | nil => rw [hr] at hw; exact hw.elim
  | cons d0 rest =>
    rw [hr] at hw
    unfold personInfer
    dsimp only
    cases hd : d0.get Feat.pe with
    | none => exact Total.pure
    | some pe =>
      dsimp only
      refine ite_both Total.pure (.bind (allSamePe_total pe rest fun d hdm => ?_) fun _ _ => Total.pure)
      exact hw (by simp [hd]) d (by simp [hdm])

/-- the invariant of `setLemma`: a stored table id names a table of the rules and a stem was computed -/
def TabInv (rules : Rules) (t : Term) : Prop :=
  ∀ tb, t.tab = some tb → (∃ table, lookup tb rules = some table) ∧ ∃ st, t.stem = some st

theorem tabInv_of_eq {rules : Rules} {t t' : Term} (h : TabInv rules t) (h1 : t'.tab = t.tab) (h2 : t'.stem = t.stem) :
    TabInv rules t' := by
  intro tb htb; rw [h1] at htb; rw [h2]; exact h tb htb

theorem tabInv_of_none {rules : Rules} {t : Term} (h : t.tab = none) : TabInv rules t := by
  intro tb htb; rw [h] at htb; cases htb

/-- what reading one key of the lexicon entry does to the terminal -/
def KeyPost (rules : Rules) (t t' : Term) : Prop := Same t t' ∧ (TabInv rules t → TabInv rules t')

theorem KeyPost.of_kept {rules : Rules} {t t' : Term} (h : Kept t t') : KeyPost rules t t' :=
  ⟨h.toSame, fun hi => tabInv_of_eq hi h.tab h.stem⟩

theorem KeyPost.badTable {rules : Rules} {t t1 : Term} (h : Same t t1) : KeyPost rules t (badTable t1) :=
  ⟨h.trans (ite_both (P := Same t1) ⟨rfl, rfl, rfl, rfl⟩ ⟨rfl, rfl, rfl, rfl⟩),
   fun _ => ite_both (P := TabInv rules) (tabInv_of_none rfl) (tabInv_of_none rfl)⟩

theorem KeyPost.trans {rules : Rules} {a b c : Term} (h1 : KeyPost rules a b) (h2 : KeyPost rules b c) :
    KeyPost rules a c :=
  ⟨h1.1.trans h2.1, fun hi => h2.2 (h1.2 hi)⟩

theorem setLemmaKey_returns (rules : Rules) (t : Term) (k : Str) (v : LV) :
    Returns (WFRules rules) (KeyPost rules t) (setLemmaKey rules t k v) := by
  have kept : ∀ {t'}, Kept t t' → Returns (WFRules rules) (KeyPost rules t) (pure t') := fun h => .pure (.of_kept h)
  unfold setLemmaKey
  refine ite_both ?_ (ite_both (kept (kept_setPe ..)) (ite_both (kept (kept_setN ..)) (ite_both (kept (kept_setG ..))
    (ite_both (kept (kept_upd ..)) (ite_both (kept (kept_upd ..)) (ite_both (kept (kept_upd ..))
      (ite_both (kept (kept_upd ..)) (kept (Kept.refl t)))))))))
  cases v with
  | int | other => exact .pure (.badTable (Kept.refl t).toSame)
  | str tb =>
    dsimp only
    cases hdecl : lookup tb rules with
    | none => exact .pure (.badTable (Kept.refl t).toSame)
    | some decl =>
      refine .bind (Q := Kept t) ?_ fun t1 h1 =>
        ite_both (.pure ⟨h1.toSame.trans ⟨rfl, rfl, rfl, rfl⟩, fun _ tb' htb' => ?_⟩) (.pure (.badTable h1.toSame))
      · refine ite_both (.bind (.of_total fun hw => personInfer_total decl (wf_lookup hw hdecl)) fun p _ => .pure ?_)
          (ite_both (.pure (kept_setN ..)) (.pure (Kept.refl t)))
        cases p with
        | none => exact Kept.refl t
        | some pe => exact kept_setPe t pe false
      · cases htb'
        exact ⟨⟨decl, hdecl⟩, _, rfl⟩

theorem setLemmaKeys_returns (rules : Rules) (entry : PosEntry) (t : Term) :
    Returns (WFRules rules) (KeyPost rules t) (setLemmaKeys rules t entry) := by
  induction entry generalizing t with
  | nil => exact .pure (.of_kept (Kept.refl t))
  | cons p r ih =>
    obtain ⟨k, v⟩ := p
    exact .bind (setLemmaKey_returns rules t k v) (fun t1 h1 => (ih t1).mono (fun _ => h1.trans))

/-- a stored table id comes from the lexicon entry of the lemma for the terminal's part of speech -/
def Linked (lex : Lex) (t : Term) : Prop := ∀ tb, t.tab = some tb → ∃ e, lexPos lex t.lemma t.pos.name = some e

theorem setLemma_returns (rules : Rules) (lex : Lex) (t : Term) (lemma : Str) :
    Returns (WFRules rules)
      (fun t' => Same { t with lemma := normLemma lemma } t' ∧ (TabInv rules t → TabInv rules t') ∧ Linked lex t')
      (setLemma rules lex t lemma) := by
  unfold setLemma
  dsimp only
  cases hinfo : lookup (normLemma lemma) lex with
  | none => exact .pure ⟨⟨rfl, rfl, rfl, rfl⟩, fun _ => tabInv_of_none rfl, fun _ h => nomatch h⟩
  | some info =>
    dsimp only
    cases hentry : lookup t.pos.name info with
    | none => exact .pure ⟨⟨rfl, rfl, rfl, rfl⟩, fun _ => tabInv_of_none rfl, fun _ h => nomatch h⟩
    | some entry =>
      refine (setLemmaKeys_returns rules entry _).mono fun t' h =>
        ⟨⟨h.1.lemma, h.1.lang, h.1.pos, h.1.maje⟩, fun hi => h.2 (tabInv_of_eq hi rfl rfl), fun _ _ => ⟨entry, ?_⟩⟩
      unfold lexPos
      rw [h.1.lemma, h.1.pos, hinfo]
      exact hentry

theorem mkTerm_returns (rules : Rules) (lex : Lex) (lang : Lang) (pos : Pos) (lemma : Str) :
    Returns (WFRules rules)
      (fun t => Same { lang := lang, pos := pos, lemma := normLemma lemma } t ∧ TabInv rules t ∧ Linked lex t)
      (mkTerm rules lex lang pos lemma) :=
  (setLemma_returns rules lex _ lemma).mono (fun _ h => ⟨h.1, h.2.1 (tabInv_of_none rfl), h.2.2⟩)

theorem getPe_warn (t : Term) : t.warn.getPe = t.getPe := rfl
theorem getPe_setPe (t : Term) (v : FV) : (t.setPe v).getPe = v := by
  simp [Term.setPe, Term.getPe]
theorem getPe_setN (t : Term) (v : FV) : (t.setN v).getPe = t.getPe := by
  simp only [Term.setN, Term.getPe]
  cases t.pPe <;> cases t.peng <;> rfl
theorem getPe_setG (t : Term) (v : FV) : (t.setG v).getPe = t.getPe := by
  simp only [Term.setG, Term.getPe]
  cases t.pPe <;> cases t.peng <;> rfl

theorem kept_setOptProp (t : Term) (name : Str) (v : FV) : Kept t (setOptProp t name v) := by
  unfold setOptProp
  exact ite_both (kept_setPe ..) (ite_both (kept_setN ..) (ite_both (kept_setG ..)
    (ite_both (kept_upd ..) (ite_both (kept_upd ..) (ite_both (kept_upd ..) (kept_upd ..))))))

theorem getPe_setOptProp (t : Term) (name : Str) (v : FV) :
    (setOptProp t name v).getPe = if name = "pe".toList then v else t.getPe := by
  unfold setOptProp
  refine ite_ind (fun h => by rw [if_pos h]; exact getPe_setPe t v) (fun h => ?_)
  rw [if_neg h]
  have both : ∀ {c : Prop} [Decidable c] {x y : Term}, x.getPe = t.getPe → y.getPe = t.getPe →
      (if c then x else y).getPe = t.getPe :=
    fun hx hy => ite_both (P := fun t' : Term => t'.getPe = t.getPe) hx hy
  exact both (getPe_setN t v) (both (getPe_setG t v) (both rfl (both rfl (both rfl rfl))))

theorem peVal_of_peValB {v : FV} (h : peValB v = true) : PeVal v := by
  cases v with
  | none => exact Or.inl rfl
  | int i => exact Or.inr (Or.inl ⟨i, rfl⟩)
  | bool b => exact Or.inr (Or.inr (Or.inl ⟨b, rfl⟩))
  | str x =>
    simp only [peValB, Bool.decide_and, Bool.and_eq_true, decide_eq_true_eq] at h
    exact Or.inr (Or.inr (Or.inr ⟨x, rfl, h.1, fun hn => by rw [hn] at h; exact absurd h.2 (by decide)⟩))

theorem peVal_of_valid (v : OV) (vals : List OV) (hv : validVals "pe".toList = some vals) (hm : v ∈ vals) :
    PeVal v.toFV := by
  have h : (validVals "pe".toList).all (fun vals => vals.all fun v => peValB v.toFV) = true := by decide
  rw [hv] at h
  exact peVal_of_peValB (List.all_eq_true.mp h v hm)

theorem applyOpt_spec (t : Term) (k : Str) (v : OV) (hk : validVals k ≠ none) (hb : ∀ b, v ≠ OV.bool b)
    (hpe : PeVal t.getPe) : Ok (fun t' => Kept t t' ∧ PeVal t'.getPe) (applyOpt t k v) := by
  have warn : Ok (fun t' => Kept t t' ∧ PeVal t'.getPe) (pure t.warn) := .pure ⟨kept_warn t, hpe⟩
  have set : ∀ x, (k = "pe".toList → PeVal x) →
      Ok (fun t' => Kept t t' ∧ PeVal t'.getPe) (pure (setOptProp t k x)) := fun x hx =>
    .pure ⟨kept_setOptProp t k x, by rw [getPe_setOptProp]; exact ite_ind hx (fun _ => hpe)⟩
  unfold applyOpt
  rw [if_neg (fun h => hk (by rw [h]; decide))]
  cases hv : validVals k with
  | none => exact absurd hv hk
  | some vals =>
    cases v with
    | bool b => exact absurd rfl (hb b)
    | _ =>
      exact ite_both warn (ite_both (ite_both (set _ fun _ => peVal_of_peValB rfl)
        (ite_ind (fun _ => warn) fun hin => set _ fun hk => peVal_of_valid _ vals (hk ▸ hv) (Decidable.not_not.mp hin)))
        warn)

theorem applyOpts_spec (opts : List (Str × OV)) (t : Term) (hv : ValidOpts opts) (hpe : PeVal t.getPe) :
    Ok (fun t' => Kept t t' ∧ PeVal t'.getPe) (applyOpts t opts) := by
  induction opts generalizing t with
  | nil => exact .pure ⟨Kept.refl t, hpe⟩
  | cons o r ih =>
    obtain ⟨k, v⟩ := o
    have ho := hv (k, v) (by simp)
    exact .bind (applyOpt_spec t k v ho.1 ho.2 hpe) fun t1 h1 =>
      (ih t1 (fun o' ho' => hv o' (by simp [ho'])) h1.2).mono fun _ h2 => ⟨h1.1.trans h2.1, h2.2⟩

section
variable (sub : Pos → Str → FV → FV → Except Crash (Str × Nat)) (rules : Rules) (lex : Lex) (t : Term)

theorem lexPos_eq_some {lex : Lex} {l pos : Str} {e : PosEntry} (h : lexPos lex l pos = some e) :
    ∃ info, lookup l lex = some info ∧ lookup pos info = some e := by
  unfold lexPos at h
  cases hl : lookup l lex with
  | none => rw [hl] at h; cases h
  | some info => rw [hl] at h; exact ⟨info, rfl, h⟩

theorem intOf_total (v : FV) (h : PeVal v) (hn : v ≠ FV.none) : Total (intOf v) := by
  rcases h with h | ⟨i, rfl⟩ | ⟨b, rfl⟩ | ⟨x, rfl, hx, hd⟩
  · exact absurd h hn
  · exact Total.pure
  · exact Total.pure
  · unfold intOf
    cases x with
    | nil => exact absurd rfl hx
    | cons c r =>
      dsimp only
      cases hdv : digitsVal (c :: r) 0 with
      | none => exact absurd hdv hd
      | some k => exact Total.pure

theorem nounChecks_total (g n : FV) (form : Str)
    (hl : ∃ e, lexPos lex t.lemma "N".toList = some e)
    (hc : t.lang = Lang.en → ∀ e, lexPos lex t.lemma "N".toList = some e → lookup "cnt".toList e ≠ none) :
    Total (nounChecks lex t g n form) := by
  obtain ⟨e, he⟩ := hl
  obtain ⟨info, h1, h2⟩ := lexPos_eq_some he
  simp only [nounChecks, h1, h2]
  cases hlang : t.lang with
  | fr =>
    cases lookup "g".toList e with
    | none => exact Total.pure
    | some lg => exact ite_both Total.pure Total.pure
  | en =>
    refine ite_both ?_ Total.pure
    cases h3 : lookup "cnt".toList e with
    | none => exact absurd h3 (hc hlang e he)
    | some cnt => exact ite_both Total.pure Total.pure
theorem proPersonStep_kept (rows : List Row) (g n c tn : FV) (kv : KeyVals) (hr : rows ≠ []) :
    Ok (fun p => Kept t p.1) (proPersonStep t rows g n c tn kv) := by
  unfold proPersonStep
  refine ite_both (ite_both (ite_both (.pure_fst (kept_setPe ..)) (.pure_fst (Kept.refl t))) ?_)
    (ite_both (.pure_fst (Kept.refl t)) (.pure_fst (Kept.refl t)))
  cases rows with
  | nil => exact absurd rfl hr
  | cons d0 _ =>
    exact ite_both (.pure_fst (((kept_setG ..).trans (kept_setN ..)).trans (kept_setPe ..))) (.pure_fst (Kept.refl t))

theorem proKeyVals_kept (rows : List Row) (g n : FV) (kv : KeyVals) (hr : rows ≠ []) :
    Ok (fun p => Kept t p.1) (proKeyVals t rows g n kv) := by
  -- `proCaseStep`, `proTonicStep`: a warning at most
  have step : ∀ {a b : Prop} [Decidable a] [Decidable b] (t : Term) (kv kv' : KeyVals),
      Kept t (if a then (if b then (t.warn, kv) else (t, kv')) else (t, kv)).1 := fun t _ _ =>
    ite_both (P := fun p : Term × KeyVals => Kept t p.1) (ite_both (P := fun p : Term × KeyVals => Kept t p.1)
      (kept_warn t) (.refl t)) (.refl t)
  exact (proPersonStep_kept _ rows g n _ _ _ hr).mono fun _ h => ((step t ..).trans (step ..)).trans h

theorem reqPerson_total (sp : Bool) (hpe : PeVal t.getPe) : Total (reqPerson t sp) := by
  unfold reqPerson
  refine ite_both ?_ Total.pure
  split
  · exact Total.pure
  · exact intOf_total _ hpe ‹_›

theorem majesticStep_none (table : Table) (pe : Int) (n : FV)
    (hm : t.pMaje = none) : majesticStep rules lex t table pe n = .ok (t, table.rows) := by
  unfold majesticStep
  have hmaj : t.isMajestic = false := by simp [Term.isMajestic, hm]
  simp [hmaj, pure, Except.pure]

theorem prepareNDP_kept (table : Table) (g n : FV) (sp : Bool)
    (hm : t.pMaje = none) (hpe : PeVal t.getPe) (hr : table.rows ≠ []) :
    Ok (fun p => Kept t p.1) (prepareNDP rules lex t table g n sp) := by
  unfold prepareNDP
  refine .bind (reqPerson_total t sp hpe) (fun pe _ => ?_)
  rw [majesticStep_none rules lex t table pe n hm]
  exact ite_both (.bind (proKeyVals_kept t table.rows g n _ hr) (fun _ h => .pure h)) (.pure (Kept.refl t))

theorem declineNDP_total (table : Table) (stem : Str) (sp : Bool)
    (hm : t.pMaje = none) (hpe : PeVal t.getPe) (hr : table.rows ≠ []) (hst : t.stem = some stem)
    (hl : t.pos = Pos.N → ∃ e, lexPos lex t.lemma "N".toList = some e)
    (hc : t.pos = Pos.N → t.lang = Lang.en → ∀ e, lexPos lex t.lemma "N".toList = some e → lookup "cnt".toList e ≠ none) :
    Total (declineNDP rules lex t table stem sp) := by
  unfold declineNDP
  dsimp only
  split
  · exact ite_ind (fun hN => nounChecks_total lex t _ _ _ (hl hN) (hc hN)) (fun _ => Total.pure)
  · refine .bind (prepareNDP_kept rules lex t table _ _ sp hm hpe hr) (fun p hk => ?_)
    obtain ⟨t1, rows, kv⟩ := p
    dsimp only
    cases bestMatch rows kv with
    | none => exact Total.pure
    | some e =>
      dsimp only
      rw [hk.stem.trans hst]
      refine ite_ind (fun hN => nounChecks_total lex t1 _ _ _ ?_ ?_) (fun _ => Total.pure)
      · rw [hk.lemma]; exact hl (hk.pos ▸ hN)
      · rw [hk.lemma, hk.lang]; exact hc (hk.pos ▸ hN)

theorem adjRowsEn_total (tb : Str) (table : Table) (stem : Str)
    (hl : ∃ info, lookup t.lemma lex = some info)
    (ha : ∀ e, lexPos lex t.lemma "A".toList = some e →
      ∃ atab atable, lookup "tab".toList e = some (LV.str atab) ∧ lookup atab rules = some atable) :
    Total (adjRowsEn rules lex t tb table stem) := by
  obtain ⟨info, hinfo⟩ := hl
  simp only [adjRowsEn, hinfo]
  refine ite_both ?_ Total.pure
  cases hA : lookup "A".toList info with
  | none => exact Total.pure
  | some aentry =>
    obtain ⟨atab, atable, h1, h2⟩ := ha aentry (by unfold lexPos; rw [hinfo]; exact hA)
    simp only [h1, h2]
    exact Total.pure

theorem declineAdjEn_total (hw : WFRules rules) (tb : Str) (table : Table) (stem : Str)
    (hl : ∃ info, lookup t.lemma lex = some info)
    (ha : ∀ e, lexPos lex t.lemma "A".toList = some e →
      ∃ atab atable, lookup "tab".toList e = some (LV.str atab) ∧ lookup atab rules = some atable) :
    Total (declineAdjEn rules lex t tb table stem) := by
  unfold declineAdjEn
  split
  · exact Total.pure
  · exact Total.pure
  · exact Total.pure
  · refine ite_both (.bind (((mkTerm_returns ..).ok hw).mono fun _ _ => trivial) (fun _ _ => Total.pure))
      (.bind (adjRowsEn_total rules lex t tb table stem hl ha) (fun r _ => ?_))
    cases r with
    | none => exact Total.pure
    | some rs =>
      dsimp only
      split <;> exact Total.pure

theorem frComp_total (lemma : Str) (g n : FV)
    (hs : ∀ p l g n, Total (sub p l g n)) : Total (frComp sub lemma g n) := by
  unfold frComp
  split
  · exact .bind (hs ..) (fun _ _ => Total.pure)
  · exact .bind (hs ..) (fun _ _ => .bind (hs ..) (fun _ _ => Total.pure))

theorem declineAdjFr_total (table : Table) (stem : Str)
    (hs : ∀ p l g n, Total (sub p l g n)) : Total (declineAdjFr sub t table stem) := by
  have hc : Total (frComp sub t.lemma t.getG t.getN) := frComp_total sub _ _ _ hs
  unfold declineAdjFr
  split
  · exact Total.pure
  · split
    · exact Total.pure
    · exact Total.pure
    · exact Total.pure
    · exact ite_both (.bind hc (fun _ _ => Total.pure))
        (ite_both (.bind (hs ..) (fun _ _ => .bind hc (fun _ _ => Total.pure))) Total.pure)

theorem declineGen_total (hw : WFRules rules) (tb : Str) (sp : Bool)
    (htab : t.tab = some tb) (hinv : TabInv rules t) (hus : Usable rules lex t) (hm : t.pMaje = none)
    (hlink : ∃ e, lexPos lex t.lemma t.pos.name = some e)
    (hsub : t.lang = Lang.fr → ∀ p l g n, Total (sub p l g n)) :
    Total (declineGen sub rules lex t tb sp) := by
  obtain ⟨⟨table, htable⟩, ⟨stem, hstem⟩⟩ := hinv tb htab
  obtain ⟨e, he⟩ := hlink
  obtain ⟨info, hinfo, _⟩ := lexPos_eq_some he
  simp only [declineGen, htable, hstem]
  refine ite_ind (fun hA => ?_) (fun _ => ?_)
  · cases hlang : t.lang with
    | en => exact declineAdjEn_total rules lex t hw tb table stem ⟨info, hinfo⟩ (hus.2.2.2 hlang hA)
    | fr => exact declineAdjFr_total sub t table stem (hsub hlang)
  · exact declineNDP_total rules lex t table stem sp hm hus.2.1 (wf_rows_ne table (wf_lookup hw htable)) hstem
      (fun hN => ⟨e, by rw [hN] at he; exact he⟩) (fun hN hen => hus.2.2.1 hen hN)

theorem realGen_total (hw : WFRules rules) (hinv : TabInv rules t) (hus : Usable rules lex t) (hm : t.pMaje = none)
    (hlink : Linked lex t) (hsub : t.lang = Lang.fr → ∀ p l g n, Total (sub p l g n)) :
    Total (realGen sub rules lex t) := by
  have hdec : ∀ tb sp, t.tab = some tb → Total (declineGen sub rules lex t tb sp) :=
    fun tb sp htab => declineGen_total sub rules lex t hw tb sp htab hinv hus hm (hlink tb htab) hsub
  unfold realGen
  dsimp only
  refine .bind (Q := fun _ => True) ?_ (fun _ _ => Total.pure)
  cases htab : t.tab with
  | some tb => cases t.pos <;> exact hdec tb _ htab
  | none =>
    cases hreal : t.real with
    | some r => cases t.pos <;> exact Total.pure
    | none =>
      cases hpos : t.pos with
      | Adv => exact Total.pure
      | _ => exact absurd hreal (hus.1 htab (by rw [hpos]; decide))

end

end Pyrealb.Decl
