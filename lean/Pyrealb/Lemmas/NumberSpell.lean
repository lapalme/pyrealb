import Pyrealb.Lemmas.NumberWordsSplit
import Pyrealb.Model.NumberEval
/-! C16.a: the words of a spelling evaluate to the number.  By induction over the list of triplets (`grouper`), from
finite facts about the generated word tables; a triplet above 100 is its hundreds followed by the triplet of its last
two digits, so the facts are checked (`tables_tbl`) on the numbers below 100, the nine hundreds and the six scale
words of each language. -/
namespace Pyrealb.Number.Finite
open Pyrealb Pyrealb.Number Pyrealb.NumberSpec

def tripletOK (V : Vocab) (ℓ : Lang) (t : Nat) : Bool :=
  match centaines ℓ t with
  | .ok w => evalFrom V (0, 0) (words w) == some (t, 0) && !(words w).isEmpty
  | .error _ => false

end Pyrealb.Number.Finite

namespace Pyrealb.Number
open Pyrealb Pyrealb.NumberSpec Pyrealb.Gen.NumberWords Pyrealb.Number.Finite

theorem evalFrom_append (V : Vocab) (st : St) (a b : List Str) :
    evalFrom V st (a ++ b) = (evalFrom V st a).bind (fun st' => evalFrom V st' b) := by
  induction a generalizing st with
  | nil => simp [evalFrom]
  | cons w ws ih =>
    simp only [List.cons_append, evalFrom]
    cases classify V w with
    | none => simp
    | some m =>
      cases h : step st m with
      | none => simp [h]
      | some st' => simp [h, ih]

/-- the total of the closed groups is only ever added to -/
theorem evalFrom_shift (V : Vocab) (c T T' : Nat) (ws : List Str) :
    evalFrom V (c, T + T') ws = (evalFrom V (c, T) ws).map (fun st => (st.1, st.2 + T')) := by
  induction ws generalizing c T with
  | nil => simp [evalFrom]
  | cons w ws ih =>
    simp only [evalFrom]
    cases classify V w with
    | none => simp
    | some m =>
      cases m with
      | scale k => simp [step, Nat.add_right_comm T T', ih]
      | minus => simp [step]
      | _ => simp [step, ih]

/-- the words are all numbers below 100 or `and`: they only add to the current group -/
def smallOnly (V : Vocab) (ws : List Str) : Bool :=
  ws.all fun w => match classify V w with
    | some (.small _) | some .and_ => true
    | _ => false

theorem evalFrom_small (V : Vocab) (c c' T : Nat) (ws : List Str) (h : smallOnly V ws = true) :
    evalFrom V (c + c', T) ws = (evalFrom V (c, T) ws).map (fun st => (st.1 + c', st.2)) := by
  induction ws generalizing c with
  | nil => simp [evalFrom]
  | cons w ws ih =>
    rw [smallOnly, List.all_cons, Bool.and_eq_true] at h
    obtain ⟨hw, hws⟩ := h
    simp only [evalFrom]
    cases hcl : classify V w with
    | none => simp
    | some m =>
      rw [hcl] at hw
      cases m with
      | small n => simpa [step, Nat.add_right_comm c c' n] using ih (c + n) hws
      | and_ => simpa [step] using ih c hws
      | _ => cases hw

def value : List Nat → Nat
  | [] => 0
  | t :: ts => t * 1000 ^ ts.length + value ts

theorem tousZero_value (ts : List Nat) (h : tousZero ts = true) : value ts = 0 := by
  induction ts with
  | nil => rfl
  | cons t ts ih =>
    simp only [tousZero, Bool.and_eq_true, beq_iff_eq] at h
    simp [value, h.1, ih h.2]

/-- the "sing" form of entry `k` of the scale table evaluates to 1000^(k+1); its "plur" form is one scale word -/
def scaleOK (V : Vocab) (ℓ : Lang) (k : Nat) : Bool :=
  match (scaleTable ℓ)[k]? with
  | none => false
  | some (sing, plur) =>
    evalFrom V (0, 0) (words sing) == some (0, 1000 ^ (k + 1)) &&
    (match words plur with
     | [w] => classify V w == some (.scale (k + 1))
     | _ => false)

def minusWord (ℓ : Lang) : Str := pick ℓ minusEn moinsFr

def sepsOK (V : Vocab) (ℓ : Lang) : Bool :=
  grpSep1 == [' '] && grpSep2 == [' '] && grpEmpty == [] &&
  (match words (minusWord ℓ) with
   | [w] => classify V w == some .minus
   | _ => false) &&
  (minusWord ℓ).getLast? == some ' '

/-- the finite facts about the generated tables that the induction needs, for the numeral system `V` -/
structure Facts (V : Vocab) (ℓ : Lang) : Prop where
  triplet : ∀ t : Fin 1000, tripletOK V ℓ t.val = true
  seps : sepsOK V ℓ = true

theorem triplet_eval {V : Vocab} {ℓ : Lang} (F : Facts V ℓ) (t : Nat) (ht : t < 1000) (T : Nat) :
    ∃ w, centaines ℓ t = .ok w ∧ evalFrom V (0, T) (words w) = some (t, T) ∧ words w ≠ [] := by
  have h : tripletOK V ℓ t = true := F.triplet ⟨t, ht⟩
  unfold tripletOK at h
  cases hc : centaines ℓ t with
  | error e => simp [hc] at h
  | ok w =>
    simp only [hc, Bool.and_eq_true, beq_iff_eq, Bool.not_eq_true', List.isEmpty_eq_false_iff] at h
    refine ⟨w, rfl, ?_, h.2⟩
    have := evalFrom_shift V 0 0 T (words w)
    simpa [h.1] using this

def EndsSpace (A : Str) : Prop := A = [] ∨ ∃ A', A = A' ++ [' ']

/-- `w` is a text that is empty or ends with a space, then a text that satisfies `P`, then at most one space -/
def EndsIn (P : Str → Prop) (w : Str) : Prop :=
  ∃ A T trail, w = A ++ T ++ trail ∧ EndsSpace A ∧ (trail = [] ∨ trail = [' ']) ∧ P T

/-- the words of `grouper ts` evaluate to the value of `ts`; and if the spelling of every triplet and every scale form
    end in a text that satisfies `P`, so does `grouper ts` (the end of its last non-zero group) -/
theorem grouper_eval {V : Vocab} {ℓ : Lang} (F : Facts V ℓ) {P : Str → Prop}
    (hc : ∀ t w, 1 ≤ t → t < 1000 → centaines ℓ t = .ok w → EndsIn P w)
    (hsc : ∀ sc ∈ scaleTable ℓ, P sc.1 ∧ P sc.2) : ∀ (ts : List Nat), ts ≠ [] → (∀ t ∈ ts, t < 1000) →
    (∀ k, k + 2 ≤ ts.length → scaleOK V ℓ k = true) → ∀ T : Nat,
    ∃ w c T', grouper ℓ ts = .ok w ∧ evalFrom V (0, T) (words w) = some (c, T') ∧ c + T' = T + value ts
      ∧ words w ≠ [] ∧ (tousZero ts = false → EndsIn P w)
  | [], hne, _, _, _ => absurd rfl hne
  | [h], _, hlt, _, T => by
    obtain ⟨w, hw, he, hn⟩ := triplet_eval F h (hlt h (by simp)) T
    refine ⟨w, h, T, by simpa [grouper] using hw, he, by simp [value]; omega, hn, fun hz => ?_⟩
    exact hc h w (by simp [tousZero] at hz; omega) (hlt h (by simp)) hw
  | h :: t1 :: rest, _, hlt, hs, T => by
    have hseps := F.seps
    simp only [sepsOK, Bool.and_eq_true, beq_iff_eq] at hseps
    obtain ⟨⟨⟨⟨hs1, hs2⟩, hs3⟩, _⟩, _⟩ := hseps
    have hlt' : ∀ t ∈ t1 :: rest, t < 1000 := fun t ht => hlt t (by simp [ht])
    have hs' : ∀ k, k + 2 ≤ (t1 :: rest).length → scaleOK V ℓ k = true := fun k hk =>
      hs k (by rw [List.length_cons]; omega)
    by_cases h0 : h = 0
    · obtain ⟨w, c, T', hw, he, hv, hn, ht⟩ := grouper_eval F hc hsc (t1 :: rest) (by simp) hlt' hs' T
      refine ⟨w, c, T', ?_, he, ?_, hn, fun hz => ht (by simpa [tousZero, h0] using hz)⟩
      · simp [grouper, h0, hw]
      · simp [value, h0] at hv ⊢; omega
    · have hk : scaleOK V ℓ rest.length = true := hs _ (by simp)
      unfold scaleOK at hk
      cases hsc' : (scaleTable ℓ)[rest.length]? with
      | none => simp [hsc'] at hk
      | some sc =>
        obtain ⟨sing, plur⟩ := sc
        simp only [hsc', Bool.and_eq_true, beq_iff_eq] at hk
        obtain ⟨hsing, hplur⟩ := hk
        -- the first group evaluates to (0, T + h * 1000^(k+1)) and is, after a space if it has one, a scale form
        have hfirst : ∃ first A0, (if h = 1 then (pure sing : Except Crash Str)
              else (centaines ℓ h).map (fun w => w ++ grpSep1 ++ plur)) = .ok first ∧
            evalFrom V (0, T) (words first) = some (0, T + h * 1000 ^ (rest.length + 1)) ∧
            words first ≠ [] ∧ first = A0 ++ (if h = 1 then sing else plur) ∧ EndsSpace A0 := by
          by_cases h1 : h = 1
          · refine ⟨sing, [], by simp [h1, pure, Except.pure], ?_, ?_, by simp [h1], Or.inl rfl⟩
            · have := evalFrom_shift V 0 0 T (words sing)
              simp only [hsing, Nat.zero_add, Option.map_some] at this
              rw [this, h1]; simp; omega
            · intro hnil
              rw [hnil] at hsing
              simp only [evalFrom, Option.some.injEq, Prod.mk.injEq, true_and] at hsing
              have : 0 < 1000 ^ (rest.length + 1) := Nat.pow_pos (by decide)
              omega
          · obtain ⟨w, hw, he, _⟩ := triplet_eval F h (hlt h (by simp)) T
            split at hplur
            · rename_i pw hp
              rw [beq_iff_eq] at hplur
              refine ⟨w ++ grpSep1 ++ plur, w ++ [' '], by simp [h1, hw, Except.map], ?_, ?_, by simp [h1, hs1],
                Or.inr ⟨w, rfl⟩⟩
              · rw [hs1, words_space,
                  evalFrom_append, he, hp]
                simp [evalFrom, hplur, step, h0]
              · rw [hs1, words_space, hp]
                simp
            · cases hplur
        obtain ⟨first, A0, hf, hfe, hfn, hfA, hA0⟩ := hfirst
        by_cases hz : tousZero (t1 :: rest) = true
        · refine ⟨first ++ grpSep2 ++ grpEmpty, 0, T + h * 1000 ^ (rest.length + 1), ?_, ?_, ?_, ?_, fun _ => ?_⟩
          · simp only [grouper, h0, if_false, idx, hsc']
            rw [hf]; simp [hz, pure, Except.pure]
          · rw [hs2, hs3, List.append_nil, words_space_end]
            exact hfe
          · have hv := tousZero_value _ hz
            simp only [value, List.length_cons] at hv ⊢; omega
          · rw [hs2, hs3, List.append_nil, words_space_end]
            exact hfn
          · have hP := hsc _ (List.mem_of_getElem? hsc')
            refine ⟨A0, if h = 1 then sing else plur, [' '], by rw [hfA, hs2, hs3]; simp, hA0, Or.inr rfl, ?_⟩
            split
            · exact hP.1
            · exact hP.2
        · obtain ⟨w, c, T', hw, he, hv, _, ht⟩ :=
            grouper_eval F hc hsc (t1 :: rest) (by simp) hlt' hs' (T + h * 1000 ^ (rest.length + 1))
          refine ⟨first ++ grpSep2 ++ w, c, T', ?_, ?_, ?_, ?_, fun _ => ?_⟩
          · simp only [grouper, h0, if_false, idx, hsc']
            rw [hf]; simp [hz, hw, pure, Except.pure]
          · rw [hs2, words_space,
              evalFrom_append, hfe]
            simpa using he
          · simp only [value, List.length_cons] at hv ⊢; omega
          · rw [hs2, words_space]
            simp [hfn]
          · obtain ⟨A, T, trail, e, hA, htr, hT⟩ := ht (by simpa using hz)
            refine ⟨first ++ [' '] ++ A, T, trail, by rw [e, hs2]; simp, ?_, htr, hT⟩
            rcases hA with rfl | ⟨A', rfl⟩
            · exact Or.inr ⟨first, by simp⟩
            · exact Or.inr ⟨first ++ [' '] ++ A', by simp⟩

theorem value_append_single (ts : List Nat) (x : Nat) : value (ts ++ [x]) = value ts * 1000 + x := by
  induction ts with
  | nil => simp [value]
  | cons t ts ih =>
    simp only [List.cons_append, value, ih, List.length_append, List.length_singleton, Nat.pow_succ]
    rw [Nat.add_mul, Nat.mul_assoc]; omega

theorem splitSAux_spec : ∀ (f n : Nat), n ≤ f →
    splitSAux f n ≠ [] ∧ (∀ t ∈ splitSAux f n, t < 1000) ∧ value (splitSAux f n) = n ∧
    (∀ L, n < 1000 ^ (L + 1) → (splitSAux f n).length ≤ L + 1) := by
  intro f
  induction f with
  | zero =>
    intro n hn
    have : n = 0 := by omega
    subst this
    refine ⟨by simp [splitSAux], by simp [splitSAux], by simp [splitSAux, value], ?_⟩
    intro L _; simp [splitSAux]
  | succ f ih =>
    intro n hn
    by_cases hlt : n < 1000
    · refine ⟨by simp [splitSAux, hlt], by simp [splitSAux, hlt], by simp [splitSAux, hlt, value], ?_⟩
      intro L _; simp [splitSAux, hlt]
    · have hdiv : n / 1000 ≤ f := by omega
      obtain ⟨h1, h2, h3, h4⟩ := ih (n / 1000) hdiv
      simp only [splitSAux, hlt, if_false]
      refine ⟨by simp, ?_, ?_, ?_⟩
      · intro t ht
        rcases List.mem_append.mp ht with ht | ht
        · exact h2 t ht
        · simp at ht; omega
      · rw [value_append_single, h3]; omega
      · intro L hn'
        cases L with
        | zero => omega
        | succ L =>
          have := h4 L (by rw [Nat.div_lt_iff_lt_mul (by decide), ← Nat.pow_succ]; exact hn')
          simp; omega

theorem spell_eval_core {V : Vocab} {ℓ : Lang} (F : Facts V ℓ) (n : Int)
    (hs : ∀ k, k + 2 ≤ (splitS n.natAbs).length → scaleOK V ℓ k = true) :
    ∃ w, enToutesLettres ℓ n = .ok w ∧ evalV V w = some n := by
  obtain ⟨hne, hlt, hval, _⟩ := splitSAux_spec n.natAbs n.natAbs (Nat.le_refl _)
  obtain ⟨w0, c, T', hw, he, hv, hn, _⟩ := grouper_eval F (P := fun _ => True)
    (fun _ w _ _ _ => ⟨[], w, [], by simp, Or.inl rfl, Or.inl rfl, trivial⟩) (fun _ _ => ⟨trivial, trivial⟩)
    (splitS n.natAbs) hne hlt hs 0
  have hv' : c + T' = n.natAbs := by
    have : value (splitS n.natAbs) = n.natAbs := hval
    omega
  have hseps := F.seps
  simp only [sepsOK, Bool.and_eq_true, beq_iff_eq] at hseps
  obtain ⟨⟨_, hmw⟩, hml⟩ := hseps
  -- the words of the spelling of |n| evaluate to |n| and do not start with the sign word
  obtain ⟨a, r, hws⟩ := List.exists_cons_of_ne_nil hn
  have hnat : evalNat V (words w0) = some n.natAbs := by
    rw [hws, evalNat, ← hws, he]
    · simp [hv']
    · exact List.cons_ne_nil a r
  have hhead : classify V a ≠ some .minus := by
    intro hcl
    rw [hws] at he
    simp [evalFrom, hcl, step] at he
  unfold enToutesLettres
  simp only [hw]
  refine ⟨_, rfl, ?_⟩
  unfold evalV
  rw [words_strip]
  by_cases hneg : n < 0
  · simp only [hneg, if_true]
    obtain ⟨m', hm⟩ := List.getLast?_eq_some_iff.mp hml
    have hwm : words m' = words (minusWord ℓ) := by
      rw [hm, words_space_end]
    change (match words (minusWord ℓ ++ w0) with | [] => none | w :: ws => _) = _
    rw [hm, words_space, hwm]
    split at hmw
    · rename_i mw hmm
      rw [beq_iff_eq] at hmw
      simp only [hmm, List.singleton_append, hmw, if_true, hnat, Option.map_some, Int.ofNat_eq_natCast]
      congr 1; omega
    · cases hmw
  · simp only [hneg, if_false, hws, hhead]
    rw [← hws, hnat]
    simp only [Option.map_some, Int.ofNat_eq_natCast]
    congr 1; omega

/-- what `centaines` writes before the tens and units of a triplet above 100 that is not a round hundred -/
def hundredsPrefix (ℓ : Lang) (c : Nat) : Except Crash Str :=
  if c = 1 then pure (pick ℓ oneHundredPre2En oneHundredPre2Fr ++ pick ℓ hundredEn centFr ++ centSep1)
  else do let w ← unites ℓ c; pure (w ++ centSep2 ++ pick ℓ hundredEn centFr ++ pick ℓ andEn andFr)

theorem centaines_split (ℓ : Lang) (t : Nat) (hc : 100 ≤ t) (hr : t % 100 ≠ 0) :
    centaines ℓ t = (do let a ← hundredsPrefix ℓ (t / 100); let w ← centaines ℓ (t % 100); pure (a ++ w)) := by
  obtain ⟨e1, e2, e3, hc0, hdu⟩ : t % 100 / 100 = 0 ∧ t % 100 / 10 % 10 = t / 10 % 10 ∧ t % 100 % 10 = t % 10 ∧
      t / 100 ≠ 0 ∧ ¬ (t / 10 % 10 = 0 ∧ t % 10 = 0) := by omega
  simp only [centaines, hundredsPrefix, e1, e2, e3, hc0, hdu, if_true, if_false]
  by_cases h1 : t / 100 = 1
  · simp only [h1, if_true]
    cases dizaines ℓ (t / 10 % 10) (t % 10) <;> simp [bind, Except.bind, pure, Except.pure]
  · simp only [h1, if_false]
    cases unites ℓ (t / 100) <;> cases dizaines ℓ (t / 10 % 10) (t % 10) <;>
      simp [bind, Except.bind, pure, Except.pure]

def prefixOK (V : Vocab) (ℓ : Lang) (c : Nat) : Bool :=
  match hundredsPrefix ℓ c with
  | .ok a => a.getLast? == some ' ' && evalFrom V (0, 0) (words a) == some (c * 100, 0)
  | .error _ => false

def lowOK (V : Vocab) (ℓ : Lang) (r : Nat) : Bool :=
  tripletOK V ℓ r && (match centaines ℓ r with | .ok w => smallOnly V (words w) | .error _ => false)

theorem tripletOK_split {V : Vocab} {ℓ : Lang} (t : Nat) (hc : 100 ≤ t) (hr : t % 100 ≠ 0)
    (hp : prefixOK V ℓ (t / 100) = true) (hl : lowOK V ℓ (t % 100) = true) : tripletOK V ℓ t = true := by
  unfold prefixOK at hp
  unfold lowOK tripletOK at hl
  unfold tripletOK
  rw [centaines_split ℓ t hc hr]
  cases ha : hundredsPrefix ℓ (t / 100) with
  | error e => simp [ha] at hp
  | ok a =>
    cases hw : centaines ℓ (t % 100) with
    | error e => simp [hw] at hl
    | ok w =>
      simp only [ha, hw, Bool.and_eq_true, beq_iff_eq, Bool.not_eq_true', List.isEmpty_eq_false_iff] at hp hl
      obtain ⟨⟨a', rfl⟩, hea⟩ := And.imp_left List.getLast?_eq_some_iff.mp hp
      obtain ⟨⟨hew, hne⟩, hsm⟩ := hl
      rw [words_space_end] at hea
      have hws : words (a' ++ [' '] ++ w) = words a' ++ words w := by
        rw [words_space]
      have hsh := evalFrom_small V 0 (t / 100 * 100) 0 (words w) hsm
      rw [Nat.zero_add, hew] at hsh
      simp only [bind, Except.bind, pure, Except.pure, hws, evalFrom_append, hea, Option.bind_some, hsh,
        Option.map_some, Bool.and_eq_true, beq_iff_eq, Bool.not_eq_true', List.isEmpty_eq_false_iff]
      refine ⟨by congr 2; omega, ?_⟩
      simp [hne]

def hundredOK (V : Vocab) (ℓ : Lang) (c : Nat) : Bool := c == 0 || (prefixOK V ℓ c && tripletOK V ℓ (c * 100))

def tablesOK (V : Vocab) (ℓ : Lang) : Bool :=
  (List.range 100).all (lowOK V ℓ) && (List.range 10).all (hundredOK V ℓ) && (List.range 6).all (scaleOK V ℓ) &&
    sepsOK V ℓ

theorem tables_tbl : tablesOK (vocab .en) .en = true ∧ tablesOK (vocab .fr) .fr = true := by decide +kernel

theorem tables_spec {V : Vocab} {ℓ : Lang} (h : tablesOK V ℓ = true) :
    (∀ r < 100, lowOK V ℓ r = true) ∧
    (∀ c, 1 ≤ c → c < 10 → prefixOK V ℓ c = true ∧ tripletOK V ℓ (c * 100) = true) ∧
    (∀ k < 6, scaleOK V ℓ k = true) ∧ sepsOK V ℓ = true := by
  simp only [tablesOK, Bool.and_eq_true, List.all_eq_true, List.mem_range] at h
  obtain ⟨⟨⟨hlow, hhun⟩, hsc⟩, hseps⟩ := h
  refine ⟨hlow, fun c h1 h10 => ?_, hsc, hseps⟩
  have h0 : (c == 0) = false := by simp; omega
  simpa [hundredOK, h0] using hhun c h10

/-- every triplet, from the tables: below 100, a round hundred, or split -/
theorem triplet_eval_tbl {V : Vocab} {ℓ : Lang} (h : tablesOK V ℓ = true) (t : Nat) (ht : t < 1000) :
    tripletOK V ℓ t = true := by
  obtain ⟨hlow, hhun, _⟩ := tables_spec h
  by_cases h100 : t < 100
  · have := hlow t h100
    rw [lowOK, Bool.and_eq_true] at this
    exact this.1
  · have hc := hhun (t / 100) (by omega) (by omega)
    by_cases hr : t % 100 = 0
    · have : t / 100 * 100 = t := by omega
      rw [← this]
      exact hc.2
    · exact tripletOK_split t (by omega) hr hc.1 (hlow _ (Nat.mod_lt _ (by decide)))

theorem facts_of_tables {V : Vocab} {ℓ : Lang} (h : tablesOK V ℓ = true) : Facts V ℓ where
  triplet t := triplet_eval_tbl h t.val t.isLt
  seps := (tables_spec h).2.2.2

theorem tables_ok (ℓ : Lang) : tablesOK (vocab ℓ) ℓ = true := by
  cases ℓ
  · exact tables_tbl.1
  · exact tables_tbl.2

/-- below 10^21 there are at most seven triplets, hence only the six entries of the scale table are read -/
theorem scaleOK_of_lt (ℓ : Lang) (n : Nat) (hn : n < 10 ^ 21) (k : Nat) (hk : k + 2 ≤ (splitS n).length) :
    scaleOK (vocab ℓ) ℓ k = true := by
  have h7 := (splitSAux_spec n n (Nat.le_refl _)).2.2.2 6 (by
    have : (1000 : Nat) ^ 7 = 10 ^ 21 := by decide
    omega)
  exact (tables_spec (tables_ok ℓ)).2.2.1 k (by unfold splitS at hk; omega)

/-- **C16.a** in both languages: below 10^21 in absolute value the spelling exists and denotes `n` -/
theorem spell_eval (ℓ : Lang) (n : Int) (hn : n.natAbs < 10 ^ 21) :
    ∃ w, enToutesLettres ℓ n = .ok w ∧ eval ℓ w = some n :=
  spell_eval_core (facts_of_tables (tables_ok ℓ)) n (scaleOK_of_lt ℓ _ hn)

end Pyrealb.Number
