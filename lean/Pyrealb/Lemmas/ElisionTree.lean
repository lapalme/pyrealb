import Pyrealb.Model.ElisionTree
import Pyrealb.Lemmas.ElisionPass
/-! Tree-level lemmas for C06: the invariant of the abstract realization fold. -/
namespace Pyrealb.Elision
open Pyrealb Pyrealb.Gen.Elision

theorem SameView.pairOK {t1 t1' t2 t2' : Tok} (h1 : SameView t1 t1') (h2 : SameView t2 t2') :
    pairOKFr t1' t2' = pairOKFr t1 t2 := by
  obtain ⟨_, _, s1, _, _, _, f1, m1⟩ := h1
  obtain ⟨c2, _, _, hw2, _, _, f2, m2⟩ := h2
  unfold pairOKFr
  cases hv1 : view .fr t1 <;> cases hv1' : view .fr t1' <;> simp only [hv1, hv1'] at m1 <;>
    cases hv2 : view .fr t2 <;> cases hv2' : view .fr t2' <;> simp only [hv2, hv2'] at m2 <;> try rfl
  rename_i v1 v1' v2 v2'
  simp only [m1.1, m1.2, m2.1, s1, c2, vowelOrMuteH, hw2, f1, f2]

theorem SameView.fresh {t t' : Tok} (h : SameView t t') : freshTok t' = freshTok t := by
  obtain ⟨_, _, _, _, _, _, _, m⟩ := h
  unfold freshTok
  cases hv : view .fr t <;> cases hv' : view .fr t' <;> simp only [hv, hv'] at m <;> try rfl
  simp only [m.1]

theorem SameView.wf {t t' : Tok} (h : SameView t t') (w : tokWF t = true) : tokWF t' = true := by
  obtain ⟨_, _, _, hw, hr, hs, _, _⟩ := h
  simp only [tokWF, hw, hr, hs] at w ⊢
  exact w

theorem all2_settled : ∀ (l l' : List Tok) (pl : Bool), All2 SameView l l' →
    settledFrom .fr pl l' = settledFrom .fr pl l := by
  intro l l' pl h
  induction h generalizing pl with
  | nil => rfl
  | cons hab hrest ih =>
    rename_i a b r r'
    cases hrest with
    | nil => rfl
    | cons hcd hrest' =>
      rename_i c d r2 r2'
      have := ih a.lier
      simp only [settledFrom, pairOK, hab.pairOK hcd, hab.2.1] at this ⊢
      rw [this]

theorem all2_wf : ∀ (l l' : List Tok), All2 SameView l l' → TokWF l → TokWF l' := by
  intro l l' h
  induction h with
  | nil => exact id
  | cons hab _ ih =>
    intro hwf
    obtain ⟨wa, wr⟩ := List.forall_mem_cons.mp hwf
    exact wf_cons _ _ (hab.wf wa) (ih wr)

theorem all2_last : ∀ (l l' : List Tok), All2 SameView l l' → LastFresh l → LastFresh l' := by
  intro l l' h
  induction h with
  | nil => exact id
  | @cons a b r r' hab hrest ih =>
    intro hl
    cases hrest with
    | nil =>
      intro t ht
      rw [List.getLast?_singleton] at ht
      cases ht
      rw [hab.fresh]; exact hl a rfl
    | cons hcd hrest' =>
      rw [lastFresh_cons_cons] at hl ⊢
      exact ih hl

theorem format_inv (format : Nat → List Tok → List Tok) (hf : FormatOK format) (id : Nat) (l : List Tok)
    (h : InvOut l) : InvOut (format id l) := by
  obtain ⟨h1, h2, h3⟩ := h
  have a := hf id l
  refine ⟨all2_wf _ _ a h1, ?_, all2_last _ _ a h3⟩
  simp only [settled] at h2 ⊢
  rw [all2_settled _ _ false a]; exact h2

theorem pairOK_bwd (t1 t2 : Tok) (h : pairOKFr t1 t2 = true) : bwdPairFr t1 t2 = true := by
  unfold pairOKFr at h
  unfold bwdPairFr
  rcases Option.eq_none_or_eq_some (view .fr t1) with hv1 | ⟨v1, hv1⟩
  · simp [hv1]
  rcases Option.eq_none_or_eq_some (view .fr t2) with hv2 | ⟨v2, hv2⟩
  · simp [hv1, hv2]
  simp only [hv1, hv2] at h ⊢
  cases hf : t1.fr with
  | false => simp
  | true =>
    cases hn : noWords v1.rest with
    | false => simp
    | true =>
      simp only [hf, hn, Bool.not_true, Bool.false_or, clausesFr, Bool.and_eq_true] at h ⊢
      exact ⟨h.1.1.1.1.2, h.2⟩

theorem settled_bwd : ∀ (l : List Tok) (pl : Bool), settledFrom .fr pl l = true → bwdFromFr pl l = true := by
  intro l
  induction l with
  | nil => intro _ _; rfl
  | cons a r ih =>
    intro pl h
    cases r with
    | nil => rfl
    | cons b r' =>
      simp only [settledFrom, pairOK, Bool.and_eq_true, Bool.or_eq_true] at h
      simp only [bwdFromFr, Bool.and_eq_true, Bool.or_eq_true]
      refine ⟨?_, ih a.lier h.2⟩
      cases h.1 with
      | inl h' => left; simpa using h'
      | inr h' => right; exact pairOK_bwd _ _ h'

theorem bwd_mono : ∀ (l : List Tok) (pl : Bool), bwdFromFr false l = true → bwdFromFr pl l = true := by
  intro l pl h
  cases l with
  | nil => rfl
  | cons a r =>
    cases r with
    | nil => rfl
    | cons b r' =>
      simp only [bwdFromFr, Bool.false_or, Bool.and_eq_true] at h
      simp [bwdFromFr, h.1, h.2]

theorem fresh_bwd (t1 t2 : Tok) (h : freshTok t1 = true) : bwdPairFr t1 t2 = true := by
  unfold freshTok at h
  unfold bwdPairFr
  cases hv1 : view .fr t1 <;> cases hv2 : view .fr t2 <;> simp only [hv1, hv2] at h ⊢
  simp only [Bool.and_eq_true, Bool.not_eq_eq_eq_not, Bool.not_true] at h
  simp [h.1, h.2]

theorem bwd_append : ∀ (a b : List Tok) (pl : Bool), bwdFromFr pl a = true → LastFresh a →
    bwdFromFr false b = true → bwdFromFr pl (a ++ b) = true := by
  intro a
  induction a with
  | nil => intro b pl _ _ hb; exact bwd_mono _ _ hb
  | cons x r ih =>
    intro b pl ha hl hb
    cases r with
    | nil =>
      cases b with
      | nil => rfl
      | cons y r' =>
        simp only [List.cons_append, List.nil_append, bwdFromFr, Bool.and_eq_true, Bool.or_eq_true]
        exact ⟨Or.inr (fresh_bwd _ _ (hl x (by simp))), bwd_mono _ _ hb⟩
    | cons y r' =>
      simp only [bwdFromFr, Bool.and_eq_true] at ha
      simp only [List.cons_append, bwdFromFr, Bool.and_eq_true]
      refine ⟨ha.1, ?_⟩
      exact ih b x.lier ha.2 ((lastFresh_cons_cons ..).mp hl) hb

theorem last_append (a b : List Tok) (ha : LastFresh a) (hb : LastFresh b) : LastFresh (a ++ b) := by
  intro t ht
  cases b with
  | nil => simp at ht; exact ha t ht
  | cons y r =>
    apply hb t
    rw [← ht, List.getLast?_append]
    have : (y :: r).getLast? = some ((y :: r).getLast (by simp)) := List.getLast?_eq_some_getLast _
    rw [this]; rfl

theorem invIn_append (a b : List Tok) (ha : InvIn a) (hb : InvIn b) : InvIn (a ++ b) :=
  ⟨List.forall_mem_append.mpr ⟨ha.1, hb.1⟩, bwd_append _ _ false ha.2.1 ha.2.2 hb.2.1, last_append _ _ ha.2.2 hb.2.2⟩

theorem InvOut.invIn {l : List Tok} (h : InvOut l) : InvIn l := ⟨h.1, settled_bwd _ _ h.2.1, h.2.2⟩

theorem pass_inv (l out : List Tok) (h : InvIn l)
    (ht : tameFromFr false l = true) (hgo : doElisionFr l = .ok out) : InvOut out := by
  obtain ⟨out', ho, hs, _, hlast⟩ := goFr_settles l false h.1 h.2.1 ht
  obtain ⟨out'', ho', hwf'⟩ := goFr_total l false h.1
  cases ho.symm.trans hgo
  cases ho'.symm.trans hgo
  exact ⟨hwf', hs, hlast h.2.2⟩

/-- what is assumed of the input of each `doElision` call of the fold -/
def NodeTame (l : List Tok) : Prop := tameFromFr false l = true

/-- the invariant of the fold, by mutual induction over the realization relation -/
theorem fold_inv_at (place format : Nat → List Tok → List Tok) (hf : FormatOK format) :
    ∀ (t : Tree) (out : List Tok) (ins lvs : List (List Tok)) (cats : List (Nat × List Tok)),
      Real place format t out ins lvs cats → PlaceOKAt place cats →
      (∀ ts ∈ lvs, InvOut ts) → (∀ inp ∈ ins, NodeTame inp) → InvOut out := by
  intro t out ins lvs cats h
  refine Real.rec (place := place) (format := format)
    (motive_1 := fun _ out ins lvs cats _ => PlaceOKAt place cats → (∀ ts ∈ lvs, InvOut ts) →
      (∀ inp ∈ ins, NodeTame inp) → InvOut out)
    (motive_2 := fun _ cat ins lvs cats _ => PlaceOKAt place cats → (∀ ts ∈ lvs, InvOut ts) →
      (∀ inp ∈ ins, NodeTame inp) → InvIn cat)
    ?_ ?_ ?_ ?_ h
  · intro ts _ hl _
    exact hl ts (by simp)
  · intro id cs cat out ins lvs cats _ hgo ihAll hp hl ht
    have hcat := ihAll (fun p hp' => hp p (List.mem_cons_of_mem _ hp')) hl
      (fun inp hi => ht inp (List.mem_cons_of_mem _ hi))
    have hin := hp (id, cat) (by simp) hcat
    have tame := ht (place id cat) (by simp)
    exact format_inv format hf id out (pass_inv _ _ hin tame hgo)
  · intro _ _ _
    exact ⟨by intro t ht; simp at ht, rfl, by intro t ht; simp at ht⟩
  · intro c cs a b i1 i2 l1 l2 c1 c2 _ _ ih1 ih2 hp hl ht
    have ha := ih1 (fun p h => hp p (List.mem_append_left _ h)) (fun ts h => hl ts (List.mem_append_left _ h))
      (fun inp h => ht inp (List.mem_append_left _ h))
    have hb := ih2 (fun p h => hp p (List.mem_append_right _ h)) (fun ts h => hl ts (List.mem_append_right _ h))
      (fun inp h => ht inp (List.mem_append_right _ h))
    exact invIn_append a b ha.invIn hb

/-! ### the identity `place` / `format`, single fresh leaves (used by the witnesses of Props/C06) -/

theorem sameView_refl (t : Tok) : SameView t t := by
  refine ⟨rfl, rfl, rfl, rfl, rfl, rfl, rfl, ?_⟩
  cases view .fr t with
  | none => trivial
  | some v => exact ⟨rfl, rfl⟩

theorem all2_refl : ∀ l : List Tok, All2 SameView l l := by
  intro l
  induction l with
  | nil => exact .nil
  | cons a r ih => exact .cons (sameView_refl a) ih

theorem formatOK_id : FormatOK (fun _ l => l) := fun _ l => all2_refl l

/-- one node over single-token leaves -/
theorem realAll_leaves (place format : Nat → List Tok → List Tok) : ∀ toks : List Tok,
    RealAll place format (toks.map fun t => .leaf [t]) toks [] (toks.map fun t => [t]) []
  | [] => .nil
  | t :: r => .cons _ _ _ _ _ _ _ _ _ _ (.leaf [t]) (realAll_leaves place format r)

theorem invOut_leaves (toks : List Tok) (h : toks.all (fun t => tokWF t && freshTok t) = true) :
    ∀ ts ∈ toks.map (fun t => [t]), InvOut ts := by
  intro ts hts
  obtain ⟨t, ht, rfl⟩ := List.mem_map.mp hts
  have := List.all_eq_true.mp h t ht
  simp only [Bool.and_eq_true] at this
  exact ⟨fun x hx => by rw [List.mem_singleton.mp hx]; exact this.1, rfl, fun x hx => by cases hx; exact this.2⟩

end Pyrealb.Elision
