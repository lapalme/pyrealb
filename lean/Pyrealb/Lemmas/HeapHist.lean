import Pyrealb.Lemmas.HeapAbsorb
import Pyrealb.Lemmas.HeapOps
/-! # Histories of `add` on one phrase: the pointer part is the result of the successive link runs

`Trace p h steps Ps h'`: adding the nodes `steps` (each with its position) to the phrase `p`, starting in `h`, ends in
`h'`, and `Ps` are the plans of the successive `linkProperties` runs.  Only the link runs touch the pointer part
(`trace_ptr`); `runs_absorbed` is absorption for a whole history. -/
namespace Pyrealb.Heap
open Pyrealb

/-! ### the structural steps do not touch the pointer part -/

@[simp] theorem ptr_setNode (h : Heap) (x : Nat) (nd : Node) : (h.setNode x nd).ptr = h.ptr := rfl
@[simp] theorem ptr_warn (h : Heap) (k : Nat) : (h.warn k).ptr = h.ptr := rfl
@[simp] theorem ptr_setKids (h : Heap) (p : Nat) (l : List Nat) : (setKids h p l).ptr = h.ptr := rfl
@[simp] theorem ptr_setParent (h : Heap) (x : Nat) (q : Option Nat) : (setParent h x q).ptr = h.ptr := rfl

@[simp] theorem ptr_addElement (h : Heap) (p e : Nat) (pos : Option Int) : (addElement h p e pos).ptr = h.ptr := by
  unfold addElement
  cases pos with
  | none => simp
  | some i => simp only; split <;> simp

@[simp] theorem ptr_removeElement (h : Heap) (p i : Nat) : (removeElement h p i).1.ptr = h.ptr := by
  simp only [removeElement]
  split <;> simp

@[simp] theorem ptr_moveElement (h : Heap) (p i idx : Nat) : (moveElement h p i idx).ptr = h.ptr := by
  have hrm := ptr_removeElement h p i
  unfold moveElement
  cases hr : removeElement h p i with
  | mk h1 o =>
    rw [hr] at hrm
    cases o <;> simpa using hrm

@[simp] theorem ptr_reorderStep (h : Heap) (p i : Nat) : (reorderStep h p i).ptr = h.ptr := by
  unfold reorderStep
  split
  · rfl
  · split
    · split
      · rfl
      · simp only [apply_ite Heap.ptr, ptr_moveElement, ite_self]
    · rfl

@[simp] theorem ptr_reorderLoop (h : Heap) (p : Nat) (l : List Nat) : (reorderLoop h p l).ptr = h.ptr := by
  induction l generalizing h with
  | nil => rfl
  | cons i is ih => simp [reorderLoop, ih]

@[simp] theorem ptr_reorder (h : Heap) (p : Nat) : (reorder h p).ptr = h.ptr := by simp [reorder]

@[simp] theorem ptr_initElems (h : Heap) (p : Nat) (l : List Item) : (initElems h p l).ptr = h.ptr := by
  induction l generalizing h with
  | nil => rfl
  | cons x r ih => cases x <;> simp [initElems, ih]

theorem ptr_preLink (h : Heap) (p e : Nat) (pos : Option Int) : (preLink h p e pos).ptr = h.ptr := by
  simp [preLink]

def PurePlan (P : List Act) : Prop := ∀ a ∈ P, a.pure = true

instance : DecidablePred PurePlan := fun P => by unfold PurePlan; exact inferInstance

theorem linkR_ptr (h : Heap) (p : Nat) (P : List Act) (h' : Heap)
    (hp : plan h p = some P) (pure : PurePlan P) (hr : linkR h p = .ok h') : execP h.ptr P = .ok h'.ptr := by
  obtain ⟨P', hp', _, hx⟩ := linkR_ok.1 hr
  cases hp.symm.trans hp'
  rw [exec_pure h P pure] at hx
  cases hq : execP h.ptr P with
  | error c => rw [hq] at hx; cases hx
  | ok q => rw [hq] at hx; cases hx; rfl

def runPlans : Ptr → List (List Act) → Except Crash Ptr
  | q, [] => .ok q
  | q, P :: Ps =>
    match execP q P with
    | .error c => .error c
    | .ok q' => runPlans q' Ps

/-- `relinkUp fuel h x = .ok h'`, with the plans `Qs` of the link runs of the ancestors of `x` (nearest first) -/
inductive UpRuns : Nat → Heap → Nat → List (List Act) → Heap → Prop where
  | top {fuel : Nat} {h : Heap} {x : Nat} : (h.node x).parent = none → UpRuns (fuel + 1) h x [] h
  | up {fuel : Nat} {h h1 h2 : Heap} {x q : Nat} {P : List Act} {Qs : List (List Act)} :
      (h.node x).parent = some q → plan h q = some P → linkR h q = .ok h1 → UpRuns fuel h1 q Qs h2 →
      UpRuns (fuel + 1) h x (P :: Qs) h2

theorem relinkUp_runs : ∀ (fuel : Nat) (h : Heap) (x : Nat) (h' : Heap), relinkUp fuel h x = .ok h' →
    ∃ Qs, UpRuns fuel h x Qs h'
  | 0, _, _, _, hr => by cases hr
  | f + 1, h, x, h', hr => by
    rcases relinkUp_ok.1 hr with ⟨hpar, rfl⟩ | ⟨q, h1, hpar, hl, hr⟩
    · exact ⟨[], UpRuns.top hpar⟩
    · obtain ⟨Qs, u⟩ := relinkUp_runs f h1 q h' hr
      obtain ⟨P, hp, _⟩ := linkR_ok.1 hl
      exact ⟨P :: Qs, UpRuns.up hpar hp hl u⟩

theorem upRuns_ptr {fuel : Nat} {h h' : Heap} {x : Nat} {Qs : List (List Act)} (u : UpRuns fuel h x Qs h')
    (pure : ∀ Q ∈ Qs, PurePlan Q) : runPlans h.ptr Qs = .ok h'.ptr := by
  induction u with
  | top _ => rfl
  | up _ hp hl _ ih =>
    simp only [runPlans]
    rw [linkR_ptr _ _ _ _ hp (pure _ List.mem_cons_self) hl]
    exact ih (fun Q hQ => pure Q (List.mem_cons_of_mem _ hQ))

/-- adding the nodes `steps` one after the other to `p`; `Ps` = the plans of ALL the link runs, in order: for each step
    the run of `p` itself and then the runs of its ancestors -/
inductive Trace (p : Nat) : Heap → List (Nat × Option Int) → List (List Act) → Heap → Prop where
  | nil (h : Heap) : Trace p h [] [] h
  | cons {h hl hu h2 : Heap} {e : Nat} {pos : Option Int} {rest : List (Nat × Option Int)} {P : List Act}
      {Qs Ps : List (List Act)} :
      plan (preLink h p e pos) p = some P → linkR (preLink h p e pos) p = .ok hl →
      UpRuns (hl.n + 1) hl p Qs hu → Trace p (reorder hu p) rest Ps h2 →
      Trace p h ((e, pos) :: rest) (P :: Qs ++ Ps) h2

theorem runPlans_append (q : Ptr) (Ps Qs : List (List Act)) :
    runPlans q (Ps ++ Qs) = (match runPlans q Ps with | .error c => .error c | .ok q' => runPlans q' Qs) := by
  induction Ps generalizing q with
  | nil => simp [runPlans]
  | cons P Ps ih =>
    simp only [List.cons_append, runPlans]
    cases execP q P with
    | error c => rfl
    | ok q' => exact ih q'

theorem trace_ptr {p : Nat} {h h' : Heap} {steps : List (Nat × Option Int)} {Ps : List (List Act)}
    (tr : Trace p h steps Ps h') (pure : ∀ P ∈ Ps, PurePlan P) : runPlans h.ptr Ps = .ok h'.ptr := by
  induction tr with
  | nil h => rfl
  | @cons h0 hl0 hu0 h20 e pos rest P Qs Ps0 hp hl hu _ ih =>
    have pureP : PurePlan P := pure _ List.mem_cons_self
    have pureQ : ∀ Q ∈ Qs, PurePlan Q := fun Q hQ => pure Q (by simp [hQ])
    have pureR : ∀ Q ∈ Ps0, PurePlan Q := fun Q hQ => pure Q (by simp [hQ])
    have e1 := linkR_ptr _ _ _ _ hp pureP hl
    rw [ptr_preLink] at e1
    have e2 := upRuns_ptr hu pureQ
    have e3 := ih pureR
    rw [ptr_reorder] at e3
    show runPlans h0.ptr ((P :: Qs) ++ Ps0) = _
    rw [runPlans_append]
    simp only [runPlans, e1, e2, e3]

theorem phraseAdd1_trace (h : Heap) (p e : Nat) (pos : Option Int) (h1 : Heap) (hr : phraseAdd1 h p e pos = .ok h1) :
    ∃ P Qs hl hu, plan (preLink h p e pos) p = some P ∧ linkR (preLink h p e pos) p = .ok hl ∧
      UpRuns (hl.n + 1) hl p Qs hu ∧ h1 = reorder hu p := by
  obtain ⟨h2, h3, hl, hu, rfl⟩ := phraseAdd1_ok.1 hr
  obtain ⟨Qs, u⟩ := relinkUp_runs _ _ _ _ hu
  obtain ⟨P, hp, _⟩ := linkR_ok.1 hl
  exact ⟨P, Qs, h2, h3, hp, hl, u, rfl⟩

/-- the constant writes of successive successful runs, each compiled in the state it actually starts from -/
def runW (q : Ptr) : List (List Act) → Option (List Wr)
  | [] => some []
  | P :: Ps =>
    match compile q {} P with
    | some (ws, none) =>
      match runW (applyW q ws) Ps with
      | some W => some (ws ++ W)
      | none => none
    | _ => none

theorem runW_sound (q : Ptr) (Ps : List (List Act)) (W : List Wr) (hw : runW q Ps = some W) :
    runPlans q Ps = .ok (applyW q W) := by
  induction Ps generalizing q W with
  | nil => cases hw; rfl
  | cons P Ps ih =>
    simp only [runW] at hw
    split at hw
    next ws hc =>
      split at hw
      next W2 hW =>
        cases hw
        simp only [runPlans, compile_run q P _ hc, finish, ih _ _ hW, applyW_append]
      next => cases hw
    next => cases hw

/-- **absorption for a whole history.**  If every location written by the earlier link runs `Ps` is written again by the
    final run `P`, and `P` performs the same constant writes in the state the history reached as in the state `q` the
    history started from, then the result is the result of `P` alone. -/
theorem runs_absorbed (q : Ptr) (Ps : List (List Act)) (P : List Act) (W ws : List Wr)
    (hW : runW q Ps = some W) (hc : compile q {} P = some (ws, none))
    (stable : compile (applyW q W) {} P = some (ws, none)) (cover : ∀ l ∈ locs W, l ∈ locs ws) :
    runPlans q (Ps ++ [P]) = execP q P := by
  rw [runPlans_append, runW_sound q Ps W hW]
  simp only [runPlans]
  rw [compile_run _ P _ stable, compile_run q P _ hc]
  simp only [finish]
  rw [applyW_absorb q W ws cover]

end Pyrealb.Heap
