import Pyrealb.Lemmas.NumberSpell
/-! Ordinals: `ordinalOf` (the model of the code) and `ordRule` (the specification) only look at the end of the
spelling, after its last space.  What follows the last space of a spelling is the text of a number below 100, of a
round hundred, or a scale form: a finite family, on which the two are compared by kernel evaluation (`ord_tbl`). -/
namespace Pyrealb.Number
open Pyrealb Pyrealb.NumberSpec Pyrealb.Gen.NumberWords

theorem tailSplit_append (p : Char → Bool) (hp : p ' ' = false) (A T : Str) (hA : EndsSpace A) :
    tailSplit p (A ++ T) = (A ++ (tailSplit p T).1, (tailSplit p T).2) := by
  -- the run of `p` at the end of `A ++ T` stops inside `T` or at the space that ends `A`
  have hrun : (A ++ T).reverse.takeWhile p = T.reverse.takeWhile p := by
    rw [List.reverse_append, List.takeWhile_append]
    split
    · rename_i h
      have hA' : A.reverse.takeWhile p = [] := by
        rcases hA with rfl | ⟨A', rfl⟩
        · rfl
        · simp [hp]
      rw [hA', List.append_nil, (List.takeWhile_prefix p).eq_of_length h]
    · rfl
  unfold tailSplit
  simp only [hrun]
  have hle : (T.reverse.takeWhile p).reverse.length ≤ T.length := by
    rw [List.length_reverse]
    have := (List.takeWhile_prefix p (l := T.reverse)).length_le
    simpa using this
  congr 1
  have : (A ++ T).length - (T.reverse.takeWhile p).reverse.length
      = A.length + (T.length - (T.reverse.takeWhile p).reverse.length) := by
    rw [List.length_append]; omega
  rw [this, List.take_length_add_append]

theorem lastIs_append (A T c : Str) (hT : T ≠ []) : lastIs (A ++ T) c = lastIs T c := by
  unfold lastIs
  rw [List.getLast?_append]
  cases h : T.getLast? with
  | none => exact absurd (List.getLast?_eq_none_iff.mp h) hT
  | some a => simp

theorem dropRight_append (A T : Str) (hT : T ≠ []) : dropRight (A ++ T) 1 = A ++ dropRight T 1 := by
  unfold dropRight
  have hpos : 0 < T.length := List.length_pos_iff.mpr hT
  have : (A ++ T).length - 1 = A.length + (T.length - 1) := by rw [List.length_append]; omega
  rw [this, List.take_length_add_append]

theorem endsWith_iff_suffix (x suf : Str) : endsWith x suf = true ↔ suf <:+ x := by
  simp only [endsWith, Bool.and_eq_true, decide_eq_true_eq, beq_iff_eq]
  exact ⟨fun h => List.suffix_iff_eq_drop.mpr h.2.symm, fun h => ⟨h.length_le, (List.suffix_iff_eq_drop.mp h).symm⟩⟩

/-- `T` is long enough to decide whether a text that ends with `T` ends with `suf` -/
def safeSuf (suf T : Str) : Bool := decide (suf.length ≤ T.length) || !(endsWith suf T)

theorem endsWith_append_safe (A T suf : Str) (h : safeSuf suf T = true) :
    endsWith (A ++ T) suf = endsWith T suf := by
  rw [Bool.eq_iff_iff, endsWith_iff_suffix, endsWith_iff_suffix]
  refine ⟨fun h1 => ?_, fun h1 => h1.trans (List.suffix_append A T)⟩
  -- two suffixes of `A ++ T`: one is a suffix of the other
  rcases List.suffix_or_suffix_of_suffix h1 (List.suffix_append A T) with h2 | h2
  · exact h2
  · simp only [safeSuf, Bool.or_eq_true, decide_eq_true_eq, Bool.not_eq_true', ← Bool.not_eq_true,
      endsWith_iff_suffix] at h
    rcases h with hl | hn
    · rw [h2.eq_of_length (Nat.le_antisymm h2.length_le hl)]
      exact List.suffix_refl _
    · exact absurd h2 hn

theorem append_ne_of_space (A T Z : Str) (hA : EndsSpace A) (hne : A ≠ []) (hZ : ' ' ∉ Z) : A ++ T ≠ Z := by
  intro h
  rcases hA with rfl | ⟨A', rfl⟩
  · exact hne rfl
  · apply hZ; rw [← h]; simp

/-- the conditions under which the ordinal of `A ++ T` is `A ++` the ordinal of `T` -/
def locOK (T : Str) : Bool :=
  !T.isEmpty && T != ordZeroFr && T != ordZeroEn && T != ordUnFr && T != s "un"

/-- the strings `ordinalOf` compares the whole text with contain no space, and a space is not a word character (`\w`) -/
theorem ordConsts_tbl : ' ' ∉ ordZeroFr ∧ ' ' ∉ ordZeroEn ∧ ' ' ∉ ordUnFr ∧ isWordChar ' ' = false := by
  decide +kernel

theorem ordinalOf_append (ℓ : Lang) (g : Gender) (A T : Str) (hA : EndsSpace A) (hne : A ≠ [])
    (hT : locOK T = true) : ordinalOf ℓ g (A ++ T) = (ordinalOf ℓ g T).map (A ++ ·) := by
  obtain ⟨z1, z2, z3, hw⟩ := ordConsts_tbl
  simp only [locOK, Bool.and_eq_true, Bool.not_eq_true', bne_iff_ne, ne_eq] at hT
  obtain ⟨⟨⟨⟨t0, t1⟩, t2⟩, t3⟩, _⟩ := hT
  have t0' : T ≠ [] := by intro h; simp [h] at t0
  have n1 := append_ne_of_space A T ordZeroFr hA hne z1
  have n2 := append_ne_of_space A T ordZeroEn hA hne z2
  have n3 := append_ne_of_space A T ordUnFr hA hne z3
  have hsp := tailSplit_append isWordChar hw A T hA
  generalize hpq : tailSplit isWordChar T = pq at hsp
  obtain ⟨p, lw⟩ := pq
  simp only at hsp
  unfold ordinalOf lastWordSplit
  simp only [hsp, hpq, n1, n2, n3, t1, t2, t3, or_self, if_false, lastIs_append A T _ t0', dropRight_append A T t0']
  by_cases hw2 : lw.isEmpty = true
  · simp [hw2, Except.map]
  · simp only [hw2]
    cases ℓ with
    | en =>
      simp only
      cases hx : lookup lw ordEnExceptions with
      | some o => simp [hx, Except.map, pure, Except.pure]
      | none =>
        by_cases hy : lastIs T ordYEn = true <;> simp [hx, hy, Except.map, pure, Except.pure]
    | fr =>
      simp only
      by_cases he : lw = ordUn2Fr
      · simp [he, Except.map, pure, Except.pure]
      · cases hx : lookup lw ordFrExceptions with
        | some o => simp [he, hx, Except.map, pure, Except.pure]
        | none =>
          by_cases hy : (lastIs T ordEFr || pluralMarked lw) = true <;>
            simp [he, hx, hy, Except.map, pure, Except.pure]

theorem ordRule_append (ℓ : Lang) (g : Gender) (A T : Str) (hA : EndsSpace A) (hne : A ≠ [])
    (hT : locOK T = true) : ordRule ℓ g (A ++ T) = (ordRule ℓ g T).map (A ++ ·) := by
  simp only [locOK, Bool.and_eq_true, bne_iff_ne, ne_eq] at hT
  obtain ⟨⟨⟨⟨_, _⟩, _⟩, _⟩, t4⟩ := hT
  have n4 := append_ne_of_space A T (s "un") hA hne (by decide)
  have hsp := tailSplit_append (fun c => !isSep c) (by decide) A T hA
  generalize hpq : tailSplit (fun c => !isSep c) T = pq at hsp
  obtain ⟨p, lw⟩ := pq
  simp only at hsp
  unfold ordRule splitLast
  cases ℓ with
  | en =>
    simp only [hsp, hpq]
    cases hx : lookup lw ordWordsEn <;> simp
  | fr =>
    simp only [hsp, hpq, n4, t4, if_false]
    cases hx : lookup lw ordWordsFr <;> simp

def Agree (ℓ : Lang) (g : Gender) (w : Str) : Prop := ∃ o, ordinalOf ℓ g w = .ok o ∧ ordRule ℓ g w = some o

def agreeB (ℓ : Lang) (g : Gender) (w : Str) : Bool :=
  match ordinalOf ℓ g w, ordRule ℓ g w with
  | .ok o, some o' => o == o'
  | _, _ => false

theorem agree_of_agreeB {ℓ : Lang} {g : Gender} {w : Str} (h : agreeB ℓ g w = true) : Agree ℓ g w := by
  unfold agreeB at h
  cases h1 : ordinalOf ℓ g w with
  | error e => simp [h1] at h
  | ok o =>
    cases h2 : ordRule ℓ g w with
    | none => simp [h1, h2] at h
    | some o' =>
      simp only [h1, h2, beq_iff_eq] at h
      exact ⟨o, h1, by rw [h2, h]⟩

theorem agree_append (ℓ : Lang) (g : Gender) (A T : Str) (hA : EndsSpace A) (hT : locOK T = true)
    (h : Agree ℓ g T) : Agree ℓ g (A ++ T) := by
  by_cases hne : A = []
  · subst hne; simpa using h
  · obtain ⟨o, h1, h2⟩ := h
    refine ⟨A ++ o, ?_, ?_⟩
    · rw [ordinalOf_append ℓ g A T hA hne hT, h1]; rfl
    · rw [ordRule_append ℓ g A T hA hne hT, h2]; rfl

/-- outside the text `un` the gender plays no role -/
theorem agree_gender (ℓ : Lang) (g : Gender) (T : Str) (hT : locOK T = true) (h : Agree ℓ .m T) : Agree ℓ g T := by
  simp only [locOK, Bool.and_eq_true, bne_iff_ne, ne_eq] at hT
  obtain ⟨⟨⟨⟨_, _⟩, _⟩, t3⟩, t4⟩ := hT
  obtain ⟨o, h1, h2⟩ := h
  refine ⟨o, ?_, ?_⟩
  · rw [← h1]; unfold ordinalOf; simp only [t3, if_false]
  · rw [← h2]; unfold ordRule; simp only [t4, if_false]

/-- French: after a space, the group `un` (1001 `mille un`, `un million un`) gives `… unième` on both sides -/
theorem agree_append_un (g : Gender) (A : Str) (hA : EndsSpace A) (hne : A ≠ []) : Agree .fr g (A ++ ordUnFr) := by
  obtain ⟨z1, z2, z3, hw⟩ := ordConsts_tbl
  have n1 := append_ne_of_space A ordUnFr ordZeroFr hA hne z1
  have n2 := append_ne_of_space A ordUnFr ordZeroEn hA hne z2
  have n3 := append_ne_of_space A ordUnFr ordUnFr hA hne z3
  have n4 := append_ne_of_space A ordUnFr (s "un") hA hne (by decide)
  obtain ⟨e1, e2, e3, e4, e5, e6⟩ : tailSplit isWordChar ordUnFr = ([], ordUnFr) ∧
      tailSplit (fun c => !isSep c) ordUnFr = ([], ordUnFr) ∧ ordUnFr = ordUn2Fr ∧
      lookup ordUnFr ordWordsFr = some (s "unième") ∧ ordUnFr ++ ordIeme1Fr = s "unième" ∧
      ordUnFr.isEmpty = false := by decide +kernel
  refine ⟨A ++ s "unième", ?_, ?_⟩
  · unfold ordinalOf lastWordSplit
    rw [tailSplit_append isWordChar hw A ordUnFr hA, e1]
    simp only [n1, n2, n3, or_self, ↓reduceIte, e6, Bool.false_eq_true, List.append_nil]
    rw [if_pos e3]
    simp only [pure, Except.pure, List.append_assoc, e5]
  · unfold ordRule splitLast
    rw [tailSplit_append (fun c => !isSep c) (by decide) A ordUnFr hA, e2]
    simp [n4, e4]

def headOK (T : Str) : Bool := match T.head? with | some c => !isPySpace c | none => false

/-- checks on a text `T` that can end a spelling: `strip()` keeps its two ends; it is local (or the French `un`);
    model and specification agree on it -/
def tailOK (ℓ : Lang) (T : Str) : Bool :=
  headOK T && headOK T.reverse && (locOK T || T == ordUnFr) && agreeB ℓ .m T

def tripletTailOK (ℓ : Lang) (t : Nat) : Bool :=
  t == 0 || (match centaines ℓ t with | .ok T => tailOK ℓ T | .error _ => false)

def ordTablesOK (ℓ : Lang) : Bool :=
  (List.range 100).all (tripletTailOK ℓ) && (List.range 10).all (fun c => tripletTailOK ℓ (c * 100)) &&
    (scaleTable ℓ).all (fun sc => tailOK ℓ sc.1 && tailOK ℓ sc.2)

theorem ord_tbl : ordTablesOK .en = true ∧ ordTablesOK .fr = true := by decide +kernel

theorem ord_spec (ℓ : Lang) :
    (∀ r T, 1 ≤ r → (r < 100 ∨ ∃ c < 10, r = c * 100) → centaines ℓ r = .ok T → tailOK ℓ T = true) ∧
    ∀ sc ∈ scaleTable ℓ, tailOK ℓ sc.1 = true ∧ tailOK ℓ sc.2 = true := by
  have htab : ordTablesOK ℓ = true := by
    cases ℓ
    · exact ord_tbl.1
    · exact ord_tbl.2
  simp only [ordTablesOK, Bool.and_eq_true, List.all_eq_true, List.mem_range] at htab
  obtain ⟨⟨hlow, hround⟩, hsc⟩ := htab
  refine ⟨fun r T hr hcase hT => ?_, hsc⟩
  have h : tripletTailOK ℓ r = true := by
    rcases hcase with h100 | ⟨c, hc, rfl⟩
    · exact hlow r h100
    · exact hround c hc
  have h0 : (r == 0) = false := by simp; omega
  simpa [tripletTailOK, h0, hT] using h

theorem centaines_tail (ℓ : Lang) (t : Nat) (w : Str) (h1 : 1 ≤ t) (h2 : t < 1000) (hw : centaines ℓ t = .ok w) :
    EndsIn (tailOK ℓ · = true) w := by
  have key := (ord_spec ℓ).1
  by_cases h100 : t < 100
  · exact ⟨[], w, [], by simp, Or.inl rfl, Or.inl rfl, key t w h1 (Or.inl h100) hw⟩
  · by_cases hr : t % 100 = 0
    · exact ⟨[], w, [], by simp, Or.inl rfl, Or.inl rfl, key t w h1 (Or.inr ⟨t / 100, by omega, by omega⟩) hw⟩
    · rw [centaines_split ℓ t (by omega) hr] at hw
      cases ha : hundredsPrefix ℓ (t / 100) with
      | error e => simp [ha, bind, Except.bind] at hw
      | ok a =>
        cases hT : centaines ℓ (t % 100) with
        | error e => simp [ha, hT, bind, Except.bind] at hw
        | ok T =>
          simp only [ha, hT, bind, Except.bind, pure, Except.pure, Except.ok.injEq] at hw
          have hp := ((tables_spec (tables_ok ℓ)).2.1 (t / 100) (by omega) (by omega)).1
          simp only [prefixOK, ha, Bool.and_eq_true, beq_iff_eq] at hp
          exact ⟨a, T, [], by simp [hw], Or.inr (List.getLast?_eq_some_iff.mp hp.1), Or.inl rfl,
            key (t % 100) T (by omega) (Or.inl (Nat.mod_lt _ (by decide))) hT⟩

theorem lstrip_of_head (x : Str) (h : headOK x = true) : lstrip x = x := by
  cases x with
  | nil => rfl
  | cons c r =>
    simp only [headOK, List.head?_cons, Bool.not_eq_true'] at h
    simp [lstrip, h]

theorem headOK_append (x y : Str) (h : headOK x = true) : headOK (x ++ y) = true := by
  cases x with
  | nil => simp [headOK] at h
  | cons c r => simpa [headOK] using h

/-- `lstrip` stops at `T` at the latest, and what it leaves of `A` still ends with a space -/
theorem lstrip_append (A T : Str) (hA : EndsSpace A) (hT : headOK T = true) :
    ∃ A', lstrip (A ++ T) = A' ++ T ∧ EndsSpace A' := by
  induction A with
  | nil => exact ⟨[], by simpa using lstrip_of_head T hT, Or.inl rfl⟩
  | cons c A ih =>
    by_cases hc : isPySpace c = true
    · have hA' : EndsSpace A := by
        rcases hA with h | ⟨A', h⟩
        · cases h
        · cases A' with
          | nil => simp at h; exact Or.inl h.2
          | cons d A' => simp at h; exact Or.inr ⟨A', h.2⟩
      obtain ⟨A', e, hA'⟩ := ih hA'
      exact ⟨A', by simp [lstrip, hc, e], hA'⟩
    · exact ⟨c :: A, by simp [lstrip, hc], hA⟩

theorem strip_tail (A T trail : Str) (hA : EndsSpace A) (h1 : headOK T = true) (h2 : headOK T.reverse = true)
    (ht : trail = [] ∨ trail = [' ']) : ∃ A', strip (A ++ T ++ trail) = A' ++ T ∧ EndsSpace A' := by
  obtain ⟨A', e, hA'⟩ := lstrip_append A (T ++ trail) hA (headOK_append T trail h1)
  refine ⟨A', ?_, hA'⟩
  have hrev := lstrip_of_head _ (headOK_append T.reverse A'.reverse h2)
  unfold strip
  rw [List.append_assoc, e]
  rcases ht with rfl | rfl
  · simp [hrev]
  · simp [lstrip, (by decide : isPySpace ' ' = true), hrev]

theorem spelling_shape (ℓ : Lang) (n : Int) (hn : 1 ≤ n) (hd : n.natAbs < 10 ^ 21) :
    ∃ A T, enToutesLettres ℓ n = .ok (A ++ T) ∧ EndsSpace A ∧ tailOK ℓ T = true := by
  obtain ⟨hne, hlt, hval, _⟩ := splitSAux_spec n.natAbs n.natAbs (Nat.le_refl _)
  have hnz : tousZero (splitS n.natAbs) = false := by
    cases h : tousZero (splitS n.natAbs) with
    | false => rfl
    | true =>
      have := tousZero_value _ h
      have hv : value (splitS n.natAbs) = n.natAbs := hval
      omega
  obtain ⟨w0, _, _, hg, _, _, _, ht⟩ := grouper_eval (facts_of_tables (tables_ok ℓ)) (centaines_tail ℓ)
    (ord_spec ℓ).2 (splitS n.natAbs) hne hlt (scaleOK_of_lt ℓ _ hd) 0
  obtain ⟨A, T, trail, e, hA, htr, hT⟩ := ht hnz
  have hneg : ¬ (n < 0) := by omega
  have hT' := hT
  simp only [tailOK, Bool.and_eq_true] at hT'
  obtain ⟨A', e', hA'⟩ := strip_tail A T trail hA hT'.1.1.1 hT'.1.1.2 htr
  exact ⟨A', T, by simp only [enToutesLettres, hg, hneg, if_false, pure, Except.pure, e, e'], hA', hT⟩

/-- **C16.c** in both languages: model and rule look only at what follows the last space of the spelling, a member
    of the family, on which they agree -/
theorem ordinal_follows (ℓ : Lang) (n : Int) (g : Gender) (hn : 1 ≤ n) (hd : n.natAbs < 10 ^ 21) :
    ∃ w o, enToutesLettres ℓ n = .ok w ∧ ordinal ℓ n g = .ok o ∧ ordRule ℓ g w = some o := by
  obtain ⟨A, T, hw, hA, hT⟩ := spelling_shape ℓ n hn hd
  simp only [tailOK, Bool.and_eq_true, Bool.or_eq_true, beq_iff_eq] at hT
  obtain ⟨⟨_, hpart⟩, hag⟩ := hT
  have hres : Agree ℓ g (A ++ T) := by
    rcases hpart with hloc | hun
    · exact agree_append ℓ g A T hA hloc (agree_gender ℓ g T hloc (agree_of_agreeB hag))
    · -- the group is the French `un`
      subst hun
      cases ℓ with
      | en => exact absurd hag (by decide +kernel)
      | fr =>
        by_cases hne : A = []
        · subst hne
          simp only [List.nil_append]
          cases g <;> exact agree_of_agreeB (by decide +kernel)
        · exact agree_append_un g A hA hne
  obtain ⟨o, h1, h2⟩ := hres
  exact ⟨_, o, hw, by unfold ordinal; rw [hw]; exact h1, h2⟩

end Pyrealb.Number
