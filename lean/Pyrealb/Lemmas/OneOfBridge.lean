import Pyrealb.Model.OneOf
import Pyrealb.Lemmas.OneOfRev
/-! Bridge between the Python-order model (`stepPy`, `runPy`: `pop()` takes the last element) and the
    reversed-stack view (`Rev.step`, `Rev.run`) in which the invariants were proved. -/
namespace Pyrealb.OneOf
open Rev

theorem pop?_reverse (l : List Nat) :
    pop? l.reverse = match l with | [] => none | i :: r => some (i, r.reverse) := by
  cases l with
  | nil => simp [pop?]
  | cons i r => simp [pop?]

theorem swapFL_eq_swapHL (l : List Nat) : swapFL l = swapHL l := by
  cases l with
  | nil => rfl
  | cons a r => cases r <;> rfl

theorem swapHL_reverse : ∀ l : List Nat, swapHL l.reverse = (swapHL l).reverse
  | [] => rfl
  | [_] => rfl
  | a :: b :: r => by
    obtain ⟨mid, z, e, _⟩ := exists_mid b r
    have : (a :: (mid ++ [z])).reverse = z :: (mid.reverse ++ [a]) := by simp
    rw [e, swapHL_concat, this, swapHL_concat]
    simp

theorem reshuffle_reverse (idx : Nat) (perm : List Nat) :
    (reshuffle idx perm.reverse).reverse = (step (some [idx]) perm).2 := by
  cases perm with
  | nil => rfl
  | cons j r =>
    have : (j :: r).reverse.getLast? = some j := by simp
    unfold reshuffle
    rw [this]
    by_cases h : j = idx
    · simp only [h, if_true, step, List.isEmpty_nil]
      rw [swapFL_eq_swapHL, swapHL_reverse, List.reverse_reverse]
    · simp [h, step]

theorem stepPy_none_reverse (i : Nat) (r : List Nat) : stepPy none (i :: r).reverse = some (i, r.reverse) :=
  pop?_reverse (i :: r)

theorem stepPy_some_reverse (i : Nat) (r perm : List Nat) :
    stepPy (some (i :: r).reverse) perm.reverse = some (i, (step (some (i :: r)) perm).2.reverse) := by
  simp only [stepPy, pop?_reverse]
  cases r with
  | nil =>
    simp only [List.reverse_nil, List.length_nil, if_true]
    rw [← reshuffle_reverse i perm, List.reverse_reverse]
  | cons a t => simp [step]

theorem isPerm_map_reverse {n : Nat} {ps : List (List Nat)} (hps : ∀ p ∈ ps, IsPerm n p) :
    ∀ p ∈ ps.map List.reverse, IsPerm n p := by
  intro p hp
  obtain ⟨q, hq, rfl⟩ := List.mem_map.mp hp
  exact (List.reverse_perm q).trans (hps q hq)

theorem runPy_some_reverse {n : Nat} (hn : 2 ≤ n) :
    ∀ (ps : List (List Nat)) (m : List Nat), Good m → (∀ p ∈ ps, IsPerm n p) →
      runPy (some m.reverse) (ps.map List.reverse) = (run (some m) ps).map some
  | [], _, _, _ => rfl
  | _ :: _, [], hg, _ => absurd rfl hg.1
  | p :: ps, i :: r, hg, hps => by
    obtain ⟨_, hg', _⟩ := step_some hn i r p hg (hps p (by simp))
    simp only [List.map_cons, runPy, stepPy_some_reverse, run, step_fst]
    rw [runPy_some_reverse hn ps _ hg' (fun q hq => hps q (by simp [hq]))]

theorem runPy_none_reverse {n : Nat} (hn : 2 ≤ n) (ps : List (List Nat)) (hps : ∀ p ∈ ps, IsPerm n p) :
    runPy none (ps.map List.reverse) = (run none ps).map some := by
  cases ps with
  | nil => rfl
  | cons p ps =>
    have hp := hps p (by simp)
    obtain ⟨a, b, r, rfl⟩ := hp.two_le hn
    simp only [List.map_cons, runPy, stepPy_none_reverse, run, step]
    rw [runPy_some_reverse hn ps (b :: r) ⟨by simp, (List.nodup_cons.mp hp.nodup).2⟩ (fun q hq => hps q (by simp [hq]))]

theorem runPy_eq {n : Nat} (hn : 2 ≤ n) (ps : List (List Nat)) (hps : ∀ p ∈ ps, IsPerm n p) :
    runPy none ps = (run none (ps.map List.reverse)).map some := by
  simpa [List.map_map, Function.comp_def] using runPy_none_reverse hn _ (isPerm_map_reverse hps)

end Pyrealb.OneOf
