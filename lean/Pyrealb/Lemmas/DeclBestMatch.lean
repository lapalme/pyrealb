import Pyrealb.Model.BestMatch
/-! The two loops of `bestMatch` against the declarative `score` / `FirstMax`; bounds of the
declarative score, with the rows of maximal score characterised as the exact ones. -/
namespace Pyrealb.Decl

theorem peClash_cons (row : Row) (k : Feat) (v : FV) (rest : KeyVals) :
    peClash row ((k, v) :: rest) ↔ (k = Feat.pe ∧ ∃ w, row.get k = some w ∧ w ≠ v) ∨ peClash row rest := by
  simp only [peClash, List.mem_cons, exists_eq_or_imp]
  refine or_congr ⟨?_, ?_⟩ Iff.rfl
  · rintro ⟨rfl, h1, h2⟩
    cases hg : row.get Feat.pe with
    | none => exact absurd hg h1
    | some w => exact ⟨rfl, w, rfl, fun h => h2 (by rw [hg, h])⟩
  · rintro ⟨rfl, w, hg, hw⟩
    exact ⟨rfl, by simp [hg], by simpa [hg] using hw⟩

/-- the inner loop (with its `break`) computes the declarative score -/
theorem scoreLoop_eq (row : Row) (kv : KeyVals) (acc : Nat) :
    scoreLoop row kv acc = if peClash row kv then 0 else acc + (kv.map (entryScore row)).sum := by
  induction kv generalizing acc with
  | nil => simp [scoreLoop, peClash]
  | cons p rest ih =>
    obtain ⟨k, v⟩ := p
    simp only [peClash_cons, scoreLoop, List.map_cons, List.sum_cons, entryScore]
    cases hg : row.get k with
    | none => simp [ih]
    | some w =>
      by_cases hc : k = Feat.pe ∧ w ≠ v
      · simp [hc]
      · simp only [hc, Option.some.injEq, exists_eq_left', false_or, if_false, ih]
        by_cases hp : peClash row rest
        · simp [hp]
        · by_cases hwv : w = v
          · simp [hp, hwv, Nat.add_assoc]
          · by_cases hx : w = FV.x
            · subst hx
              simp [hp, hwv, Nat.add_assoc]
            · simp [hp, hwv, hx]

theorem scoreLoop_zero (row : Row) (kv : KeyVals) : scoreLoop row kv 0 = score row kv := by
  rw [scoreLoop_eq, score, Nat.zero_add]
/-- invariant of the outer loop: either nothing beat the accumulator, or the result is the first row that
    strictly beats the accumulator and everything before it, and is not beaten after it -/
theorem bestLoop_spec (kv : KeyVals) (ds : List Row) (b : Nat) (v : Option Str) :
    (bestLoop kv ds (b, v) = (b, v) ∧ ∀ d ∈ ds, score d kv ≤ b) ∨
    (∃ pre r post, ds = pre ++ r :: post ∧ b < score r kv ∧ (∀ p ∈ pre, score p kv < score r kv) ∧
        (∀ q ∈ post, score q kv ≤ score r kv) ∧ bestLoop kv ds (b, v) = (score r kv, some r.val)) := by
  induction ds generalizing b v with
  | nil => exact Or.inl ⟨rfl, nofun⟩
  | cons d ds ih =>
    unfold bestLoop
    rw [scoreLoop_zero]
    split
    · rename_i hgt
      rcases ih (score d kv) (some d.val) with ⟨heq, hall⟩ | ⟨pre, r, post, hds, hlt, hpre, hpost, heq⟩
      · exact Or.inr ⟨[], d, ds, rfl, hgt, nofun, hall, heq⟩
      · exact Or.inr ⟨d :: pre, r, post, by rw [hds]; rfl, by omega, List.forall_mem_cons.mpr ⟨hlt, hpre⟩, hpost, heq⟩
    · rename_i hgt
      rcases ih b v with ⟨heq, hall⟩ | ⟨pre, r, post, hds, hlt, hpre, hpost, heq⟩
      · exact Or.inl ⟨heq, List.forall_mem_cons.mpr ⟨by omega, hall⟩⟩
      · exact Or.inr ⟨d :: pre, r, post, by rw [hds]; rfl, hlt, List.forall_mem_cons.mpr ⟨by omega, hpre⟩, hpost, heq⟩
theorem FirstMax.mem {sc : Row → Nat} {rows : List Row} {r : Row} (h : FirstMax sc rows r) : r ∈ rows := by
  obtain ⟨pre, post, rfl, _⟩ := h
  simp

theorem FirstMax.pos {sc : Row → Nat} {rows : List Row} {r : Row} (h : FirstMax sc rows r) : 0 < sc r := by
  obtain ⟨_, _, _, h, _⟩ := h
  exact h

theorem FirstMax.le {sc : Row → Nat} {rows : List Row} {r : Row} (h : FirstMax sc rows r) :
    ∀ d ∈ rows, sc d ≤ sc r := by
  obtain ⟨pre, post, rfl, _, hpre, hpost⟩ := h
  intro d hd
  rcases List.mem_append.mp hd with hd | hd
  · exact Nat.le_of_lt (hpre d hd)
  · rcases List.mem_cons.mp hd with rfl | hd
    · exact Nat.le_refl _
    · exact hpost d hd

theorem sum_map_le {α} (f : α → Nat) (c : Nat) (l : List α) (h : ∀ x ∈ l, f x ≤ c) :
    (l.map f).sum ≤ c * l.length := by
  induction l with
  | nil => simp
  | cons a l ih =>
    have := h a (by simp)
    have := ih (fun x hx => h x (by simp [hx]))
    simp [Nat.mul_succ]; omega

theorem sum_map_eq_iff {α} (f : α → Nat) (c : Nat) (l : List α) (h : ∀ x ∈ l, f x ≤ c) :
    (l.map f).sum = c * l.length ↔ ∀ x ∈ l, f x = c := by
  induction l with
  | nil => simp
  | cons a l ih =>
    have ha := h a (by simp)
    have hl := fun x hx => h x (List.mem_cons_of_mem a hx)
    have hle := sum_map_le f c l hl
    have := ih hl
    simp only [List.map_cons, List.sum_cons, List.length_cons, Nat.mul_succ, List.forall_mem_cons]
    constructor
    · intro hs; exact ⟨by omega, this.mp (by omega)⟩
    · rintro ⟨h1, h2⟩; have := this.mpr h2; omega

theorem entryScore_le (row : Row) (p : Feat × FV) : entryScore row p ≤ 2 := by
  unfold entryScore
  repeat' split
  all_goals omega

theorem entryScore_eq_two {row : Row} {p : Feat × FV} : entryScore row p = 2 ↔ row.get p.1 = some p.2 := by
  unfold entryScore
  cases row.get p.1 with
  | none => simp
  | some w =>
    by_cases hw : w = p.2
    · simp [hw]
    · simp only [hw, if_false, Option.some.injEq, iff_false]
      split <;> omega

theorem not_peClash {row : Row} {kv : KeyVals}
    (h : ∀ p ∈ kv, ∀ w, row.get p.1 = some w → (w = p.2 ∨ (w = FV.x ∧ p.1 ≠ Feat.pe))) : ¬ peClash row kv := by
  rintro ⟨q, hq, hq1, hq2, hq3⟩
  cases hg : row.get Feat.pe with
  | none => exact hq2 hg
  | some w =>
    rcases h q hq w (hq1 ▸ hg) with h1 | ⟨_, h2⟩
    · exact hq3 (by rw [hg, h1])
    · exact h2 hq1

theorem score_le (row : Row) (kv : KeyVals) : score row kv ≤ 2 * kv.length := by
  unfold score
  split
  · omega
  · exact sum_map_le _ 2 kv (fun p _ => entryScore_le row p)

theorem score_eq_max {row : Row} {kv : KeyVals} (hne : kv ≠ []) : score row kv = 2 * kv.length ↔ Exact row kv := by
  have hlen : 0 < kv.length := List.length_pos_iff.mpr hne
  have hiff := sum_map_eq_iff (entryScore row) 2 kv (fun p _ => entryScore_le row p)
  unfold score
  constructor
  · intro h p hp
    split at h
    · omega
    · exact entryScore_eq_two.mp (hiff.mp h p hp)
  · intro h
    rw [if_neg (not_peClash fun p hp w hw => Or.inl (Option.some.inj (hw.symm.trans (h p hp))))]
    exact hiff.mpr (fun p hp => entryScore_eq_two.mpr (h p hp))

end Pyrealb.Decl
