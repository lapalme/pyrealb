import Pyrealb.Lemmas.ClauseFrPlaceLemmas
import Pyrealb.Model.ClauseFrRealize
/-! What the plain fragment (no sentence-type flag but a negation, nothing pronominalized) needs: token lists that give
    `doPronounPlacement` nothing to do (`Inert`), the shape of what `conjugate` returns, elements that `pronominalize`
    and `realVPToks` pass through, and the tokens of subject and complements. -/
namespace Pyrealb.ClauseFr
open Pyrealb
open Pyrealb.Gen.ClauseFr

/-- nothing for `doPronounPlacement` to do: no negation, no auxiliary flag, no reflexive verb, no clitic pronoun -/
def Inert (refl : Bool) : Tok → Prop
  | .v y _ => y.neg2 = none ∧ y.isMod = false ∧ y.isProg = false ∧ isReflexive y refl = .ok false
  | t => t.isClitic = false

theorem collect_noClitic (l : List Tok) (h : ∀ t ∈ l, t.isClitic = false) : collect l = ([], l) := by
  fun_induction collect l with
  | case1 => rfl
  | case2 rest x f hc r ih => exact absurd (h _ List.mem_cons_self) (by simp [Tok.isClitic, hc])
  | case4 rest x f hc hs r ih =>
    rw [show r = ([], rest) from ih (fun t ht => h t (List.mem_cons_of_mem _ ht))]
  | case5 y g rest' r ih =>
    rw [show r = ([], rest') from ih (fun t ht => h t (List.mem_cons_of_mem _ (List.mem_cons_of_mem _ ht)))]
  | case8 y g rest' r ih =>
    rw [show r = ([], rest') from ih (fun t ht => h t (List.mem_cons_of_mem _ (List.mem_cons_of_mem _ ht)))]
  | case11 c rest r _ _ _ ih =>
    rw [show r = ([], rest) from ih (fun t ht => h t (List.mem_cons_of_mem _ ht))]
  | _ => rfl

theorem inert_noClitic (refl : Bool) (t : Tok) (h : Inert refl t) : t.isClitic = false := by
  cases t with
  | v y f => rfl
  | _ => exact h

theorem collect_inert (refl : Bool) (l : List Tok) (h : ∀ t ∈ l, Inert refl t) : collect l = ([], l) :=
  collect_noClitic l (fun t ht => inert_noClitic refl t (h t ht))

theorem sortPros_nil (tb : CTable) : sortPros tb [] = [] := by
  unfold sortPros; split <;> rfl

theorem vt_neg2_none (x : VT) (h : x.neg2 = none) : ({ x with neg2 := none } : VT) = x := by
  cases x; simp_all

theorem placedAt_inert (pre post : List Tok) (x : VT) (f : Str) (pg : Option VT) (hn : x.neg2 = none)
    (hc : collect post = ([], post)) : placedAt pre post x f false pg = pre ++ .v x f :: post := by
  simp only [placedAt, prosOf, prosRaw, hn, hc, vt_neg2_none x hn, Bool.false_eq_true, false_and, if_false,
    List.append_nil, sortPros_nil, ite_self, List.append_assoc, List.singleton_append]

theorem place_inert (refl : Bool) (l : List Tok) (h : ∀ t ∈ l, Inert refl t) : placePronouns refl l = .ok l := by
  have hna : NoAuxNeg l := by
    intro t ht
    have := h t ht
    cases t with
    | v y f => exact Or.inl this.1
    | _ => trivial
  rw [placePronouns_eq, negModProg_none l hna]
  simp only [placeFrom, List.drop_zero, List.take_zero, List.nil_append]
  cases hf : findVerb none l with
  | none => rfl
  | some fd =>
    have hl := findVerb_split none l fd hf
    obtain ⟨hn, _, _, hr⟩ : Inert refl (.v fd.verb fd.form) := h _ (by rw [hl]; simp)
    have hpost : ∀ t ∈ fd.post, Inert refl t := fun t ht => h t (by rw [hl]; simp [ht])
    simp only [hr, Except.map, placedAt_inert _ _ _ _ _ hn (collect_inert refl fd.post hpost), ← hl]

theorem removeEmptyAux_id (k : Nat) (l : List Tok) (h : ∀ t ∈ l, t.form ≠ []) : removeEmptyAux k l = l := by
  induction l generalizing k with
  | nil => rfl
  | cons a r ih =>
    have ha : a.form.isEmpty = false := by
      have := h a List.mem_cons_self
      cases hf : a.form <;> simp_all
    simp [removeEmptyAux, ha, ih (k + 1) (fun t ht => h t (List.mem_cons_of_mem _ ht))]

theorem removeEmpty_id (l : List Tok) (h : ∀ t ∈ l, t.form ≠ []) : removeEmpty l = l := removeEmptyAux_id 0 l h

/-- an element of the VP that `pronominalize` leaves alone -/
def El.plain : El → Prop
  | .np a => a.pro = false
  | .pp _ _ flag => flag = false
  | _ => True

theorem pronominalizeVP_go_id (fuel i : Nat) (l : List El) (h : ∀ e ∈ l, e.plain) :
    pronominalizeVP.go fuel i l = l := by
  induction fuel generalizing i with
  | zero => rfl
  | succ f ih =>
    unfold pronominalizeVP.go
    cases hi : l[i]? with
    | none => rfl
    | some e =>
      have he : e.plain := h e (List.mem_of_getElem? hi)
      cases e with
      | np a => simp only [El.plain] at he; simp [he, ih]
      | pp prep inner flag => simp only [El.plain] at he; subst he; simp [ih]
      | _ => simp [ih]

theorem pronominalizeVP_id (l : List El) (h : ∀ e ∈ l, e.plain) : pronominalizeVP l = l :=
  pronominalizeVP_go_id _ _ l h

/-- an element that is neither a verb nor a pronoun -/
def El.inertKind : El → Bool
  | .np _ => true | .pp _ _ _ => true | .q _ => true | .pt _ => true | _ => false

theorem realVPToks_nonV (refl : Bool) (e : El) (tail : List El) (h : e.isV = false) :
    realVPToks refl (e :: tail) = (realVPToks refl tail >>= fun more => pure (e.toks ++ more)) := by
  cases e with
  | v x => cases h
  | _ => rfl

theorem inertKind_nonV (e : El) (h : e.inertKind = true) : e.isV = false := by
  cases e with
  | v x => cases h
  | _ => rfl

theorem realVPToks_noV (refl : Bool) (l : List El) (h : ∀ e ∈ l, e.inertKind = true) :
    realVPToks refl l = .ok (l.flatMap El.toks) := by
  induction l with
  | nil => rfl
  | cons e r ih =>
    rw [realVPToks_nonV refl e r (inertKind_nonV e (h e List.mem_cons_self)), ih (fun x hx => h x (List.mem_cons_of_mem _ hx))]
    rfl

theorem realVPToks_verb_first (refl : Bool) (v : VT) (l : List El) (h : ∀ e ∈ l, e.inertKind = true) :
    realVPToks refl (.v v :: l) =
      (conjugate v refl none).bind (fun r => .ok (r.1 ++ l.flatMap El.toks)) := by
  have hl := realVPToks_noV refl l h
  have : realVPToks refl (.v v :: l) = (do
      let r ← conjugate v refl none
      let more ← realVPToks refl l
      pure (r.1 ++ more)) := by
    cases l with
    | nil => rfl
    | cons e r =>
      cases e with
      | pro p => exact absurd (h _ List.mem_cons_self) (by simp [El.inertKind])
      | _ => rfl
  rw [this, hl]
  cases conjugate v refl none <;> rfl

theorem pronominalizeDeps_id (l : List Dep) (cod : Option (Gd × Nb × Int)) (h : ∀ d ∈ l, d.pro = false) :
    pronominalizeDeps l cod = (l, cod) := by
  induction l generalizing cod with
  | nil => rfl
  | cons d r ih =>
    have hd := h d List.mem_cons_self
    simp [pronominalizeDeps, hd, ih cod (fun x hx => h x (List.mem_cons_of_mem _ hx))]

theorem compoundToks_nolier (v aux : VT) (ra : ConjRes) (form : Str) (np : Option Tok) (h : v.lier = false) :
    compoundToks v aux ra form np = compoundToks v aux ra form none := by
  simp [compoundToks, h]

theorem conjugate_nolier (v : VT) (refl : Bool) (np : Option Tok) (h : v.lier = false) :
    conjugate v refl np = conjugate v refl none := by
  unfold conjugate conjCompound
  simp only [compoundToks_nolier _ _ _ _ np h]

theorem compoundAux_fst (v : VT) (isR : Bool) (ta : Tense) :
    (compoundAux v isR ta verb_avoir verb_etre).1.t = ta ∧ (compoundAux v isR ta verb_avoir verb_etre).1.isMod = false ∧
    (compoundAux v isR ta verb_avoir verb_etre).1.isProg = false ∧
    ((compoundAux v isR ta verb_avoir verb_etre).1.pat = some [reflStr] → isR = true) := by
  have hap : verb_avoir.pat ≠ some [reflStr] := by decide
  have hep : verb_etre.pat ≠ some [reflStr] := by decide
  unfold compoundAux
  cases isR with
  | true => exact ⟨rfl, rfl, rfl, fun _ => rfl⟩
  | false =>
    by_cases h : v.aux = etStr
    · rw [if_neg (by simp), if_pos h]; exact ⟨rfl, rfl, rfl, fun hc => absurd hc hep⟩
    · rw [if_neg (by simp), if_neg h]; exact ⟨rfl, rfl, rfl, fun hc => absurd hc hap⟩

/-- the shape of what `conjugate` returns -/
theorem conjugate_cases (v : VT) (refl : Bool) (np : Option Tok) (r : List Tok × Bool)
    (h : conjugate v refl np = .ok r) :
    r = ([.qv v.lex.lemma v.lier], false) ∨
    (v.t.auxTense = none ∧ ∃ cr, r = ([tokOfConj v cr], false)) ∨
    (∃ ta aux ra form, v.t.auxTense = some ta ∧ r = compoundToks v aux ra form np ∧ aux.t = ta ∧
      aux.isMod = false ∧ aux.isProg = false ∧ (aux.pat = some [reflStr] → isReflexive v refl = .ok true)) := by
  unfold conjugate at h
  by_cases htab : ¬ v.lex.hasTab = true
  · rw [if_pos htab] at h; cases h; exact Or.inl rfl
  rw [if_neg htab] at h
  cases hta : v.t.auxTense with
  | none =>
    simp only [hta] at h
    cases hc : conjSimple v refl with
    | error e => rw [hc] at h; cases h
    | ok cr => rw [hc] at h; cases h; exact Or.inr (Or.inl ⟨rfl, cr, rfl⟩)
  | some ta =>
    simp only [hta] at h
    unfold conjCompound at h
    cases hd : compoundDefective v ta with
    | none => simp only [hd] at h; cases h
    | some b =>
      simp only [hd] at h
      cases b with
      | true => cases h; exact Or.inl rfl
      | false =>
        obtain ⟨al, hal, h⟩ := bindE_ok _ _ _ h
        obtain ⟨el, hel, h⟩ := bindE_ok _ _ _ h
        obtain ⟨isR, hisR, h⟩ := bindE_ok _ _ _ h
        obtain ⟨ra, _, h⟩ := bindE_ok _ _ _ h
        obtain ⟨rp, _, h⟩ := bindE_ok _ _ _ h
        cases hal
        cases hel
        cases h
        obtain ⟨a1, a2, a3, a4⟩ := compoundAux_fst v isR ta
        exact Or.inr (Or.inr ⟨ta, _, ra, _, rfl, rfl, a1, a2, a3, fun hc => by rw [hisR, a4 hc]⟩)

theorem conjugate_none_snd (v : VT) (refl : Bool) (r : List Tok × Bool) (h : conjugate v refl none = .ok r) :
    r.2 = false := by
  rcases conjugate_cases v refl none r h with rfl | ⟨_, cr, rfl⟩ | ⟨ta, aux, ra, form, _, rfl, _⟩
  · rfl
  · rfl
  · simp only [compoundToks]; split <;> rfl

/-- a verb that is not reflexive, not negated, not an auxiliary flag carrier: its tokens give `doPronounPlacement`
    nothing to do -/
def InertV (x : VT) : Prop :=
  x.neg2 = none ∧ x.isMod = false ∧ x.isProg = false ∧ x.lier = false ∧ x.pat ≠ some [reflStr]

theorem isRefl_false (v : VT) (h : v.pat ≠ some [reflStr]) : isReflexive v false = .ok false := by
  simp [isReflexive, h]

theorem conjugate_inert (v : VT) (r : List Tok × Bool) (hv : InertV v) (h : conjugate v false none = .ok r) :
    ∀ t ∈ r.1, Inert false t := by
  obtain ⟨hn, hm, hp, hl, hr⟩ := hv
  have hvi : ∀ f, Inert false (.v v f) := fun f => ⟨hn, hm, hp, isRefl_false v hr⟩
  rcases conjugate_cases v false none r h with rfl | ⟨_, cr, rfl⟩ | ⟨ta, aux, ra, form, _, rfl, _, ham, hap, hpat⟩
  · intro t ht; simp at ht; subst ht; simp [Inert, Tok.isClitic]
  · intro t ht
    simp only [List.mem_singleton] at ht; subst ht
    cases cr
    · exact hvi _
    · simp [tokOfConj, Inert, Tok.isClitic]
  · have hauxpat : aux.pat ≠ some [reflStr] := by
      intro hc
      have := hpat hc
      rw [isRefl_false v hr] at this
      cases this
    intro t ht
    simp only [compoundToks, hl, Bool.false_eq_true, if_false, List.mem_cons, List.not_mem_nil, or_false] at ht
    rcases ht with rfl | rfl
    · cases ra
      · exact ⟨hn, ham, hap, isRefl_false _ hauxpat⟩
      · simp [tokOfConj, Inert, Tok.isClitic]
    · exact ⟨rfl, hm, hp, isRefl_false _ hr⟩

/-- no sentence-type flag, an ordinary tense, nothing pronominalized, no clitic given as a pronoun -/
structure Plain (sp : Spec) : Prop where
  typ : sp.typ = {}
  tense : sp.t ≠ .ip
  vpe : sp.vpe = none
  vn : sp.vn = none
  comps : ∀ c ∈ sp.comps, match c with
    | .dir a => a.pro = false
    | .pp _ a => a.pro = false
    | .cl _ => False
  subj : match sp.subj with
    | some (.np a) => a.pro = false
    | _ => True

def subjToks (sp : Spec) : List Tok := match sp.subj with
  | some (.pro vm pe n g) => [proTok (SubjA.proT vm pe n g)]
  | some (.np a) => [.d a.id, .n a.id]
  | none => []

def compToks (sp : Spec) : List Tok := sp.comps.flatMap (fun c => match c with
  | .dir a => [.d a.id, .n a.id]
  | .pp prep a => [.p prep, .d a.id, .n a.id]
  | .cl p => [proTok p])

/-- the verb terminal of a plain clause, the same object in both notations -/
def plainVerb (sp : Spec) : VT := { sp.verbT sp.subj.isSome with vpshare := true }

/-- the tokens of one complement -/
def compTokList (c : Comp) : List Tok := match c with
  | .dir a => [.d a.id, .n a.id]
  | .pp prep a => [.p prep, .d a.id, .n a.id]
  | .cl p => [proTok p]

theorem compToks_eq (sp : Spec) : compToks sp = sp.comps.flatMap compTokList := rfl

theorem compEl_toks (cs : List Comp) : (cs.map compEl).flatMap El.toks = cs.flatMap compTokList := by
  induction cs with
  | nil => rfl
  | cons c r ih =>
    rw [List.map_cons, List.flatMap_cons, List.flatMap_cons, ih]
    cases c <;> rfl

theorem subjPro_inert (refl vm : Bool) (pe : Nat) (n : Nb) (g : Gd) : Inert refl (proTok (SubjA.proT vm pe n g)) := by
  cases vm <;> simp [Inert, Tok.isClitic, proTok, SubjA.proT, isCliticPro, cliticCases, Cas.str, je, moi, yStr, enStr]

theorem plain_inert (sp : Spec) (hc : ∀ c ∈ sp.comps, match c with | .cl _ => False | _ => True) :
    ∀ t ∈ subjToks sp ++ compToks sp, Inert false t := by
  intro t ht
  rcases List.mem_append.mp ht with h | h
  · unfold subjToks at h
    cases hsub : sp.subj with
    | none => simp [hsub] at h
    | some s =>
      cases s with
      | pro vm pe n g => simp [hsub] at h; subst h; exact subjPro_inert false vm pe n g
      | np a => simp [hsub] at h; rcases h with rfl | rfl <;> rfl
  · rw [compToks_eq] at h
    obtain ⟨c, hcm, hct⟩ := List.mem_flatMap.mp h
    have := hc c hcm
    cases c with
    | dir a => simp [compTokList] at hct; rcases hct with rfl | rfl <;> rfl
    | pp p a => simp [compTokList] at hct; rcases hct with rfl | rfl | rfl <;> rfl
    | cl p => exact this.elim

theorem withPids_append (k : Nat) (a b : List Dep) :
    withPids k (a ++ b) = withPids k a ++ withPids (k + a.length) b := by
  induction a generalizing k with
  | nil => simp [withPids]
  | cons d r ih => simp [withPids, ih, Nat.add_assoc, Nat.add_comm 1]

theorem withPids_pro (k : Nat) (l : List Dep) (h : ∀ d ∈ l, d.pro = false) : ∀ d ∈ withPids k l, d.pro = false := by
  induction l generalizing k with
  | nil => simp [withPids]
  | cons d r ih =>
    intro x hx
    simp only [withPids, List.mem_cons] at hx
    rcases hx with rfl | hx
    · exact h d List.mem_cons_self
    · exact ih (k + 1) (fun y hy => h y (List.mem_cons_of_mem _ hy)) x hx

theorem withPids_filter_toks (refl : Bool) (k : Nat) (l : List Dep) (p : Dep → Bool)
    (hp : ∀ (d : Dep) (i : Int), p { d with pid := i } = p d) :
    ((withPids k l).filter p).mapM (Dep.toks refl) = (l.filter p).mapM (Dep.toks refl) := by
  induction l generalizing k with
  | nil => rfl
  | cons d r ih =>
    simp only [withPids, List.filter_cons, hp]
    split
    · simp only [List.mapM_cons, ih]
      rfl
    · exact ih (k + 1)

theorem compDep_toks (refl : Bool) (cs : List Comp)
    (h : ∀ c ∈ cs, match c with | .dir a => a.pro = false | .pp _ a => a.pro = false | .cl _ => False) :
    (cs.map compDep).mapM (Dep.toks refl) = .ok (cs.map compTokList) := by
  induction cs with
  | nil => rfl
  | cons c r ih =>
    rw [List.map_cons, List.mapM_cons, ih (fun x hx => h x (List.mem_cons_of_mem _ hx))]
    cases c <;> rfl

end Pyrealb.ClauseFr
