import Pyrealb.Lemmas.ClauseEnVG
/-! The constituent notation: list lemmas for the Python list operations on the children of S / VP / root, the state
    after `Phrase.passivate` and `processTyp_verb` (`mid_state`), and the declarative linearisation `linPh`. -/
namespace Pyrealb.ClauseEn

/-- the two list operations of the model are core's -/
theorem findIdx_eq {α} (p : α → Bool) (l : List α) : findIdx p l = l.findIdx? p := by
  induction l with
  | nil => rfl
  | cons a r ih => rw [findIdx, ih, List.findIdx?_cons]

theorem removeAt_eq {α} (l : List α) (k : Nat) : removeAt l k = l.eraseIdx k := by
  fun_induction removeAt l k <;> simp [*]

theorem findIdx_nil {α} (p : α → Bool) : findIdx p [] = none := rfl

theorem findIdx_none_of_forall {α} (p : α → Bool) (l : List α) (h : ∀ x ∈ l, p x = false) : findIdx p l = none := by
  rw [findIdx_eq]; exact List.findIdx?_eq_none_iff.mpr h

theorem findIdx_map_none {α β} (p : β → Bool) (f : α → β) (l : List α) (h : ∀ x, p (f x) = false) :
    findIdx p (l.map f) = none :=
  findIdx_none_of_forall p _ (by intro y hy; obtain ⟨x, _, rfl⟩ := List.mem_map.mp hy; exact h x)

theorem findIdx_append_of_none {α} (p : α → Bool) (l1 l2 : List α) (h : ∀ x ∈ l1, p x = false) :
    findIdx p (l1 ++ l2) = (findIdx p l2).map (· + l1.length) := by
  rw [findIdx_eq, findIdx_eq, List.findIdx?_append, List.findIdx?_eq_none_iff.mpr h, Option.none_or]

theorem findIdx_isSome {α} (p : α → Bool) (l : List α) : (findIdx p l).isSome = l.any p := by
  rw [findIdx_eq, List.findIdx?_isSome]

theorem removeAt_zero {α} (a : α) (r : List α) : removeAt (a :: r) 0 = r := rfl

theorem removeAt_append_length {α} (l1 l2 : List α) (k : Nat) :
    removeAt (l1 ++ l2) (k + l1.length) = l1 ++ removeAt l2 k := by
  rw [removeAt_eq, removeAt_eq, List.eraseIdx_append_of_length_le (Nat.le_add_left _ _), Nat.add_sub_cancel]

theorem getElem?_append_length {α} (l1 l2 : List α) (k : Nat) : (l1 ++ l2)[k + l1.length]? = l2[k]? := by
  rw [List.getElem?_append_right (Nat.le_add_left _ _), Nat.add_sub_cancel]

theorem getD_append_length {α} (l1 l2 : List α) (k : Nat) (d : α) :
    (l1 ++ l2).getD (k + l1.length) d = l2.getD k d := by
  simp only [List.getD_eq_getElem?_getD, getElem?_append_length]

@[simp] theorem argTok_isSubjCT (a : ArgTok) : isSubjCT a.ct = true := by cases a <;> rfl
@[simp] theorem argTok_isNPPro (a : ArgTok) : isNPPro a.ct = true := by cases a <;> rfl

theorem removeAt_words {α β} (f : α → β) (l : List α) (a : β) (R : List β) :
    removeAt (l.map f ++ a :: R) l.length = l.map f ++ R := by
  have := removeAt_append_length (l.map f) (a :: R) 0
  simp [removeAt] at this; exact this

theorem getElem?_words {α β} (f : α → β) (l : List α) (a : β) (R : List β) :
    (l.map f ++ a :: R)[l.length]? = some a := by simp

theorem getElem?_words1 {α β} (f : α → β) (l : List α) (a b : β) (R : List β) :
    (l.map f ++ a :: b :: R)[l.length + 1]? = some b := by simp

theorem flatVP_append (l1 l2 : List PNode) : flatVP (l1 ++ l2) = flatVP l1 ++ flatVP l2 := by
  induction l1 with
  | nil => rfl
  | cons a r ih => cases a <;> simp [flatVP, ih]

theorem flatVP_words (ws : List Tok) : flatVP (ws.map PNode.word) = ws := by
  induction ws with
  | nil => rfl
  | cons a r ih => simp [flatVP, ih]

/-- complements of the VP: an optional nominal object then prepositional phrases -/
def objNodes : Option ArgTok → List PNode
  | some x => [.arg x]
  | none => []

def ppNodes (pl : List (Str × ArgTok)) : List PNode := pl.map (fun pa => .pp pa.1 pa.2)

def objToks : Option ArgTok → List Tok
  | some x => [.arg x]
  | none => []

def ppToks : List (Str × ArgTok) → List Tok
  | [] => []
  | pa :: r => .prep pa.1 :: .arg pa.2 :: ppToks r

theorem ppToks_append (l1 l2 : List (Str × ArgTok)) : ppToks (l1 ++ l2) = ppToks l1 ++ ppToks l2 := by
  induction l1 with
  | nil => rfl
  | cons a r ih => simp [ppToks, ih]

theorem flatVP_ppNodes (pl : List (Str × ArgTok)) : flatVP (ppNodes pl) = ppToks pl := by
  induction pl with
  | nil => rfl
  | cons a r ih => simp [ppNodes, flatVP, ppToks] at ih ⊢; exact ih

theorem flatVP_objNodes (o : Option ArgTok) : flatVP (objNodes o) = objToks o := by
  cases o <;> rfl

theorem ppNodes_ct (pl : List (Str × ArgTok)) : ∀ n ∈ ppNodes pl, n.ct = .PP := by
  intro n hn
  obtain ⟨x, _, rfl⟩ := List.mem_map.mp hn
  rfl

/-- the clause after passivation: subject, nominal object, prepositional complements, and the `peng` the verb reads -/
structure Mid where
  subj : ArgTok
  obj : Option ArgTok
  pl : List (Str × ArgTok)
  agr : Agr
  g : Gender
  pending : Option Agr

def ppArgs (sp : Spec) : List (Str × ArgTok) := sp.pps.map (fun pa => (pa.1, ArgTok.np pa.2))

/-- what `Phrase.passivate` makes of the clause (the declarative reading is `C04.passive_swap`) -/
def midPh (sp : Spec) (pas : Bool) : Mid :=
  if pas then
    match sp.obj with
    | some (.np a) => ⟨.np a, none, (s "by", demote (argTokOfSubj sp.subj)) :: ppArgs sp, ⟨.p3, a.n⟩, a.g, none⟩
    | some (.pro a) => ⟨.proNom a, none, (s "by", demote (argTokOfSubj sp.subj)) :: ppArgs sp, staleAgr a, .n, some (freshAgr a)⟩
    | none => ⟨.it, none, (s "by", demote (argTokOfSubj sp.subj)) :: ppArgs sp, ⟨.p3, .s⟩, .n, none⟩
  else ⟨argTokOfSubj sp.subj, sp.obj.map argTokOfObj, ppArgs sp, agrOfArg sp.subj, genderOfArg sp.subj, none⟩

def stOf (m : Mid) (ws : List Tok) : PState :=
  { sEl := [.arg m.subj, .vp], vpEl := ws.map .word ++ (objNodes m.obj ++ ppNodes m.pl),
    agr := m.agr, g := m.g, vpComma := false, pending := m.pending }

theorem ppNodes_ppArgs (sp : Spec) : sp.pps.map (fun pa => PNode.pp pa.1 (.np pa.2)) = ppNodes (ppArgs sp) := by
  simp [ppNodes, ppArgs, List.map_map, Function.comp_def]

theorem findIdx_npPro_ppNodes (pl : List (Str × ArgTok)) : findIdx (fun n => isNPPro n.ct) (ppNodes pl) = none :=
  findIdx_map_none _ _ _ (fun _ => rfl)

theorem argTokOfSubj_ct (a : Arg) : isNPPro (argTokOfSubj a).ct = true := by cases a <;> rfl

@[simp] theorem ct_v0 : PNode.v0.ct = .V := rfl
@[simp] theorem ct_vp : PNode.vp.ct = .VP := rfl
@[simp] theorem ct_arg (a : ArgTok) : (PNode.arg a).ct = a.ct := rfl
@[simp] theorem ct_word (t : Tok) : (PNode.word t).ct = t.ct := rfl
@[simp] theorem ct_pp (p : Str) (a : ArgTok) : (PNode.pp p a).ct = .PP := rfl
@[simp] theorem ct_tag (ts : List Tok) : (PNode.tag ts).ct = .VP := rfl
@[simp] theorem ct_np (a : NPArg) : (ArgTok.np a).ct = .NP := rfl
@[simp] theorem ct_proI (a : ProArg) : (ArgTok.proI a).ct = .Pro := rfl
@[simp] theorem ct_proMe (a : ProArg) : (ArgTok.proMe a).ct = .Pro := rfl
@[simp] theorem ct_proTonic (a : ProArg) : (ArgTok.proTonic a).ct = .Pro := rfl
@[simp] theorem ct_proNom (a : ProArg) : (ArgTok.proNom a).ct = .Pro := rfl
@[simp] theorem ct_it : ArgTok.it.ct = .Pro := rfl
@[simp] theorem ct_proOfNP (a : NPArg) : (ArgTok.proOfNP a).ct = .Pro := rfl
@[simp] theorem ct_verb (l : VLemma) (f : VForm) (r : AgrRef) : (Tok.verb l f r).ct = .V := rfl
@[simp] theorem ct_cannot : Tok.cannot.ct = .Q := rfl
@[simp] theorem ct_not : Tok.not_.ct = .Adv := rfl
@[simp] theorem ct_q (x : Str) : (Tok.q x).ct = .Q := rfl

@[simp] theorem isNPPro_NP : isNPPro .NP = true := rfl
@[simp] theorem isNPPro_Pro : isNPPro .Pro = true := rfl
@[simp] theorem isNPPro_V : isNPPro .V = false := rfl
@[simp] theorem isNPPro_Q : isNPPro .Q = false := rfl
@[simp] theorem isNPPro_Adv : isNPPro .Adv = false := rfl
@[simp] theorem isNPPro_P : isNPPro .P = false := rfl
@[simp] theorem isNPPro_PP : isNPPro .PP = false := rfl
@[simp] theorem isNPPro_VP : isNPPro .VP = false := rfl
@[simp] theorem ppNodes_cons (p : Str) (a : ArgTok) (l : List (Str × ArgTok)) :
    ppNodes ((p, a) :: l) = .pp p a :: ppNodes l := rfl
@[simp] theorem ppNodes_nil : ppNodes [] = [] := rfl

theorem initPh_eq (sp : Spec) :
    initPh sp = { sEl := [.arg (argTokOfSubj sp.subj), .vp],
                  vpEl := .v0 :: (objNodes (sp.obj.map argTokOfObj) ++ ppNodes (ppArgs sp)),
                  agr := agrOfArg sp.subj, g := genderOfArg sp.subj } := by
  obtain ⟨subj, verb, t, obj, pps⟩ := sp
  cases obj <;> simp [initPh, objNodes, ppNodes, ppArgs, List.map_map, Function.comp_def]

/-- passivation and affix hopping bring the clause to the state `stOf (midPh sp pas) ws` -/
theorem mid_state (sp : Spec) (pas : Bool) (ws : List Tok) :
    processTypVerbPh ws (if pas then passivatePh (initPh sp) else initPh sp) = stOf (midPh sp pas) ws := by
  rw [initPh_eq]
  obtain ⟨subj, verb, t, obj, pps⟩ := sp
  cases pas
  · simp [processTypVerbPh, midPh, stOf, findIdx]
  · cases obj with
    | none =>
      cases subj <;>
      simp [passivatePh, processTypVerbPh, midPh, stOf, findIdx, findIdx_npPro_ppNodes, argTokOfSubj,
        demote, insertAt, objNodes]
    | some o =>
      cases o <;> cases subj <;>
      simp [passivatePh, processTypVerbPh, midPh, stOf, findIdx, argTokOfSubj, argTokOfObj, demote,
        insertAt, removeAt, objNodes]

/-! ### the declarative linearisation of the constituent notation -/

/-- subject–auxiliary inversion: the first word before the subject -/
def front (subj : ArgTok) (ws : List Tok) (compl : List Tok) : List Tok :=
  if hasV ws then ws.take 1 ++ [.arg subj] ++ ws.drop 1 ++ compl
  else [.arg subj] ++ ws ++ compl

/-- the prepositional questions -/
def Int.isPPq : Int → Bool
  | .woi | .wai | .whe | .whn => true
  | _ => false

def prepQualifies (i : Int) (p : Str) : Bool :=
  if i == .whe then Gen.ClauseEn.prepositionsWhe.contains p.str
  else if i == .whn then Gen.ClauseEn.prepositionsWhn.contains p.str
  else Gen.ClauseEn.prepositionsAll.contains p.str

/-- prefix and remaining prepositional complements of `woi/wai/whe/whn` in the constituent notation: only the FIRST
    prepositional phrase is looked at -/
def questionPPPh (i : Int) (pl : List (Str × ArgTok)) : Str × List (Str × ArgTok) :=
  match pl with
  | [] => (intPrefix i, [])
  | (p, a) :: r =>
    if prepQualifies i p then ((if i == .whe || i == .whn then intPrefix i else p ++ s " " ++ whomOrWhat i), r)
    else (intPrefix i, (p, a) :: r)

def objHuman (o : Option ArgTok) : Bool :=
  match o with
  | some (.np a) => humanGender a.g
  | some (.proMe a) => humanGender a.g
  | _ => false

/-- tokens of the clause proper in the constituent notation, before the agreement reference is resolved -/
def linPh (m : Mid) (i : Option Int) (ws : List Tok) : List Tok :=
  match i with
  | none => [.arg m.subj] ++ ws ++ (objToks m.obj ++ ppToks m.pl)
  | some .tag => .q (intPrefix .tag) :: ([.arg m.subj] ++ ws ++ (objToks m.obj ++ ppToks m.pl))
  | some .yon => front m.subj ws (objToks m.obj ++ ppToks m.pl)
  | some .how => .q (intPrefix .how) :: front m.subj ws (objToks m.obj ++ ppToks m.pl)
  | some .why => .q (intPrefix .why) :: front m.subj ws (objToks m.obj ++ ppToks m.pl)
  | some .muc => .q (intPrefix .muc) :: front m.subj ws (objToks m.obj ++ ppToks m.pl)
  | some .wos => .q (intPrefix .wos) :: (ws ++ (objToks m.obj ++ ppToks m.pl))
  | some .was => .q (intPrefix .was) :: (ws ++ (objToks m.obj ++ ppToks m.pl))
  | some .wod =>
    .q (if Gen.ClauseEn.phraseHumanObjectGetsIntValue && objHuman m.obj then s "whom" else intPrefix .wod)
      :: front m.subj ws (ppToks m.pl)
  | some .wad => .q (intPrefix .wad) :: front m.subj ws (ppToks m.pl)
  | some .woi => .q (questionPPPh .woi m.pl).1 :: front m.subj ws (objToks m.obj ++ ppToks (questionPPPh .woi m.pl).2)
  | some .wai => .q (questionPPPh .wai m.pl).1 :: front m.subj ws (objToks m.obj ++ ppToks (questionPPPh .wai m.pl).2)
  | some .whe => .q (questionPPPh .whe m.pl).1 :: front m.subj ws (objToks m.obj ++ ppToks (questionPPPh .whe m.pl).2)
  | some .whn => .q (questionPPPh .whn m.pl).1 :: front m.subj ws (objToks m.obj ++ ppToks (questionPPPh .whn m.pl).2)

/-- the `peng` the first verb reads when no promoted pronoun is pending -/
def agrPlain (m : Mid) (i : Option Int) : Agr :=
  match i with
  | some .wos | some .was => { m.agr with pe := .p3 }
  | _ => m.agr

@[simp] theorem isSubjCT_NP : isSubjCT .NP = true := rfl
@[simp] theorem isSubjCT_Pro : isSubjCT .Pro = true := rfl
@[simp] theorem isSubjCT_V : isSubjCT .V = false := rfl
@[simp] theorem isSubjCT_Q : isSubjCT .Q = false := rfl
@[simp] theorem isSubjCT_Adv : isSubjCT .Adv = false := rfl
@[simp] theorem isSubjCT_P : isSubjCT .P = false := rfl
@[simp] theorem isSubjCT_PP : isSubjCT .PP = false := rfl
@[simp] theorem isSubjCT_VP : isSubjCT .VP = false := rfl
@[simp] theorem isVerbCT_NP : isVerbCT .NP = false := rfl
@[simp] theorem isVerbCT_Pro : isVerbCT .Pro = false := rfl
@[simp] theorem isVerbCT_V : isVerbCT .V = true := rfl
@[simp] theorem isVerbCT_Q : isVerbCT .Q = false := rfl
@[simp] theorem isVerbCT_VP : isVerbCT .VP = true := rfl

theorem isWord_ct (t : Tok) (h : t.isWord = true) : isSubjCT t.ct = false ∧ (t.ct == CT.PP) = false := by
  cases t <;> first | exact ⟨rfl, rfl⟩ | cases h

theorem words_not_subj (ws : List Tok) (h : ws.all Tok.isWord = true) :
    ∀ x ∈ ws.map PNode.word, (fun n : PNode => isSubjCT n.ct) x = false := by
  intro n hn
  obtain ⟨t, ht, rfl⟩ := List.mem_map.mp hn
  exact (isWord_ct t (List.all_eq_true.mp h t ht)).1

theorem words_not_PP (ws : List Tok) (h : ws.all Tok.isWord = true) :
    ∀ x ∈ ws.map PNode.word, (fun n : PNode => n.ct == CT.PP) x = false := by
  intro n hn
  obtain ⟨t, ht, rfl⟩ := List.mem_map.mp hn
  exact (isWord_ct t (List.all_eq_true.mp h t ht)).2

theorem findIdx_subj_ppNodes (pl : List (Str × ArgTok)) : findIdx (fun n => isSubjCT n.ct) (ppNodes pl) = none :=
  findIdx_map_none _ _ _ (fun _ => rfl)

end Pyrealb.ClauseEn
