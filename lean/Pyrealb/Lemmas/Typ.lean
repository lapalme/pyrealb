import Pyrealb.Model.Typ
/-! Lemmas about `Model/Typ`: the validation loop is a filter, `update` is a right-biased merge, and the stored map
    after any list of calls is, key by key, the last value that survived validation. -/
namespace Pyrealb.Typ
open Pyrealb

theorem lookup_set (d : Dict) (k k' : Str) (v : Val) :
    lookup k (Dict.set d k' v) = if k' = k then some v else lookup k d := by
  fun_induction Dict.set d k' v with
  | case1 => simp [lookup]
  | case2 v2 r k' v => by_cases h2 : k' = k <;> simp [lookup, h2]
  | case3 k2 v2 r k' v h ih =>
    by_cases h2 : k2 = k
    · subst h2; simp [lookup, Ne.symm h]
    · simp [lookup, h2, ih]

theorem lookup_filter_ne (d : Dict) (k k' : Str) (h : k ≠ k') :
    lookup k (d.filter (fun kv => kv.1 != k')) = lookup k d := by
  fun_induction lookup k d with
  | case1 => rfl
  | case2 r v => simp [lookup, h]
  | case3 k2 v r hk ih => by_cases e : k2 = k' <;> simp [lookup, e, hk, ih]

theorem lookup_append (k : Str) (a b : Dict) : lookup k (a ++ b) = (lookup k a).or (lookup k b) := by
  fun_induction lookup k a with
  | case1 => rfl
  | case2 r v => simp [lookup]
  | case3 k2 v r hk ih => simp [lookup, hk, ih]

theorem lookup_mem {d : Dict} {k : Str} {v : Val} (h : lookup k d = some v) : (k, v) ∈ d := by
  fun_induction lookup k d with
  | case1 => cases h
  | case2 r v' => cases h; exact List.mem_cons_self
  | case3 k2 v' r hk ih => exact List.mem_cons_of_mem _ (ih h)

theorem lookup_del_same (d : Dict) (k : Str) : lookup k (Dict.del d k) = none := by
  cases h : lookup k (Dict.del d k) with
  | none => rfl
  | some v =>
    have := (List.mem_filter.mp (lookup_mem h)).2
    simp at this

/-- `d.update(e)` looked up: the LAST entry of `e` for the key wins, else `d` -/
theorem lookup_update (d e : Dict) (k : Str) :
    lookup k (Dict.update d e) = (lookup k e.reverse).or (lookup k d) := by
  unfold Dict.update
  induction e generalizing d with
  | nil => rfl
  | cons kv r ih =>
    obtain ⟨k2, v2⟩ := kv
    simp only [List.foldl_cons, List.reverse_cons, ih, lookup_append, lookup_set, Option.or_assoc]
    by_cases h : k2 = k <;> simp [lookup, h]

theorem lookup_of_mem_nodup {d : Dict} {k : Str} {v : Val} (nd : d.keys.Nodup) (h : (k, v) ∈ d) :
    lookup k d = some v := by
  induction d with
  | nil => simp at h
  | cons kv r ih =>
    obtain ⟨k2, v2⟩ := kv
    simp only [Dict.keys, List.map_cons, List.nodup_cons] at nd
    rcases List.mem_cons.mp h with h | h
    · cases h; simp [lookup]
    · have : k2 ≠ k := by
        intro e; subst e
        exact nd.1 (List.mem_map.mpr ⟨(k2, v), h, rfl⟩)
      simp [lookup, this]
      exact ih nd.2 h

theorem lookup_perm {d d' : Dict} (nd : d.keys.Nodup) (p : d.Perm d') (k : Str) : lookup k d = lookup k d' := by
  have nd' : d'.keys.Nodup := (List.Perm.map _ p).nodup_iff.mp nd
  cases h : lookup k d with
  | some v => exact (lookup_of_mem_nodup nd' (p.subset (lookup_mem h))).symm
  | none =>
    cases h' : lookup k d' with
    | none => rfl
    | some v =>
      have := lookup_of_mem_nodup nd (p.symm.subset (lookup_mem h'))
      rw [h] at this; cases this

theorem lookup_reverse_nodup {d : Dict} (nd : d.keys.Nodup) (k : Str) : lookup k d.reverse = lookup k d :=
  (lookup_perm nd (List.reverse_perm d).symm k).symm

theorem keys_filter_nodup {d : Dict} (nd : d.keys.Nodup) (p : Str × Val → Bool) : (Dict.keys (d.filter p)).Nodup := by
  unfold Dict.keys at *
  exact (List.Sublist.map _ List.filter_sublist).nodup nd

def keptB (lang : Lang) (kv : Str × Val) : Bool := entryKept lang kv.1 kv.2

/-- is the (accepted) value replaced by the boolean it equals?  `elif not isinstance(val,(bool,str))` -/
def needsNorm (lang : Lang) (kv : Str × Val) : Bool :=
  match lookup kv.1 Gen.TypConsts.allowedTypes with
  | none => false
  | some _ => if kv.1 = negKey ∧ lang = .fr then false else !(kv.2.isBool || kv.2.isStr)

def normVal (lang : Lang) (k : Str) (v : Val) : Val := if needsNorm lang (k, v) then .b v.truthy else v
def normKV (lang : Lang) (kv : Str × Val) : Str × Val := (kv.1, normVal lang kv.1 kv.2)

theorem validateStep_eq (lang : Lang) (cur : Dict) (w : Nat) (kv : Str × Val) :
    validateStep lang (cur, w) kv =
      (if keptB lang kv then (if needsNorm lang kv then Dict.set cur kv.1 (.b kv.2.truthy) else cur)
       else Dict.del cur kv.1, if entryWarns lang kv.1 kv.2 then w + 1 else w) := by
  unfold validateStep keptB entryKept entryWarns entryKept needsNorm
  cases h : lookup kv.1 Gen.TypConsts.allowedTypes with
  | none => simp
  | some allowed =>
    by_cases hn : kv.1 = negKey ∧ lang = Lang.fr
    · simp only [hn, and_self, if_true]
      cases hb : (kv.2.isStr || kv.2.isBool) <;> simp
    · simp only [hn, if_false]
      cases hb : kv.2.pyIn allowed <;> simp
      all_goals (try (split <;> rfl))

theorem set_middle (a r : Dict) (k : Str) (v v' : Val) (hk : ∀ x ∈ a, x.1 ≠ k) :
    Dict.set (a ++ (k, v) :: r) k v' = a ++ (k, v') :: r := by
  induction a with
  | nil => simp [Dict.set]
  | cons x t ih =>
    obtain ⟨k2, v2⟩ := x
    have : k2 ≠ k := hk (k2, v2) List.mem_cons_self
    simp only [List.cons_append, Dict.set, this, if_false]
    rw [ih (fun y hy => hk y (List.mem_cons_of_mem _ hy))]

theorem del_middle (a r : Dict) (k : Str) (v : Val) (ha : ∀ x ∈ a, x.1 ≠ k) (hr : ∀ x ∈ r, x.1 ≠ k) :
    Dict.del (a ++ (k, v) :: r) k = a ++ r := by
  unfold Dict.del
  rw [List.filter_append, List.filter_cons_of_neg (by simp), List.filter_eq_self.mpr (by simpa using ha),
    List.filter_eq_self.mpr (by simpa using hr)]

/-- the loop on `pre ++ rest` (the entries of `pre` already treated): the keys being distinct, `set` and `del` act on
    the entry at hand -/
theorem validate_loop (lang : Lang) (pre rest : Dict) (w : Nat) (nd : rest.keys.Nodup)
    (dis : ∀ x ∈ pre, ∀ y ∈ rest, x.1 ≠ y.1) :
    (rest.foldl (validateStep lang) (pre ++ rest, w)).1 = pre ++ (rest.filter (keptB lang)).map (normKV lang) := by
  induction rest generalizing pre w with
  | nil => simp
  | cons kv r ih =>
    obtain ⟨k, v⟩ := kv
    obtain ⟨hkr, ndr⟩ := List.nodup_cons.mp nd
    have hpre : ∀ x ∈ pre, x.1 ≠ k := fun x hx => dis x hx _ List.mem_cons_self
    have hr : ∀ y ∈ r, y.1 ≠ k := fun y hy e => hkr (e ▸ List.mem_map_of_mem (f := (·.1)) hy)
    have dis' : ∀ x ∈ pre, ∀ y ∈ r, x.1 ≠ y.1 := fun x hx y hy => dis x hx y (List.mem_cons_of_mem _ hy)
    rw [List.foldl_cons, validateStep_eq]
    by_cases hk : keptB lang (k, v) = true
    · have e : (if needsNorm lang (k, v) = true then Dict.set (pre ++ (k, v) :: r) k (.b v.truthy) else pre ++ (k, v) :: r) =
          (pre ++ [normKV lang (k, v)]) ++ r := by
        by_cases hn : needsNorm lang (k, v) = true <;> simp [normKV, normVal, hn, set_middle _ _ _ _ _ hpre]
      have dis2 : ∀ x ∈ pre ++ [normKV lang (k, v)], ∀ y ∈ r, x.1 ≠ y.1 := fun x hx y hy => by
        rcases List.mem_append.mp hx with hx | hx
        · exact dis' x hx y hy
        · cases List.mem_singleton.mp hx; exact (hr y hy).symm
      simp only [hk, if_true, e, List.filter_cons_of_pos hk, List.map_cons]
      rw [ih _ _ ndr dis2, List.append_assoc]; rfl
    · simp only [hk, del_middle _ _ _ _ hpre hr, List.filter_cons_of_neg hk]
      exact ih _ _ ndr dis'

theorem keys_map_norm (lang : Lang) (l : Dict) : Dict.keys (l.map (normKV lang)) = Dict.keys l := by
  simp [Dict.keys, normKV, List.map_map, Function.comp_def]

theorem validate_fst (lang : Lang) (types : Dict) (nd : types.keys.Nodup) :
    (validate lang types).1 = (types.filter (keptB lang)).map (normKV lang) :=
  validate_loop lang [] types 0 nd fun _ hx => absurd hx List.not_mem_nil

theorem validate_snd_loop (lang : Lang) (rest : Dict) (cur : Dict) (w : Nat) :
    (rest.foldl (validateStep lang) (cur, w)).2 = w + (rest.filter (fun kv => entryWarns lang kv.1 kv.2)).length := by
  induction rest generalizing cur w with
  | nil => simp
  | cons kv r ih =>
    simp only [List.foldl_cons]
    rw [validateStep_eq, ih]
    by_cases hw : entryWarns lang kv.1 kv.2 = true
    · simp [hw]; omega
    · have : entryWarns lang kv.1 kv.2 = false := by simpa using hw
      simp [this]

theorem validate_snd (lang : Lang) (types : Dict) :
    (validate lang types).2 = (types.filter (fun kv => entryWarns lang kv.1 kv.2)).length := by
  simp [validate, validate_snd_loop]

theorem lookup_map_norm (lang : Lang) (l : Dict) (k : Str) :
    lookup k (l.map (normKV lang)) = (lookup k l).map (normVal lang k) := by
  induction l with
  | nil => rfl
  | cons x t ih =>
    obtain ⟨k2, v2⟩ := x
    by_cases e : k2 = k
    · subst e; simp [lookup, normKV]
    · simp [lookup, normKV, e, ih]

/-- what one call with the dict `d` stores for the flag `k`: the accepted entry, normalised; `none`: nothing -/
def lookupV (lang : Lang) (d : Dict) (k : Str) : Option Val := (lookup k (d.filter (keptB lang))).map (normVal lang k)

/-- SPEC: the value of flag `k` after the calls `ds` (in call order, first call first): the entry for `k` of the LAST
    call that has one surviving validation; `none` when there is none -/
def effective (lang : Lang) : List Dict → Str → Option Val
  | [], _ => none
  | d :: ds, k => (effective lang ds k).or (lookupV lang d k)

theorem lookup_typ_stored (lang : Lang) (st : Option Dict) (d : Dict) (nd : d.keys.Nodup) (k : Str) :
    lookup k ((typ lang true st (.dict d)).stored.getD []) = (lookupV lang d k).or (lookup k (st.getD [])) := by
  unfold typ lookupV
  simp only [Bool.not_true, Bool.false_eq_true, if_false]
  have hv := validate_fst lang d nd
  cases hvv : validate lang d with
  | mk t' w =>
    rw [hvv] at hv
    simp only at hv
    subst hv
    cases st with
    | none =>
      simp only [Option.getD]
      rw [lookup_map_norm]
      exact (Option.or_none).symm
    | some s0 =>
      simp only [Option.getD]
      have ndm : Dict.keys ((d.filter (keptB lang)).map (normKV lang)) |>.Nodup := by
        rw [keys_map_norm]; exact keys_filter_nodup nd _
      rw [lookup_update, lookup_reverse_nodup ndm, lookup_map_norm]

/-- the stored map after the calls `ds` applied in order (first call first) -/
def storedAfter (lang : Lang) (st : Option Dict) (ds : List Dict) : Option Dict :=
  (run lang true st (ds.map Arg.dict)).1

theorem storedAfter_cons (lang : Lang) (st : Option Dict) (d : Dict) (ds : List Dict) :
    storedAfter lang st (d :: ds) = storedAfter lang (typ lang true st (.dict d)).stored ds := by
  simp [storedAfter, run]

/-- key by key, applying `ds` in order = the last surviving entry, else what was stored before -/
theorem lookup_storedAfter (lang : Lang) (st : Option Dict) (ds : List Dict) (nd : ∀ d ∈ ds, d.keys.Nodup) (k : Str) :
    lookup k ((storedAfter lang st ds).getD []) = (effective lang ds k).or (lookup k (st.getD [])) := by
  induction ds generalizing st with
  | nil => simp [storedAfter, run, effective]
  | cons d ds ih =>
    rw [storedAfter_cons, ih _ fun x hx => nd x (List.mem_cons_of_mem _ hx),
      lookup_typ_stored lang st d (nd d List.mem_cons_self), effective, Option.or_assoc]

theorem read_false_eq_absent (i : Idiom) (hi : falseEqAbsent i = true) (T : Dict) (K K' : Str) :
    read i (Dict.set T K (.b false)) K' = read i (Dict.del T K) K' := by
  by_cases h : K = K'
  · subst h
    have h1 : lookup K (Dict.set T K (.b false)) = some (.b false) := by simp [lookup_set]
    have h2 : lookup K (Dict.del T K) = none := lookup_del_same T K
    cases i <;> simp only [falseEqAbsent, Bool.false_eq_true] at hi <;>
      simp only [read, h1, h2] <;> rfl
  · have h1 : lookup K' (Dict.set T K (.b false)) = lookup K' T := by simp [lookup_set, h]
    have h2 : lookup K' (Dict.del T K) = lookup K' T := lookup_filter_ne T K' K (Ne.symm h)
    unfold read
    rw [h1, h2]

end Pyrealb.Typ
