import Pyrealb.Lemmas.JsonSource
import Pyrealb.Lemmas.JsonText
/-! The printed source reads back as the construction program it denotes (C12, source route, text level):
    `parseSrc cur (toSource e) = progOf e` when the language of the root is the current one, for every lemma and tag
    name (escaped by `quoteSource`), `lang=` arguments included, and option values whose `repr` is covered. -/
namespace Pyrealb.Expr
open Pyrealb

theorem readIdent_append (name : Str) (c : Char) (rest : Str) (hn : name.all isIdentChar = true)
    (hc : isIdentChar c = false) : readIdent (name ++ c :: rest) = (name, c :: rest) := by
  obtain ⟨h1, h2⟩ := span_append name (c :: rest) hn (fun _ _ h => by cases h; exact hc)
  rw [readIdent, h1, h2]

/-- `t` prints the character `c` inside a literal quoted with `q`: a two-character escape the reader knows, `\x00`,
    or `c` itself when it is not special -/
inductive Esc (q c : Char) : Str → Prop
  | pair (e : Char) : pyEscape e = some (some c) → e ≠ 'x' → e ≠ 'u' → e ≠ 'U' → Esc q c ['\\', e]
  | nul : c = Char.ofNat 0 → Esc q c ['\\', 'x', '0', '0']
  | raw : c ≠ '\\' → c ≠ q → c ≠ '\n' → c ≠ '\r' → Esc q c [c]

theorem Esc.read {q c : Char} {t : Str} (h : Esc q c t) {tl x rest : Str} (htl : readPyStr q tl = .ok (x, rest)) :
    readPyStr q (t ++ tl) = .ok (c :: x, rest) := by
  have h0 : hexOf ['0', '0'] = some 0 := by decide
  cases h with
  | pair e he hx hu hU => rw [readPyStr.eq_def]; simp [hx, hu, hU, he, htl]
  | nul hc => rw [readPyStr.eq_def]; simp [h0, htl, hc]
  | raw h1 h2 h3 h4 => rw [readPyStr.eq_def]; simp [h1, h2, h3, h4, htl]

theorem Esc.head {q c : Char} {t : Str} (h : Esc q c t) (hq : q ≠ '\\') : ∃ b bs, t = b :: bs ∧ b ≠ q := by
  cases h with
  | pair e => exact ⟨_, _, rfl, hq.symm⟩
  | nul => exact ⟨_, _, rfl, hq.symm⟩
  | raw _ h2 => exact ⟨_, _, rfl, h2⟩

theorem readPyStr_close (q : Char) (r : Str) (hq : q ≠ '\\') : readPyStr q (q :: r) = .ok ([], r) := by
  rw [readPyStr.eq_def]
  simp [hq]

theorem quoteSrc_esc (c : Char) (r : Str) : ∃ t, Esc '"' c t ∧ quoteSrcBody (c :: r) = t ++ quoteSrcBody r := by
  rw [quoteSrcBody]
  by_cases h1 : c = '\\'; · subst h1; exact ⟨_, .pair _ (by decide) (by decide) (by decide) (by decide), rfl⟩
  rw [if_neg h1]
  by_cases h2 : c = '"'; · subst h2; exact ⟨_, .pair _ (by decide) (by decide) (by decide) (by decide), rfl⟩
  rw [if_neg h2]
  by_cases h3 : c = '\n'; · subst h3; exact ⟨_, .pair 'n' (by decide) (by decide) (by decide) (by decide), rfl⟩
  rw [if_neg h3]
  by_cases h4 : c = '\r'; · subst h4; exact ⟨_, .pair 'r' (by decide) (by decide) (by decide) (by decide), rfl⟩
  rw [if_neg h4]
  by_cases h5 : c = Char.ofNat 0; · exact ⟨_, .nul h5, by rw [if_pos h5]⟩
  exact ⟨_, .raw h1 h2 h3 h4, by rw [if_neg h5]⟩
/-- `quoteSource` is read back for EVERY string (carriage return and NUL escaped since 2b9e5f9) -/
theorem readPyStr_quoteSrc (x rest : Str) : readPyStr '"' (quoteSrcBody x ++ '"' :: rest) = .ok (x, rest) := by
  induction x with
  | nil => exact readPyStr_close _ _ (by decide)
  | cons c r ih =>
    obtain ⟨t, ht, hb⟩ := quoteSrc_esc c r
    rw [hb, List.append_assoc]
    exact ht.read ih

theorem quoteSrcBody_head (x : Str) : ∀ b bs, quoteSrcBody x = b :: bs → b ≠ '"' := by
  intro b bs h
  cases x with
  | nil => rw [quoteSrcBody] at h; cases h
  | cons c r =>
    obtain ⟨t, ht, hb⟩ := quoteSrc_esc c r
    obtain ⟨b', bs', rfl, hne⟩ := ht.head (by decide)
    rw [hb] at h
    cases h
    exact hne

/-- the characters whose `repr` is the character itself or one of `\n \r \t`: the printable ones (the hexadecimal
    escapes of the others are read by the model but not covered by the theorems) -/
def ReprOK (x : Str) : Prop := ∀ c ∈ x, isNonPrintable c = false ∨ c = '\n' ∨ c = '\r' ∨ c = '\t'

theorem reprChar_esc (q c : Char) (hq : q = '"' ∨ q = '\'')
    (hc : isNonPrintable c = false ∨ c = '\n' ∨ c = '\r' ∨ c = '\t') : Esc q c (reprChar q c) := by
  unfold reprChar
  by_cases h1 : c = '\\'; · subst h1; exact .pair _ (by decide) (by decide) (by decide) (by decide)
  rw [if_neg h1]
  by_cases h2 : c = q
  · subst h2; rw [if_pos rfl]; rcases hq with rfl | rfl <;> exact .pair _ (by decide) (by decide) (by decide) (by decide)
  rw [if_neg h2]
  by_cases h3 : c = '\n'; · subst h3; exact .pair 'n' (by decide) (by decide) (by decide) (by decide)
  rw [if_neg h3]
  by_cases h4 : c = '\r'; · subst h4; exact .pair 'r' (by decide) (by decide) (by decide) (by decide)
  rw [if_neg h4]
  by_cases h5 : c = '\t'; · subst h5; exact .pair 't' (by decide) (by decide) (by decide) (by decide)
  rw [if_neg h5, if_neg (by simpa [h3, h4, h5] using hc)]
  exact .raw h1 h2 h3 h4

theorem readPyStr_repr (q : Char) (hq : q = '"' ∨ q = '\'') (x rest : Str) (h : ReprOK x) :
    readPyStr q (reprBody q x ++ q :: rest) = .ok (x, rest) := by
  induction x with
  | nil => exact readPyStr_close _ _ (by rcases hq with rfl | rfl <;> decide)
  | cons c r ih =>
    rw [reprBody, List.append_assoc]
    exact (reprChar_esc q c hq (h c (by simp))).read (ih fun d hd => h d (by simp [hd]))

theorem reprBody_head (q : Char) (hq : q = '"' ∨ q = '\'') (x : Str) (h : ReprOK x) :
    ∀ b bs, reprBody q x = b :: bs → b ≠ q := by
  intro b bs hb
  cases x with
  | nil => rw [reprBody] at hb; cases hb
  | cons c r =>
    obtain ⟨b', bs', hc, hne⟩ := (reprChar_esc q c hq (h c (by simp))).head (by rcases hq with rfl | rfl <;> decide)
    rw [reprBody, hc] at hb
    cases hb
    exact hne

/-- what follows a literal in a printed source: a closing bracket, a comma or a colon -/
def Follower (rest : Str) : Prop := ∃ c r, rest = c :: r ∧ (c = ')' ∨ c = ',' ∨ c = '}' ∨ c = ':')

theorem follower_facts (c : Char) (h : c = ')' ∨ c = ',' ∨ c = '}' ∨ c = ':') :
    c ≠ ' ' ∧ c ≠ '"' ∧ c ≠ '\'' ∧ isDigit c = false ∧ isIdentChar c = false ∧ c ≠ '(' ∧ c ≠ '.' := by
  rcases h with h | h | h | h <;> (subst h; decide)

theorem skipWs_follower (rest : Str) (h : Follower rest) : skipWs rest = rest := by
  obtain ⟨c, r, rfl, hc⟩ := h
  exact skipWs_cons c r (follower_facts c hc).1

theorem readPyStrs_lit (fuel : Nat) (q : Char) (hq : q = '"' ∨ q = '\'') (body x rest : Str)
    (hbody : readPyStr q (body ++ q :: rest) = .ok (x, rest))
    (hstart : ∀ b bs, body = b :: bs → b ≠ q) (hf : Follower rest) :
    readPyStrs (fuel + 1) (q :: (body ++ q :: rest)) = .ok (x, rest) := by
  obtain ⟨c, r', rfl, hc⟩ := hf
  obtain ⟨f1, f2, f3, _⟩ := follower_facts c hc
  have hqq : (q = '"' || q = '\'') = true := by rcases hq with h | h <;> simp [h]
  have hcq : c ≠ q := by rcases hq with h | h <;> (subst h; assumption)
  -- the text after the opening quote has two characters at least, and they are not two more quotes
  match body, hbody, hstart with
  | [], hbody, _ =>
    simp only [List.nil_append] at hbody
    simp [readPyStrs, hqq, hcq, hbody, skipWs_cons c r' f1, f2, f3]
  | [b], hbody, hs =>
    simp only [List.cons_append, List.nil_append] at hbody
    simp [readPyStrs, hqq, hs b [] rfl, hbody, skipWs_cons c r' f1, f2, f3]
  | b :: b2 :: bs, hbody, hs =>
    simp only [List.cons_append] at hbody
    simp [readPyStrs, hqq, hs b _ rfl, hbody, skipWs_cons c r' f1, f2, f3]

theorem reprStr_eq (x : Str) : ∃ q, (q = '"' ∨ q = '\'') ∧ reprStr x = q :: (reprBody q x ++ [q]) := by
  unfold reprStr
  split
  · exact ⟨'"', .inl rfl, rfl⟩
  · exact ⟨'\'', .inr rfl, rfl⟩

/-- atoms whose `repr` reads back: no `datetime` (the name is unbound), strings without exotic control characters -/
def AtomOK : Atom → Prop
  | .dt .. => False
  | .str x => ReprOK x
  | _ => True

theorem noDigit_of_follower (rest : Str) (h : Follower rest) : NoDigitHead rest := by
  obtain ⟨c, r, rfl, hc⟩ := h
  intro c' r' he; cases he; exact (follower_facts c hc).2.2.2.1

theorem s_True : s "True" = ['T', 'r', 'u', 'e'] := s_ofList _
theorem s_False : s "False" = ['F', 'a', 'l', 's', 'e'] := s_ofList _
theorem s_None : s "None" = ['N', 'o', 'n', 'e'] := s_ofList _

theorem ident_ne {c : Char} (h : isIdentChar c = true) : c ≠ ' ' ∧ c ≠ '"' ∧ c ≠ '\'' ∧ c ≠ '-' := by
  refine ⟨?_, ?_, ?_, ?_⟩ <;> (rintro rfl; revert h; decide)

theorem readAtomLit_kw (c0 : Char) (r0 rest : Str) (hall : (c0 :: r0).all isIdentChar = true)
    (h0 : isDigit c0 = false) (hf : Follower rest) :
    readAtomLit (c0 :: r0 ++ rest) =
      (if c0 :: r0 = s "True" then .ok (.bool true, rest) else if c0 :: r0 = s "False" then .ok (.bool false, rest)
       else if c0 :: r0 = s "None" then .ok (.none, rest) else .error .nameError) := by
  obtain ⟨c, r, rfl, hc⟩ := hf
  have hid := readIdent_append (c0 :: r0) c r hall (follower_facts c hc).2.2.2.2.1
  rw [List.all_cons, Bool.and_eq_true] at hall
  obtain ⟨h1, h2, h3, h4⟩ := ident_ne hall.1
  simp only [List.cons_append] at hid
  simp [readAtomLit, skipWs_cons c0 _ h1, h2, h3, h4, h0, hid]

theorem readAtomLit_repr (a : Atom) (rest : Str) (ha : AtomOK a) (hf : Follower rest) :
    readAtomLit (reprAtom a ++ rest) = .ok (a, rest) := by
  cases a with
  | none =>
    rw [reprAtom, s_None, readAtomLit_kw 'N' _ rest (by decide) (by decide) hf]
    simp [s_True, s_False, s_None]
  | bool b =>
    cases b
    · rw [reprAtom, s_False, readAtomLit_kw 'F' _ rest (by decide) (by decide) hf]
      simp [s_True, s_False]
    · rw [reprAtom, s_True, readAtomLit_kw 'T' _ rest (by decide) (by decide) hf]
      simp [s_True]
  | int i =>
    have hnd := noDigit_of_follower rest hf
    simp only [reprAtom]
    cases i with
    | ofNat n =>
      obtain ⟨c, r, hd, hc⟩ := natDigits_head n
      have hrd := readNat_natDigits n rest hnd
      obtain ⟨h1, _, _, _, h5⟩ := digit_ne c hc
      have h6 : c ≠ '\'' := by intro he; subst he; exact absurd hc (by decide)
      simp only [hd, List.cons_append] at hrd
      unfold readAtomLit
      simp only [intStr, hd, List.cons_append, skipWs_cons c _ h5]
      simp [h1, h6, hc, hrd]
    | negSucc n =>
      obtain ⟨c, r, hd, hc⟩ := natDigits_head (n + 1)
      have hrd := readNat_natDigits (n + 1) rest hnd
      have m0 : ('-' : Char) ≠ ' ' := by decide
      simp only [hd, List.cons_append] at hrd
      unfold readAtomLit
      simp only [intStr, hd, List.cons_append, skipWs_cons '-' _ m0]
      have m3 : isDigit '-' = false := by decide
      simp [m3, hc, hrd, Int.negSucc_eq]
  | str x =>
    simp only [AtomOK] at ha
    obtain ⟨q, hq', hx⟩ := reprStr_eq x
    rw [reprAtom, hx]
    have hsp : q ≠ ' ' := by rcases hq' with h | h <;> (subst h; decide)
    have hbody := readPyStr_repr q hq' x rest ha
    have hlit := fun n => readPyStrs_lit n q hq' (reprBody q x) x rest hbody (reprBody_head q hq' x ha) hf
    unfold readAtomLit
    simp only [List.cons_append, List.append_assoc, skipWs_cons q _ hsp]
    have hqq : (q = '"' || q = '\'') = true := by rcases hq' with h | h <;> simp [h]
    simp [hqq, hlit]
  | dt y mo d h mi sec => exact absurd ha (by simp [AtomOK])

theorem readAtomLit_space (x : Str) : readAtomLit (' ' :: x) = readAtomLit x := by
  unfold readAtomLit
  simp [skipWs]

def DictOK (d : List (Str × Atom)) : Prop := ∀ kv ∈ d, ReprOK kv.1 ∧ AtomOK kv.2

theorem follower_cons (c : Char) (r : Str) (h : c = ')' ∨ c = ',' ∨ c = '}' ∨ c = ':') : Follower (c :: r) :=
  ⟨c, r, rfl, h⟩

theorem readDictItems_space (fuel : Nat) (x : Str) : readDictItems fuel (' ' :: x) = readDictItems fuel x := by
  cases fuel with
  | zero => simp [readDictItems]
  | succ f => simp [readDictItems, readAtomLit_space]

theorem readAtomLit_key (k r : Str) (hk : ReprOK k) : readAtomLit (reprStr k ++ ':' :: r) = .ok (.str k, ':' :: r) :=
  readAtomLit_repr (.str k) _ hk (follower_cons ':' r (by simp))

theorem readDictItems_repr : ∀ (d : List (Str × Atom)) (fuel : Nat) (rest : Str), d ≠ [] → DictOK d → d.length ≤ fuel →
    readDictItems fuel (reprItems d ++ '}' :: rest) = .ok (d, rest)
  | [], _, _, h, _, _ => absurd rfl h
  | _ :: _, 0, _, _, _, hf => absurd hf (Nat.not_succ_le_zero _)
  | [(k, v)], f + 1, rest, _, hd, _ => by
    obtain ⟨hk, hv⟩ := hd (k, v) (by simp)
    have h1 := fun r => readAtomLit_key k r hk
    have h2 := fun r => readAtomLit_repr v _ hv (follower_cons '}' r (by simp))
    simp only [reprItems, s_colon, List.append_assoc, List.cons_append, List.nil_append]
    simp [readDictItems, h1, skipWs, readAtomLit_space, h2]
  | (k, v) :: m :: r, f + 1, rest, _, hd, hf => by
    obtain ⟨hk, hv⟩ := hd (k, v) (by simp)
    have ih := readDictItems_repr (m :: r) f rest (by simp) (fun kv hkv => hd kv (by simp [hkv]))
      (Nat.le_of_succ_le_succ hf)
    have h1 := fun r => readAtomLit_key k r hk
    have h2 := fun r => readAtomLit_repr v _ hv (follower_cons ',' r (by simp))
    simp only [reprItems, s_colon, s_comma, List.append_assoc, List.cons_append, List.nil_append]
    simp [readDictItems, h1, skipWs, readAtomLit_space, h2, readDictItems_space, ih]

theorem isIdentChar_of_isDigit {c : Char} (h : isDigit c = true) : isIdentChar c = true := by
  unfold isDigit at h
  simp only [Bool.and_eq_true, decide_eq_true_eq] at h
  simp only [isIdentChar, Char.isAlphanum, Char.isDigit, Bool.or_eq_true, Bool.and_eq_true, decide_eq_true_eq]
  exact .inl (.inr h)

theorem reprAtom_shape (a : Atom) (ha : AtomOK a) : ∃ c r, reprAtom a = c :: r ∧
    ((reprAtom a).all isIdentChar = true ∨ c = '-' ∨ c = '"' ∨ c = '\'') := by
  cases a with
  | none => exact ⟨'N', _, s_None, .inl (by rw [reprAtom, s_None]; decide)⟩
  | bool b =>
    cases b
    · exact ⟨'F', _, s_False, .inl (by rw [reprAtom, s_False]; decide)⟩
    · exact ⟨'T', _, s_True, .inl (by rw [reprAtom, s_True]; decide)⟩
  | int i =>
    cases i with
    | ofNat n =>
      obtain ⟨c, r, hd, _⟩ := natDigits_head n
      refine ⟨c, r, hd, .inl ?_⟩
      have hall := natDigits_all n
      rw [List.all_eq_true] at hall ⊢
      exact fun c hc => isIdentChar_of_isDigit (hall c hc)
    | negSucc n => exact ⟨'-', _, rfl, .inr (.inl rfl)⟩
  | str x =>
    obtain ⟨q, hq, hx⟩ := reprStr_eq x
    exact ⟨q, _, hx, .inr (.inr hq)⟩
  | dt y mo d h mi sec => exact absurd ha (by simp [AtomOK])

theorem atom_first {c : Char} (h : isIdentChar c = true ∨ c = '-' ∨ c = '"' ∨ c = '\'') :
    c ≠ ' ' ∧ c ≠ '{' ∧ c ≠ ')' ∧ c ≠ '}' := by
  refine ⟨?_, ?_, ?_, ?_⟩ <;> (rintro rfl; revert h; decide)

theorem reprAtom_head (a : Atom) (ha : AtomOK a) (tl : Str) :
    ∃ c r, reprAtom a ++ tl = c :: r ∧ c ≠ ' ' ∧ c ≠ '{' ∧ c ≠ ')' ∧ c ≠ '}' := by
  obtain ⟨c, r, h, hs⟩ := reprAtom_shape a ha
  refine ⟨c, r ++ tl, by rw [h]; rfl, atom_first (hs.imp_left fun hall => ?_)⟩
  rw [h, List.all_cons, Bool.and_eq_true] at hall
  exact hall.1

def PValOK : PVal → Prop
  | .atom a => AtomOK a
  | .dict d => DictOK d
  | _ => False

theorem reprItems_len (d : List (Str × Atom)) : d.length ≤ (reprItems d).length + 1 := by
  induction d with
  | nil => simp
  | cons x r ih =>
    obtain ⟨k, v⟩ := x
    cases r with
    | nil => simp [reprItems]
    | cons y q =>
      simp only [reprItems, List.length_append, List.length_cons, s_colon, s_comma, List.length_nil] at ih ⊢
      omega

theorem reprItems_head (k : Str) (v : Atom) (r : List (Str × Atom)) (tl : Str) :
    ∃ c q, reprItems ((k, v) :: r) ++ tl = c :: q ∧ c ≠ ' ' ∧ c ≠ '}' := by
  obtain ⟨q, hq, hk⟩ := reprStr_eq k
  have hf := atom_first (.inr (.inr hq))
  obtain ⟨tl', h⟩ : ∃ tl', reprItems ((k, v) :: r) ++ tl = reprStr k ++ tl' := by
    cases r <;> exact ⟨_, by simp only [reprItems, List.append_assoc]; rfl⟩
  exact ⟨q, _, by rw [h, hk]; rfl, hf.1, hf.2.2.2⟩

theorem readLit_repr (v : PVal) (rest : Str) (hv : PValOK v) (hf : Follower rest) :
    readLit (reprPVal v ++ rest) = .ok (v, rest) := by
  cases v with
  | atom a =>
    obtain ⟨c, r, hcr, h1, h2, _, _⟩ := reprAtom_head a hv rest
    have := readAtomLit_repr a rest hv hf
    rw [reprPVal, hcr] at *
    simp [readLit, skipWs_cons c r h1, h2, this]
  | dict d =>
    cases d with
    | nil => simp [readLit, reprPVal, reprDict, reprItems, skipWs]
    | cons x r =>
      obtain ⟨k, w⟩ := x
      obtain ⟨c, q, hcq, h1, h2⟩ := reprItems_head k w r ('}' :: rest)
      have hlen := reprItems_len ((k, w) :: r)
      have hrd := readDictItems_repr ((k, w) :: r) ((reprItems ((k, w) :: r) ++ '}' :: rest).length + 1) rest (by simp) hv
        (by simp only [List.length_append, List.length_cons] at hlen ⊢; omega)
      simp only [reprPVal, reprDict, List.cons_append, List.append_assoc, List.nil_append]
      rw [hcq] at hrd ⊢
      simp only [List.length_cons] at hrd
      simp [readLit, skipWs, skipWs_cons c q h1, h2, hrd]
  | list l => exact absurd hv (by simp [PValOK])
  | tags l => exact absurd hv (by simp [PValOK])

theorem skipWs_idem_of_head (c : Char) (r : Str) (h : c ≠ ' ') : skipWs (c :: r) = c :: r := skipWs_cons c r h

theorem readIdent_lit (v : PVal) (rest : Str) (hv : PValOK v) (hf : Follower rest) :
    (readIdent (reprPVal v ++ rest)).1 = [] ∨ (readIdent (reprPVal v ++ rest)).2 = rest := by
  have hhead : ∀ c r, isIdentChar c = false → (readIdent (c :: r)).1 = [] := by
    intro c r h; simp [readIdent, h]
  cases v with
  | atom a =>
    obtain ⟨c0, r0, h0, h | h⟩ := reprAtom_shape a hv
    · obtain ⟨c, r, rfl, hc⟩ := hf
      exact .inr (by rw [reprPVal, readIdent_append _ c r h (follower_facts c hc).2.2.2.2.1])
    · exact .inl (by rw [reprPVal, h0]; exact hhead _ _ (by rcases h with h | h | h <;> (subst h; decide)))
  | dict d => exact .inl (hhead _ _ (by decide))
  | list l => exact absurd hv (by simp [PValOK])
  | tags l => exact absurd hv (by simp [PValOK])

theorem readOne_lit (rx : Str → Except RouteErr (Prog × Str)) (v : PVal) (rest : Str) (hv : PValOK v)
    (hf : Follower rest) : readOne rx (reprPVal v ++ rest) = .ok (.v v, rest) := by
  have hl : s "lang" ≠ [] := by rw [s_ofList]; decide
  have hlit := readLit_repr v rest hv hf
  unfold readOne startsCall
  rcases readIdent_lit v rest hv hf with h | h
  · simp [h, hl.symm, hlit]
  · obtain ⟨c, r, rfl, hc⟩ := hf
    obtain ⟨h1, _, _, _, _, h6, _⟩ := follower_facts c hc
    have h8 : c ≠ '=' := by rcases hc with h | h | h | h <;> (subst h; decide)
    simp [h, skipWs_cons c r h1, h6, h8, hlit]

def ArgHead (x : Str) : Prop := ∃ c r, x = c :: r ∧ c ≠ ' ' ∧ c ≠ ')'

theorem reprPVal_head (v : PVal) (hv : PValOK v) (tl : Str) : ArgHead (reprPVal v ++ tl) := by
  cases v with
  | atom a =>
    obtain ⟨c, r, h, h1, _, h3, _⟩ := reprAtom_head a hv tl
    exact ⟨c, r, h, h1, h3⟩
  | dict d => exact ⟨'{', reprItems d ++ '}' :: tl, by simp [reprPVal, reprDict], by decide, by decide⟩
  | list l => exact absurd hv (by simp [PValOK])
  | tags l => exact absurd hv (by simp [PValOK])

theorem readArgs_last {cur : Lang} {f : Nat} {x rest : Str} {a : Arg} (hx : ArgHead x)
    (hone : readOne (readExpr cur f) x = .ok (a, ')' :: rest)) : readArgs cur (f + 1) x = .ok ([a], rest) := by
  obtain ⟨c, q, rfl, h1, h2⟩ := hx
  simp [readArgs, skipWs_cons c q h1, h2, hone, skipWs]

theorem readArgs_more {cur : Lang} {f : Nat} {x more rest : Str} {a : Arg} {as : List Arg} (hx : ArgHead x)
    (hone : readOne (readExpr cur f) x = .ok (a, ',' :: more)) (hmore : readArgs cur f more = .ok (as, rest)) :
    readArgs cur (f + 1) x = .ok (a :: as, rest) := by
  obtain ⟨c, q, rfl, h1, h2⟩ := hx
  simp [readArgs, skipWs_cons c q h1, h2, hone, skipWs, hmore]

theorem readArgs_one (cur : Lang) (f : Nat) (v : PVal) (rest : Str) (hv : PValOK v) :
    readArgs cur (f + 1) (reprPVal v ++ ')' :: rest) = .ok ([.v v], rest) :=
  readArgs_last (reprPVal_head v hv _) (readOne_lit _ v _ hv (follower_cons _ _ (by simp)))

/-- the string literal that `quoteSource` prints (a lemma, a tag name, a language code) -/
theorem readAtomLit_dq (nm rest : Str) (hf : Follower rest) :
    readAtomLit ('"' :: (quoteSrcBody nm ++ '"' :: rest)) = .ok (.str nm, rest) := by
  have hlit := fun n => readPyStrs_lit n '"' (Or.inl rfl) (quoteSrcBody nm) nm rest (readPyStr_quoteSrc nm rest)
    (quoteSrcBody_head nm) hf
  simp [readAtomLit, skipWs, hlit]

theorem readOne_dq (rx : Str → Except RouteErr (Prog × Str)) (nm rest : Str) (hf : Follower rest) :
    readOne rx ('"' :: (quoteSrcBody nm ++ '"' :: rest)) = .ok (.v (.atom (.str nm)), rest) := by
  have q1 : isIdentChar '"' = false := by decide
  have hl : s "lang" ≠ [] := by rw [s_ofList]; decide
  unfold readOne startsCall
  simp only [readIdent, List.takeWhile_cons, q1]
  simp [readLit, skipWs, readAtomLit_dq nm rest hf, hl]

theorem argHead_dq (x : Str) : ArgHead ('"' :: x) := ⟨'"', x, rfl, by decide, by decide⟩

theorem readArgs_tag2 (cur : Lang) (f : Nat) (nm : Str) (d : List (Str × Atom)) (rest : Str) (hd : DictOK d) :
    readArgs cur (f + 2) ('"' :: (quoteSrcBody nm ++ '"' :: ',' :: (reprDict d ++ ')' :: rest))) =
      .ok ([.v (.atom (.str nm)), .v (.dict d)], rest) :=
  readArgs_more (argHead_dq _) (readOne_dq _ nm _ (follower_cons _ _ (by simp))) (readArgs_one cur f (.dict d) rest hd)

/-- a method name that the history can contain -/
def IdentOK (name : Str) : Prop := name ≠ [] ∧ name.all isIdentChar = true ∧ name ≠ s "add"

def CallOK : Call → Prop
  | .opt name arg => IdentOK name ∧ PValOK arg
  | .tag2 _ attrs => DictOK attrs

/-- where the trailers stop: the end of the text, or the `,` / `)` that follows a child -/
def TrailEnd (rest : Str) : Prop := rest = [] ∨ Follower rest

theorem readTrailers_end (cur : Lang) (f : Nat) (recv : Prog) (rest : Str) (h : TrailEnd rest) :
    readTrailers cur (f + 1) recv rest = .ok (recv, rest) := by
  rcases h with rfl | ⟨c, r, rfl, hc⟩
  · simp [readTrailers, skipWs]
  · obtain ⟨h1, _, _, _, _, _, h7⟩ := follower_facts c hc
    simp [readTrailers, skipWs_cons c r h1, h7]

theorem readTrailers_call {cur : Lang} {f : Nat} {recv : Prog} {name x rest : Str} {args : List Arg} {vs : List PVal}
    (hn : IdentOK name) (hargs : readArgs cur f x = .ok (args, rest)) (hne : hasNameErr args = false)
    (hvs : argVals args = some vs) :
    readTrailers cur (f + 1) recv ('.' :: (name ++ '(' :: x)) = readTrailers cur f (.call recv name vs) rest := by
  obtain ⟨hn1, hn2, hn3⟩ := hn
  have hid := readIdent_append name '(' x hn2 (by decide)
  have hemp : name.isEmpty = false := by cases name <;> simp_all
  rw [readTrailers]
  simp [skipWs, hid, hemp, hargs, hne, hn3, hvs]

theorem identOK_tag : IdentOK (s "tag") := by unfold IdentOK; rw [s_ofList, s_ofList]; decide

theorem readTrailers_hist (cur : Lang) : ∀ (hist : List Call) (f : Nat) (recv : Prog) (rest : Str),
    (∀ c ∈ hist, CallOK c) → TrailEnd rest → hist.length + 3 ≤ f →
    readTrailers cur f recv (printHist hist ++ rest) = .ok (withCalls recv hist, rest)
  | [], f, recv, rest, _, he, hf => by
    obtain ⟨f', rfl⟩ : ∃ f', f = f' + 1 := ⟨f - 1, by omega⟩
    simpa [printHist, withCalls] using readTrailers_end cur f' recv rest he
  | c :: r, f, recv, rest, hok, he, hf => by
    obtain ⟨f', rfl⟩ : ∃ f', f = f' + 3 := ⟨f - 3, by simp at hf; omega⟩
    have ih := readTrailers_hist cur r (f' + 2) (.call recv (callArgs c).1 (callArgs c).2) rest
      (fun d hd => hok d (by simp [hd])) he (by simp at hf ⊢; omega)
    have hc := hok c (by simp)
    rw [show withCalls recv (c :: r) = withCalls (.call recv (callArgs c).1 (callArgs c).2) r from rfl, ← ih]
    cases c with
    | opt name arg =>
      simp only [printHist, printCall, List.cons_append, List.append_assoc, List.nil_append]
      exact readTrailers_call hc.1 (readArgs_one cur (f' + 1) arg _ hc.2) rfl rfl
    | tag2 nm attrs =>
      simp only [printHist, printCall, quoteSrc, List.cons_append, List.append_assoc, List.nil_append]
      rw [s_ofList]
      exact readTrailers_call identOK_tag (readArgs_tag2 cur f' nm attrs _ hc) rfl rfl

def kwSrc (l : Lang) : Str := s "lang=\"" ++ l.code ++ ['"']

/-- the keyword argument that `langSource` prints, if any -/
def kwOpt (root : Option Lang) (lang : Lang) : Option Lang :=
  match root with
  | some l => if lang = l then none else some lang
  | none => none

theorem langArg_eq (root : Option Lang) (lang : Lang) (first : Bool) :
    langArg root lang first =
      match kwOpt root lang with
      | none => []
      | some l => (if first then [] else [',']) ++ kwSrc l := by
  unfold langArg kwOpt kwSrc
  cases root with
  | none => rfl
  | some l => by_cases h : lang = l <;> simp [h]

theorem kwSrc_cases (l : Lang) : kwSrc l = 'l' :: 'a' :: 'n' :: 'g' :: '=' :: '"' :: (l.code ++ ['"']) ∧
    quoteSrcBody l.code = l.code := by
  cases l <;> decide

theorem readOne_kw (rx : Str → Except RouteErr (Prog × Str)) (l : Lang) (rest : Str) (hf : Follower rest) :
    readOne rx (kwSrc l ++ rest) = .ok (.kw l.code, rest) := by
  obtain ⟨hk, hq⟩ := kwSrc_cases l
  have hlit := readAtomLit_dq l.code rest hf
  rw [hq] at hlit
  have hl : s "lang" = ['l', 'a', 'n', 'g'] := s_ofList _
  have hid := readIdent_append ['l', 'a', 'n', 'g'] '=' ('"' :: (l.code ++ '"' :: rest)) (by decide) (by decide)
  unfold readOne
  rw [hk]
  simp only [List.cons_append, List.append_assoc, List.nil_append] at hid ⊢
  rw [hid]
  simp [hl, hlit]

theorem argHead_kw (l : Lang) (rest : Str) : ArgHead (kwSrc l ++ rest) :=
  ⟨'l', _, by rw [(kwSrc_cases l).1]; rfl, by decide, by decide⟩

theorem readArgs_kw (cur : Lang) (f : Nat) (l : Lang) (rest : Str) :
    readArgs cur (f + 1) (kwSrc l ++ ')' :: rest) = .ok ([.kw l.code], rest) :=
  readArgs_last (argHead_kw l _) (readOne_kw _ l _ (follower_cons _ _ (by simp)))

theorem kwLang_code (cur l : Lang) : kwLang cur (some l.code) = l := by
  cases l <;> simp [kwLang, Lang.code] <;> decide

/-- the language the parsed node gets is the constituent's own, when the root's language is the current one -/
def RootOK (cur : Lang) (root : Option Lang) (lang : Lang) : Prop :=
  match root with
  | none => lang = cur
  | some l => l = cur

theorem kwLang_kwOpt (cur : Lang) (root : Option Lang) (lang : Lang) (h : RootOK cur root lang) :
    kwLang cur ((kwOpt root lang).map Lang.code) = lang := by
  unfold kwOpt
  cases root with
  | none => simpa [kwLang, RootOK] using h.symm
  | some l =>
    simp only [RootOK] at h
    by_cases hl : lang = l
    · simp [hl, kwLang, h]
    · simp [hl, kwLang_code]

theorem rootOK_child (cur : Lang) (root : Option Lang) (lang l' : Lang) (h : RootOK cur root lang) :
    RootOK cur (some (root.getD lang)) l' := by
  cases root <;> simpa [RootOK] using h

/-- what closes an argument list: `)` or `,lang="…")` -/
inductive Closing : Str → List Arg → Str → Prop
  | paren (rest : Str) : Closing (')' :: rest) [] rest
  | kw (l : Lang) (rest : Str) : Closing (',' :: (kwSrc l ++ ')' :: rest)) [.kw l.code] rest

theorem closing_follower {c : Str} {t : List Arg} {r : Str} (h : Closing c t r) : Follower c := by
  cases h with
  | paren rest => exact follower_cons _ _ (by simp)
  | kw l rest => exact follower_cons _ _ (by simp)

def kwArgs (root : Option Lang) (lang : Lang) : List Arg :=
  match kwOpt root lang with
  | none => []
  | some l => [Arg.kw l.code]

theorem closing_kwArgs (root : Option Lang) (lang : Lang) (rest : Str) :
    Closing (langArg root lang false ++ ')' :: rest) (kwArgs root lang) rest := by
  rw [langArg_eq]
  unfold kwArgs
  cases h : kwOpt root lang with
  | none => simpa using Closing.paren rest
  | some l => simpa using Closing.kw l rest

theorem closing_of_kwOpt (root : Option Lang) (lang : Lang) (rest : Str) :
    ∃ targs, Closing (langArg root lang false ++ ')' :: rest) targs rest ∧
      targs = (match kwOpt root lang with | none => [] | some l => [Arg.kw l.code]) :=
  ⟨_, closing_kwArgs root lang rest, rfl⟩

theorem readArgs_end {cur : Lang} {f : Nat} {x cs rest : Str} {targs : List Arg} {a : Arg}
    (hcl : Closing cs targs rest) (hx : ArgHead x) (hone : readOne (readExpr cur (f + 1)) x = .ok (a, cs)) :
    readArgs cur (f + 2) x = .ok (a :: targs, rest) := by
  cases hcl with
  | paren _ => exact readArgs_last hx hone
  | kw l _ => exact readArgs_more hx hone (readArgs_kw cur f l rest)

theorem readArgs_none (cur : Lang) (f : Nat) (root : Option Lang) (lang : Lang) (rest : Str) :
    readArgs cur (f + 2) (langArg root lang true ++ ')' :: rest) = .ok (kwArgs root lang, rest) := by
  rw [langArg_eq]
  unfold kwArgs
  cases kwOpt root lang with
  | none => simp [readArgs, skipWs]
  | some l => simpa using readArgs_kw cur (f + 1) l rest

theorem hasNameErr_kwArgs (root : Option Lang) (lang : Lang) : hasNameErr (kwArgs root lang) = false := by
  unfold kwArgs; cases kwOpt root lang <;> rfl

theorem kind_table : (∀ k ∈ termKindsSrc ++ phraseKindsSrc ++ deprels,
      k.all isIdentChar = true ∧ k ≠ s "lang" ∧ k.head?.map (fun c => c ≠ ' ' && c ≠ ')') = some true) ∧
    (∀ k ∈ phraseKindsSrc, termKindsSrc.contains k = false) ∧
    (∀ k ∈ deprels, termKindsSrc.contains k = false ∧ phraseKindsSrc.contains k = false) := by
  decide +kernel

theorem kind_facts (k : Str) (hk : k ∈ termKindsSrc ++ phraseKindsSrc ++ deprels) :
    k.all isIdentChar = true ∧ k ≠ s "lang" ∧ ∃ c r, k = c :: r ∧ c ≠ ' ' ∧ c ≠ ')' := by
  obtain ⟨h1, h2, h3⟩ := kind_table.1 k hk
  refine ⟨h1, h2, ?_⟩
  cases k with
  | nil => simp at h3
  | cons c r => exact ⟨c, r, rfl, by simpa using h3⟩

mutual
/-- the text is one the reader covers: constructor names `fromJSON`/the factories know, option values with a covered
    `repr` (no `datetime`: the name is unbound). Lemmata and tag names are unrestricted (`quoteSource` escapes
    backslash, double quote, LF, CR and NUL; every other character is read raw). -/
def SrcOK : Expr → Prop
  | .term n _ _ => n.kind ∈ termKindsSrc ∧ ∀ c ∈ n.hist, CallOK c
  | .phr n es => n.kind ∈ phraseKindsSrc ∧ (∀ c ∈ n.hist, CallOK c) ∧ SrcOKList es
  | .dep n t ds => n.kind ∈ deprels ∧ (∀ c ∈ n.hist, CallOK c) ∧ SrcOK t ∧ SrcOKList ds
def SrcOKList : List Expr → Prop
  | [] => True
  | e :: r => SrcOK e ∧ SrcOKList r
end

mutual
def needE : Expr → Nat
  | .term n _ _ => n.hist.length + 4
  | .phr n es => max (needA es + 1) (n.hist.length + 3) + 1
  | .dep n t ds => max (max (needE t) (needA ds + 1) + 1) (n.hist.length + 3) + 1
def needA : List Expr → Nat
  | [] => 1
  | e :: r => max (needE e) (needA r) + 1
end

theorem fuel_term {n : Node} {l : Atom} {i : Option LexInfo} {f : Nat} (h : needE (.term n l i) ≤ f) :
    ∃ g, f = g + 3 ∧ n.hist.length + 3 ≤ g + 2 := by
  have h : n.hist.length + 4 ≤ f := h
  exact ⟨f - 3, by omega, by omega⟩

theorem fuel_phr {n : Node} {es : List Expr} : ∀ {f : Nat}, needE (.phr n es) ≤ f →
    ∃ g, f = g + 1 ∧ needA es + 1 ≤ g ∧ n.hist.length + 3 ≤ g
  | 0, h => absurd h (Nat.not_succ_le_zero _)
  | g + 1, h => ⟨g, rfl, Nat.max_le.mp (Nat.le_of_succ_le_succ h)⟩

theorem fuel_dep {n : Node} {t : Expr} {ds : List Expr} : ∀ {f : Nat}, needE (.dep n t ds) ≤ f →
    ∃ g, f = g + 3 ∧ needE t ≤ g + 1 ∧ needA ds + 1 ≤ g + 1 ∧ n.hist.length + 3 ≤ g + 2
  | 0, h => absurd h (Nat.not_succ_le_zero _)
  | 1, h => absurd (Nat.max_le.mp (Nat.le_of_succ_le_succ h)).1 (Nat.not_succ_le_zero _)
  | 2, h => absurd (Nat.max_le.mp (Nat.le_of_succ_le_succ (Nat.max_le.mp (Nat.le_of_succ_le_succ h)).1)).2
      (Nat.not_succ_le_zero _)
  | g + 3, h =>
    have h1 := Nat.max_le.mp (Nat.le_of_succ_le_succ h)
    have h2 := Nat.max_le.mp (Nat.le_of_succ_le_succ h1.1)
    ⟨g, rfl, h2.1, h2.2, h1.2⟩

theorem fuel_one {e : Expr} : ∀ {f : Nat}, needA [e] + 1 ≤ f → ∃ g, f = g + 2 ∧ needE e ≤ g + 1
  | 0, h => absurd h (Nat.not_succ_le_zero _)
  | 1, h => absurd (Nat.le_of_succ_le_succ h) (Nat.not_succ_le_zero _)
  | g + 2, h =>
    ⟨g, rfl, Nat.le_succ_of_le (Nat.max_le.mp (Nat.le_of_succ_le_succ (Nat.le_of_succ_le_succ h))).1⟩

theorem fuel_cons {e e2 : Expr} {r : List Expr} : ∀ {f : Nat}, needA (e :: e2 :: r) + 1 ≤ f →
    ∃ g, f = g + 1 ∧ needE e ≤ g ∧ needA (e2 :: r) + 1 ≤ g
  | 0, h => absurd h (Nat.not_succ_le_zero _)
  | g + 1, h =>
    have h' : max (needE e) (needA (e2 :: r)) + 1 ≤ g := Nat.le_of_succ_le_succ h
    ⟨g, rfl, (Nat.max_le.mp (Nat.le_of_succ_le h')).1, Nat.le_trans (Nat.succ_le_succ (Nat.le_max_right _ _)) h'⟩

theorem srcOf_shape (root : Option Lang) (e : Expr) : ∃ tl, srcOf root e = e.kind ++ '(' :: tl := by
  cases e <;> exact ⟨_, by simp [srcOf, Expr.kind, Expr.node]; rfl⟩

def KindOK (e : Expr) : Prop := e.kind ∈ termKindsSrc ++ phraseKindsSrc ++ deprels

theorem srcOK_kind (e : Expr) (h : SrcOK e) : KindOK e := by
  cases e <;> (simp only [SrcOK] at h; simp [KindOK, Expr.kind, Expr.node, h.1])

theorem argHead_srcOf (root : Option Lang) (e : Expr) (rest : Str) (hk : KindOK e) : ArgHead (srcOf root e ++ rest) := by
  obtain ⟨tl, htl⟩ := srcOf_shape root e
  obtain ⟨_, _, c, r, hcr, h1, h2⟩ := kind_facts e.kind hk
  exact ⟨c, r ++ '(' :: tl ++ rest, by rw [htl, hcr]; simp, h1, h2⟩

theorem readOne_expr {rx : Str → Except RouteErr (Prog × Str)} (root : Option Lang) (e : Expr) (rest : Str) (hk : KindOK e)
    (ih : rx (srcOf root e ++ rest) = .ok (progOf e, rest)) :
    readOne rx (srcOf root e ++ rest) = .ok (.e (progOf e), rest) := by
  obtain ⟨tl, htl⟩ := srcOf_shape root e
  obtain ⟨hall, hnl, c, r, hcr, _, _⟩ := kind_facts e.kind hk
  have hid := readIdent_append e.kind '(' (tl ++ rest) hall (by decide)
  have hk' : e.kind ∈ termKindsSrc ∨ e.kind ∈ phraseKindsSrc ∨ e.kind ∈ deprels := by
    simpa [KindOK, List.mem_append] using hk
  have hne : e.kind.isEmpty = false := by rw [hcr]; rfl
  rw [readOne, startsCall, ih, htl, List.append_assoc, List.cons_append, hid]
  rcases hk' with h | h | h <;> simp [hnl, hne, skipWs, h]

def argsOf : List Expr → List Arg
  | [] => []
  | e :: r => .e (progOf e) :: argsOf r

theorem argProgs_argsOf (es : List Expr) : argProgs (argsOf es) = some (progOfList es) := by
  induction es with
  | nil => rfl
  | cons e r ih => simp [argsOf, argProgs, progOfList, ih]

theorem hasNameErr_argsOf (es : List Expr) (t : List Arg) (ht : hasNameErr t = false) :
    hasNameErr (argsOf es ++ t) = false := by
  induction es with
  | nil => simpa [argsOf] using ht
  | cons e r ih => simp [argsOf, hasNameErr, ih]

theorem splitKw_argsOf (es : List Expr) (root : Option Lang) (lang : Lang) :
    splitKw (argsOf es ++ kwArgs root lang) = (argsOf es, (kwOpt root lang).map Lang.code) := by
  induction es with
  | nil => unfold kwArgs; cases kwOpt root lang <;> rfl
  | cons e r ih => simp [argsOf, splitKw, ih]

theorem mkNode_term (cur : Lang) (root : Option Lang) (n : Node) (a : Atom) (hk : n.kind ∈ termKindsSrc)
    (hr : RootOK cur root n.lang) :
    mkNode cur n.kind (.v (.atom a) :: kwArgs root n.lang) = .ok (.term n.kind a n.lang) := by
  have hs : splitKw (.v (.atom a) :: kwArgs root n.lang) = ([.v (.atom a)], (kwOpt root n.lang).map Lang.code) := by
    unfold kwArgs; cases kwOpt root n.lang <;> rfl
  unfold mkNode
  rw [hs, kwLang_kwOpt cur root n.lang hr]
  simp [hk]

theorem mkNode_phr (cur : Lang) (root : Option Lang) (n : Node) (es : List Expr) (hk : n.kind ∈ phraseKindsSrc)
    (hr : RootOK cur root n.lang) :
    mkNode cur n.kind (argsOf es ++ kwArgs root n.lang) = .ok (.phr n.kind n.lang (progOfList es)) := by
  have hnt : n.kind ∉ termKindsSrc := by simpa using kind_table.2.1 n.kind hk
  unfold mkNode
  rw [splitKw_argsOf, kwLang_kwOpt cur root n.lang hr]
  simp [hnt, hk, argProgs_argsOf]

theorem mkNode_dep (cur : Lang) (root : Option Lang) (n : Node) (t : Expr) (ds : List Expr) (hk : n.kind ∈ deprels)
    (hr : RootOK cur root n.lang) :
    mkNode cur n.kind (argsOf (t :: ds) ++ kwArgs root n.lang) = .ok (.dep n.kind n.lang (progOf t) (progOfList ds)) := by
  obtain ⟨h1, h2⟩ := kind_table.2.2 n.kind hk
  have hnt : n.kind ∉ termKindsSrc := by simpa using h1
  have hnp : n.kind ∉ phraseKindsSrc := by simpa using h2
  unfold mkNode
  rw [splitKw_argsOf, kwLang_kwOpt cur root n.lang hr]
  simp [hnt, hnp, hk, argProgs_argsOf, progOfList]

theorem readExpr_call {cur : Lang} {f : Nat} {kind x rest : Str} {args : List Arg} {node : Prog}
    (hk : kind ∈ termKindsSrc ++ phraseKindsSrc ++ deprels) (hargs : readArgs cur f x = .ok (args, rest))
    (hne : hasNameErr args = false) (hmk : mkNode cur kind args = .ok node) :
    readExpr cur (f + 1) (kind ++ '(' :: x) = readTrailers cur f node rest := by
  obtain ⟨hall, _, c, r, hcr, h1, _⟩ := kind_facts kind hk
  have hid := readIdent_append kind '(' x hall (by decide)
  have hemp : kind.isEmpty = false := by rw [hcr]; rfl
  have hsk : skipWs (kind ++ '(' :: x) = kind ++ '(' :: x := by rw [hcr]; exact skipWs_cons c _ h1
  rw [readExpr]
  simp [hsk, hid, hemp, skipWs, hargs, hne, hmk]

mutual
theorem readExpr_srcOf (cur : Lang) : ∀ (e : Expr) (f : Nat) (rest : Str) (root : Option Lang), SrcOK e → TrailEnd rest →
    needE e ≤ f → RootOK cur root e.lang → readExpr cur f (srcOf root e ++ rest) = .ok (progOf e, rest)
  | .term n lemma info, f, rest, root, hok, he, hf, hr => by
    obtain ⟨hk, hh⟩ := hok
    obtain ⟨g, rfl, hg⟩ := fuel_term hf
    have hcl := closing_kwArgs root n.lang (printHist n.hist ++ rest)
    simp only [srcOf, quoteSrc, List.append_assoc, List.cons_append, List.nil_append]
    rw [readExpr_call (by simp [hk])
      (readArgs_end hcl (argHead_dq _) (readOne_dq _ (strAtom lemma) _ (closing_follower hcl)))
      (hasNameErr_kwArgs root n.lang) (mkNode_term cur root n _ hk hr), progOf]
    exact readTrailers_hist cur n.hist (g + 2) _ rest hh he hg
  | .phr n es, f, rest, root, hok, he, hf, hr => by
    obtain ⟨hk, hh, hes⟩ := hok
    obtain ⟨g, rfl, hg1, hg2⟩ := fuel_phr hf
    simp only [srcOf, List.append_assoc, List.cons_append, List.nil_append]
    rw [readExpr_call (args := argsOf es ++ kwArgs root n.lang) (rest := printHist n.hist ++ rest) (by simp [hk]) ?_
      (hasNameErr_argsOf es _ (hasNameErr_kwArgs root n.lang)) (mkNode_phr cur root n es hk hr), progOf]
    · exact readTrailers_hist cur n.hist g _ rest hh he hg2
    · cases es with
      | nil =>
        obtain ⟨g', rfl⟩ : ∃ g', g = g' + 2 := ⟨g - 2, by rw [needA] at hg1; omega⟩
        exact readArgs_none cur g' root n.lang _
      | cons e r =>
        exact readArgs_children cur (e :: r) g _ _ _ (some (root.getD n.lang)) hes (by simp)
          (closing_kwArgs root n.lang _) hg1 (fun l' => rootOK_child cur root n.lang l' hr)
  | .dep n t ds, f, rest, root, hok, he, hf, hr => by
    obtain ⟨hk, hh, ht, hds⟩ := hok
    obtain ⟨g, rfl, hg1, hg2, hg3⟩ := fuel_dep hf
    have hrc : ∀ l', RootOK cur (some (root.getD n.lang)) l' := fun l' => rootOK_child cur root n.lang l' hr
    have hcl := closing_kwArgs root n.lang (printHist n.hist ++ rest)
    have hkt := srcOK_kind t ht
    simp only [srcOf, List.append_assoc, List.cons_append, List.nil_append]
    rw [readExpr_call (args := argsOf (t :: ds) ++ kwArgs root n.lang) (rest := printHist n.hist ++ rest) (by simp [hk])
      ?_ (hasNameErr_argsOf (t :: ds) _ (hasNameErr_kwArgs root n.lang)) (mkNode_dep cur root n t ds hk hr), progOf]
    · exact readTrailers_hist cur n.hist (g + 2) _ rest hh he hg3
    · cases ds with
      | nil =>
        exact readArgs_end hcl (argHead_srcOf _ t _ hkt) (readOne_expr _ t _ hkt
          (readExpr_srcOf cur t (g + 1) _ _ ht (Or.inr (closing_follower hcl)) hg1 (hrc _)))
      | cons d ds' =>
        exact readArgs_more (argHead_srcOf _ t _ hkt) (readOne_expr _ t _ hkt
            (readExpr_srcOf cur t (g + 1) _ _ ht (Or.inr (follower_cons ',' _ (by simp))) hg1 (hrc _)))
          (readArgs_children cur (d :: ds') (g + 1) _ _ _ _ hds (by simp) hcl hg2 hrc)
theorem readArgs_children (cur : Lang) : ∀ (es : List Expr) (f : Nat) (closing : Str) (targs : List Arg) (rest : Str)
    (root : Option Lang), SrcOKList es → es ≠ [] → Closing closing targs rest → needA es + 1 ≤ f →
    (∀ l', RootOK cur root l') →
    readArgs cur f (srcOfList root es ++ closing) = .ok (argsOf es ++ targs, rest)
  | [], _, _, _, _, _, _, h, _, _, _ => absurd rfl h
  | [e], f, closing, targs, rest, root, hok, _, hcl, hf, hr => by
    obtain ⟨g, rfl, hg⟩ := fuel_one hf
    have hk := srcOK_kind e hok.1
    exact readArgs_end hcl (argHead_srcOf _ e _ hk) (readOne_expr _ e _ hk
      (readExpr_srcOf cur e (g + 1) closing root hok.1 (Or.inr (closing_follower hcl)) hg (hr _)))
  | e :: e2 :: r, f, closing, targs, rest, root, hok, _, hcl, hf, hr => by
    obtain ⟨g, rfl, hg1, hg2⟩ := fuel_cons hf
    have hk := srcOK_kind e hok.1
    simp only [srcOfList, argsOf, List.append_assoc, List.cons_append, List.nil_append]
    exact readArgs_more (argHead_srcOf _ e _ hk) (readOne_expr _ e _ hk
        (readExpr_srcOf cur e g _ root hok.1 (Or.inr (follower_cons ',' _ (by simp))) hg1 (hr _)))
      (readArgs_children cur (e2 :: r) g closing targs rest root hok.2 (by simp) hcl hg2 hr)
end

theorem printCall_len (c : Call) : 1 ≤ (printCall c).length := by
  cases c with
  | opt name arg => simp [printCall]
  | tag2 nm attrs => simp only [printCall, List.length_append, List.length_cons]; omega

theorem printHist_len (h : List Call) : h.length ≤ (printHist h).length := by
  induction h with
  | nil => simp
  | cons c r ih =>
    have := printCall_len c
    simp only [printHist, List.length_append, List.length_cons]
    omega

theorem srcOf_len (root : Option Lang) (e : Expr) : 1 ≤ (srcOf root e).length := by
  obtain ⟨tl, h⟩ := srcOf_shape root e
  rw [h]; simp only [List.length_append, List.length_cons]; omega

theorem kind_len (k : Str) (h : k ∈ termKindsSrc ++ phraseKindsSrc ++ deprels) : 1 ≤ k.length := by
  obtain ⟨_, _, c, r, rfl, _⟩ := kind_facts k h
  simp

mutual
theorem needE_le : ∀ (e : Expr) (root : Option Lang), SrcOK e → needE e ≤ (srcOf root e).length + 1
  | .term n l i, root, hok => by
    have h1 := printHist_len n.hist
    simp only [needE, srcOf, quoteSrc, List.length_append, List.length_cons, List.length_nil]
    omega
  | .phr n es, root, hok => by
    have h1 := printHist_len n.hist
    have h2 := needA_le es (some (root.getD n.lang)) hok.2.2
    have h3 := kind_len n.kind (by simp [hok.1])
    simp only [needE, srcOf, List.length_append, List.length_cons, List.length_nil]
    omega
  | .dep n t ds, root, hok => by
    have h1 := printHist_len n.hist
    have h2 := needE_le t (some (root.getD n.lang)) hok.2.2.1
    have h3 := needA_le ds (some (root.getD n.lang)) hok.2.2.2
    have h4 := kind_len n.kind (by simp [hok.1])
    have h5 := srcOf_len (some (root.getD n.lang)) t
    cases ds with
    | nil =>
      simp only [needE, needA, srcOf, List.length_append, List.length_cons, List.length_nil, List.isEmpty_nil, if_true]
      omega
    | cons d r =>
      simp only [needE, srcOf, List.length_append, List.length_cons, List.length_nil, List.isEmpty_cons] at h3 ⊢
      simp only [Bool.false_eq_true, if_false, List.length_cons]
      omega
theorem needA_le : ∀ (es : List Expr) (root : Option Lang), SrcOKList es → needA es ≤ (srcOfList root es).length + 2
  | [], _, _ => by simp [needA]
  | [e], root, hok => by
    have := needE_le e root hok.1
    simp only [needA, srcOfList]
    omega
  | e :: e2 :: r, root, hok => by
    have h1 := needE_le e root hok.1
    have h2 := needA_le (e2 :: r) root hok.2
    have h3 := srcOf_len root e
    simp only [needA, srcOfList, List.length_append, List.length_cons, List.length_nil] at h2 ⊢
    omega
end

/-- **the printed source reads back as the construction program it denotes** (every constituent with its own language),
    when the language of the root is the current one; for every lemma and tag name, and option values whose `repr` the
    model covers (`SrcOK`) -/
theorem parseSrc_toSource (cur : Lang) (e : Expr) (h : SrcOK e) (hl : e.lang = cur) :
    parseSrc cur (toSource e) = .ok (progOf e) := by
  have := readExpr_srcOf cur e ((toSource e).length + 1) [] none h (Or.inl rfl) (needE_le e none h) hl
  simp only [List.append_nil] at this
  unfold parseSrc
  unfold toSource at this ⊢
  rw [this]
  simp [skipWs]


end Pyrealb.Expr
