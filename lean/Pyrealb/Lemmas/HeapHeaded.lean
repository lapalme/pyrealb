import Pyrealb.Lemmas.HeapHist
/-! # A structural sufficient condition for link confluence: the "headed" phrases VP, PP, AP, AdvP

Their link run only copies the record(s) of the head into the phrase: `plan` is `[]`, `[setPeng false p hd]` (PP, AP, AdvP)
or `[setPeng false p hd, setTaux false p hd]` (VP), where `hd` is the first child of the head kinds, or the first child.
If the head `H` of the FINAL child list has an agreement record (and a tense record for a VP) — e.g. it is a V, an A —
then, whatever the earlier heads were (children inserted in any order, in front or behind), the earlier runs wrote only
`p.peng` / `p.taux`, the final run writes them again from the untouched records of `H`: the hypotheses `cover` and `stable`
of `link_confluent_partial` hold. -/
namespace Pyrealb.Heap
open Pyrealb

/-- the plan of a headed phrase `p` (`wt`: with the tense record, i.e. a VP) whose current head is `hd` -/
def headedPlan (wt : Bool) (p hd : Nat) : List Act :=
  if wt then [.setPeng false p hd, .setTaux false p hd] else [.setPeng false p hd]

def Headed (wt : Bool) (p : Nat) (Q : List Act) : Prop := Q = [] ∨ ∃ hd, hd ≠ p ∧ Q = headedPlan wt p hd

def headedW (wt : Bool) (q : Ptr) (p hd : Nat) : List Wr :=
  (match q.peng hd with | some r => [Wr.peng p r] | none => []) ++
  (if wt then (match q.taux hd with | some r => [Wr.taux p r] | none => []) else [])

theorem compile_headed (wt : Bool) (q : Ptr) (p hd : Nat) :
    compile q {} (headedPlan wt p hd) = some (headedW wt q p hd, none) := by
  cases wt with
  | false =>
    simp only [headedPlan, headedW, Bool.false_eq_true, if_false, compile, REnv.origin, List.lookup]
    cases hp : q.peng hd <;> simp [hp]
  | true =>
    simp only [headedPlan, headedW, if_true, compile, REnv.origin, REnv.originT, List.lookup]
    cases hp : q.peng hd <;> cases ht : q.taux hd <;> simp [hp, ht]

theorem locs_headedW (wt : Bool) (q : Ptr) (p hd : Nat) :
    ∀ l ∈ locs (headedW wt q p hd), l = Loc.peng p ∨ (wt = true ∧ l = Loc.taux p) := by
  intro l hl
  simp only [headedW, locs, List.map_append, List.mem_append] at hl
  rcases hl with hl | hl
  · cases hp : q.peng hd with
    | none => simp [hp] at hl
    | some r => simp [hp, Wr.loc] at hl; exact Or.inl hl
  · cases wt with
    | false => simp at hl
    | true =>
      cases ht : q.taux hd with
      | none => simp [ht] at hl
      | some r => simp [ht, Wr.loc] at hl; exact Or.inr ⟨rfl, hl⟩

theorem applyW_other (q : Ptr) (W : List Wr) (p : Nat) (hW : ∀ l ∈ locs W, l = Loc.peng p ∨ l = Loc.taux p) (x : Nat)
    (hx : x ≠ p) : (applyW q W).peng x = q.peng x ∧ (applyW q W).taux x = q.taux x := by
  have f := applyW_frame q W
  constructor
  · refine f.get (.peng x) fun hm => ?_
    rcases hW _ hm with h | h
    · exact hx (Loc.peng.inj h)
    · cases h
  · refine f.get (.taux x) fun hm => ?_
    rcases hW _ hm with h | h
    · cases h
    · exact hx (Loc.taux.inj h)

theorem runW_headed (wt : Bool) (p : Nat) : ∀ (Ps : List (List Act)) (q : Ptr), (∀ Q ∈ Ps, Headed wt p Q) →
    ∃ W, runW q Ps = some W ∧ ∀ l ∈ locs W, l = Loc.peng p ∨ (wt = true ∧ l = Loc.taux p) := by
  intro Ps
  induction Ps with
  | nil => intro q _; exact ⟨[], rfl, by simp [locs]⟩
  | cons Q Qs ih =>
    intro q hQ
    have hrest : ∀ Q' ∈ Qs, Headed wt p Q' := fun Q' h' => hQ Q' (List.mem_cons_of_mem _ h')
    rcases hQ Q List.mem_cons_self with rfl | ⟨hd, _, rfl⟩
    · obtain ⟨W, hW, hl⟩ := ih q hrest
      refine ⟨W, ?_, hl⟩
      simp [runW, compile, applyW, hW]
    · obtain ⟨W, hW, hl⟩ := ih (applyW q (headedW wt q p hd)) hrest
      refine ⟨headedW wt q p hd ++ W, ?_, ?_⟩
      · simp only [runW, compile_headed, hW]
      · intro l hm
        simp only [locs, List.map_append, List.mem_append] at hm
        rcases hm with hm | hm
        · exact locs_headedW wt q p hd l hm
        · exact hl l hm

/-- **structural absorption for headed phrases**: when the head `H` of the final run has a record (and a tense record
    if the phrase is a VP), the final run alone determines the result, whatever heads the earlier runs saw -/
theorem headed_absorbed (wt : Bool) (q : Ptr) (p H : Nat) (Ps : List (List Act)) (hPs : ∀ Q ∈ Ps, Headed wt p Q)
    (hH : H ≠ p) (hp : (q.peng H).isSome) (ht : wt = true → (q.taux H).isSome) :
    runPlans q (Ps ++ [headedPlan wt p H]) = execP q (headedPlan wt p H) := by
  obtain ⟨W, hW, hl⟩ := runW_headed wt p Ps q hPs
  have hl2 : ∀ l ∈ locs W, l = Loc.peng p ∨ l = Loc.taux p := fun l hm => (hl l hm).imp id (·.2)
  have st := applyW_other q W p hl2 H hH
  apply runs_absorbed q Ps _ W (headedW wt q p H) hW (compile_headed wt q p H)
  · rw [compile_headed]
    simp only [headedW, st.1, st.2]
  · intro l hm
    obtain ⟨r, hr⟩ := Option.isSome_iff_exists.mp hp
    rcases hl l hm with rfl | ⟨hwt, rfl⟩
    · simp [headedW, locs, hr, Wr.loc]
    · obtain ⟨r', hr'⟩ := Option.isSome_iff_exists.mp (ht hwt)
      simp [headedW, locs, hr, hr', hwt, Wr.loc]

def headedKind : Kind → Bool
  | .VP | .PP | .AP | .AdvP => true
  | _ => false

theorem plan_headed (h : Heap) (p : Nat) (Q : List Act) (hk : headedKind (h.kind p) = true)
    (hself : ¬ p ∈ h.kids p) (hq : plan h p = some Q) : Headed (h.kind p == .VP) p Q := by
  have key : ∀ (i : Nat) (wt : Bool), (match (h.kids p)[i]? with
        | none => some []
        | some hd => some (headedPlan wt p hd)) = some Q → Headed wt p Q := by
    intro i wt hm
    cases hi : (h.kids p)[i]? with
    | none => rw [hi] at hm; simp only [Option.some.injEq] at hm; exact Or.inl hm.symm
    | some hd =>
      rw [hi] at hm
      simp only [Option.some.injEq] at hm
      refine Or.inr ⟨hd, ?_, hm.symm⟩
      intro e
      have hm2 : hd ∈ h.kids p := List.mem_of_getElem? hi
      rw [e] at hm2
      exact hself hm2
  have fin : ∀ (F : Plan), (if (h.kids p).isEmpty = true then some []
      else if ((h.kids p).any fun e => (h.kind e).isDep) = true then none else F) = some Q → Q = [] ∨ F = some Q := by
    intro F hF
    split at hF
    · simp only [Option.some.injEq] at hF; exact Or.inl hF.symm
    · split at hF
      · simp at hF
      · exact Or.inr hF
  cases hkp : h.kind p <;> simp [hkp, headedKind] at hk
  all_goals
    simp only [plan, planPhrase, hkp, Kind.isPhrase, if_true] at hq
    rcases fin _ hq with rfl | hF
    · exact Or.inl rfl
    · simp only [planXP, planVP] at hF; exact key _ _ hF

end Pyrealb.Heap
