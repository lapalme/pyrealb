import Pyrealb.Model.Number
import Pyrealb.Model.NumberEval
/-! Roman numerals.  `roman` writes one group of symbols per decimal digit, as `romanCanon` does, and in `romanCanon`
no symbol is smaller than one in a later group, so the value is the sum of the values of the groups.  Both facts rest
on the ten entries of each table (and the model's numerals below 100, by evaluation). -/
namespace Pyrealb.Number
open Pyrealb Pyrealb.NumberSpec Pyrealb.Gen.NumberWords

def romanOK (n : Nat) : Bool :=
  n == 0 || (roman n == .ok (romanCanon n) && romanValue (romanCanon n) == some n)

/-- What is evaluated: the model below 100 writes the canonical numeral; the hundreds loop writes the thousands group of
    `d / 10` and the hundreds group of `d % 10` (`units(C,D,M,d)` is also called with `d = 10`, for `roman(1000)`); the
    groups of 0 are empty; `k` times `M` is the `k`-th thousands group. -/
theorem romanLow_tbl : (∀ v ≤ 100, roman2 v = .ok (romanCanon v)) ∧
    (∀ d < 11, romanUnitsAt 2 d = .ok (romanThousands.getD (d / 10) [] ++ romanHundreds.getD (d % 10) [])) ∧
    romanThousands.getD 0 [] = [] ∧ romanHundreds.getD 0 [] = [] ∧
    ∀ k < 4, (List.replicate k romanM).flatten = romanThousands.getD k [] := by decide +kernel

theorem roman3_canon (v : Nat) (h : v ≤ 1000) : roman3 v = .ok (romanCanon v) := by
  obtain ⟨h2, hu, z3, z2, _⟩ := romanLow_tbl
  unfold roman3
  split
  · exact h2 v (by omega)
  · obtain ⟨e1, e2, e3, e4, e5⟩ : v / 100 / 10 = v / 1000 ∧ v % 100 / 1000 = 0 ∧ v % 100 / 100 % 10 = 0 ∧
        v % 100 / 10 % 10 = v / 10 % 10 ∧ v % 100 % 10 = v % 10 := by omega
    rw [hu (v / 100) (by omega), h2 (v % 100) (by omega)]
    show Except.ok _ = _
    simp only [romanCanon, e1, e2, e3, e4, e5, z3, z2, List.nil_append, List.append_assoc]

theorem roman_canon_eq (n : Nat) (h : n < 4000) : roman n = .ok (romanCanon n) := by
  obtain ⟨_, _, z3, _, hM⟩ := romanLow_tbl
  have hlim : ((n : Int) < romanLimit) = True := by simp [romanLimit]; omega
  simp only [roman, Int.natCast_nonneg, Int.not_lt.mpr, if_false, Int.toNat_natCast, hlim, if_true]
  split
  · exact roman3_canon n (by omega)
  · obtain ⟨e1, e2, e3, e4⟩ : n % 1000 / 1000 = 0 ∧ n % 1000 / 100 % 10 = n / 100 % 10 ∧
        n % 1000 / 10 % 10 = n / 10 % 10 ∧ n % 1000 % 10 = n % 10 := by omega
    rw [roman3_canon (n % 1000) (by omega), hM (n / 1000) (by omega)]
    show Except.ok _ = _
    simp only [romanCanon, e1, e2, e3, e4, z3, List.nil_append, List.append_assoc]

def symsGE (k : Nat) (x : Str) : Bool := x.all fun c => (romanDigit c).any (k ≤ ·)
def symsLE (k : Nat) (x : Str) : Bool := x.all fun c => (romanDigit c).any (· ≤ k)

theorem symsGE_mono {j k : Nat} (h : j ≤ k) {x : Str} (hx : symsGE k x = true) : symsGE j x = true := by
  simp only [symsGE, List.all_eq_true] at hx ⊢
  intro c hc
  have := hx c hc
  revert this
  cases romanDigit c with
  | none => simp
  | some a => simp; omega

theorem symsGE_append {k : Nat} {x y : Str} (hx : symsGE k x = true) (hy : symsGE k y = true) :
    symsGE k (x ++ y) = true := by
  simp only [symsGE, List.all_append, Bool.and_eq_true] at hx hy ⊢
  exact ⟨hx, hy⟩

/-- no symbol of `y` is worth more than one of `x`: nothing is subtracted across the seam -/
theorem romanValue_append {k : Nat} : ∀ {x y : Str} {vx vy : Nat}, symsGE k x = true → symsLE k y = true →
    romanValue x = some vx → romanValue y = some vy → romanValue (x ++ y) = some (vx + vy)
  | [], y, vx, vy, _, _, hx, hy => by
    simp only [romanValue, Option.some.injEq] at hx
    simp [hy, ← hx]
  | [c], [], vx, vy, _, _, hx, hy => by
    simp only [romanValue, Option.some.injEq] at hy
    simp [hx, ← hy]
  | [c], d :: r, vx, vy, h1, h2, hx, hy => by
    simp only [romanValue] at hx
    simp only [symsGE, List.all_cons, hx, Option.any_some, Bool.and_eq_true, decide_eq_true_eq] at h1
    simp only [symsLE, List.all_cons, Bool.and_eq_true] at h2
    cases hd : romanDigit d with
    | none => simp [hd] at h2
    | some b =>
      simp only [hd, Option.any_some, decide_eq_true_eq] at h2
      have : ¬ vx < b := by omega
      simp [romanValue, hx, hd, hy, this, Nat.add_comm]
  | c :: d :: r, y, vx, vy, h1, h2, hx, hy => by
    have h1' : symsGE k (d :: r) = true := by
      simp only [symsGE, List.all_cons, Bool.and_eq_true] at h1 ⊢
      exact h1.2
    rw [romanValue] at hx
    split at hx
    · rename_i a b v hc hd hv
      have ih := romanValue_append h1' h2 hv hy
      rw [List.cons_append] at ih
      simp only [List.cons_append, romanValue, hc, hd, ih]
      by_cases hab : a < b <;> by_cases hav : a ≤ v <;> simp [hab, hav] at hx ⊢ <;> omega
    · cases hx

theorem romanGroups_tbl :
    (∀ a < 4, romanValue (romanThousands.getD a []) = some (1000 * a) ∧ symsGE 1000 (romanThousands.getD a []) = true) ∧
    ∀ d < 10,
      (romanValue (romanHundreds.getD d []) = some (100 * d) ∧ symsGE 100 (romanHundreds.getD d []) = true ∧
        symsLE 1000 (romanHundreds.getD d []) = true) ∧
      (romanValue (romanTens.getD d []) = some (10 * d) ∧ symsGE 10 (romanTens.getD d []) = true ∧
        symsLE 100 (romanTens.getD d []) = true) ∧
      (romanValue (romanOnes.getD d []) = some d ∧ symsLE 10 (romanOnes.getD d []) = true) := by decide +kernel

theorem romanValue_canon (n : Nat) (h : n < 4000) : romanValue (romanCanon n) = some n := by
  obtain ⟨m1, m2⟩ := romanGroups_tbl.1 (n / 1000) (by omega)
  obtain ⟨c1, c2, c3⟩ := (romanGroups_tbl.2 (n / 100 % 10) (by omega)).1
  obtain ⟨x1, x2, x3⟩ := (romanGroups_tbl.2 (n / 10 % 10) (by omega)).2.1
  obtain ⟨i1, i3⟩ := (romanGroups_tbl.2 (n % 10) (by omega)).2.2
  have v2 := romanValue_append m2 c3 m1 c1
  have g2 := symsGE_append (symsGE_mono (by decide) m2) c2
  have v3 := romanValue_append g2 x3 v2 x1
  have g3 := symsGE_append (symsGE_mono (by decide) g2) x2
  have v4 := romanValue_append g3 i3 v3 i1
  rw [romanCanon, v4]
  congr 1
  omega

theorem roman_canon_tbl : (List.range 4000).all romanOK = true := by
  rw [List.all_eq_true]
  intro n hn
  have h := List.mem_range.mp hn
  simp [romanOK, roman_canon_eq n h, romanValue_canon n h]

end Pyrealb.Number
