import Pyrealb.Lemmas.Lemmatize
/-! Helper lemmas of `expandDecl_sound` (C18): the declension model (C02) evaluated on a terminal whose table, stem
    and request-relevant properties are known; the options `genExp` infers applied to a fresh terminal. -/
namespace Pyrealb.Lemmatize
open Pyrealb Pyrealb.Decl

theorem lexPos_elim {lex : Lex} {lemma pos : Str} {entry : PosEntry} (h : lexPos lex lemma pos = some entry) :
    ∃ info, lookup lemma lex = some info ∧ lookup pos info = some entry := by
  unfold lexPos at h
  split at h
  · cases h
  · rename_i info hinfo
    exact ⟨info, hinfo, h⟩

theorem nounChecks_ok {lex : Lex} {t : Term} {entry : PosEntry} {g n : FV} {form : Str}
    (hlex : lexPos lex t.lemma "N".toList = some entry)
    (hveto : nounOK t.lang (lookup "g".toList entry) (lookup "cnt".toList entry) g n = true) :
    nounChecks lex t g n form = .ok ⟨[form], t.warns⟩ := by
  obtain ⟨info, hinfo, hentry⟩ := lexPos_elim hlex
  unfold nounChecks
  unfold nounOK at hveto
  cases hl : t.lang with
  | fr =>
    rw [hl] at hveto
    simp only [hinfo, hentry]
    cases hlg : lookup "g".toList entry with
    | none => rw [hlg] at hveto; cases hveto
    | some lg =>
      rw [hlg] at hveto
      have hor := of_decide_eq_true hveto
      dsimp only
      rw [if_neg (fun h : lg.toFV ≠ FV.x ∧ lg.toFV ≠ g => hor.elim h.1 h.2)]
      rfl
  | en =>
    rw [hl] at hveto
    simp only [Bool.or_eq_true, decide_eq_true_eq] at hveto
    by_cases hp : n = .str ['p']
    · rw [if_pos hp]
      simp only [hinfo, hentry]
      cases hcn : lookup "cnt".toList entry with
      | none => rw [hcn] at hveto; exact absurd hp (hveto.resolve_right (fun h => nomatch h))
      | some cn =>
        rw [hcn] at hveto
        dsimp only
        rw [if_neg (of_decide_eq_true (hveto.resolve_left (fun h => h hp)))]
        rfl
    · rw [if_neg hp]
      rfl

theorem removeEmpty_single (x : Str) : Decl.removeEmpty [x] = [x] := by
  simp [Decl.removeEmpty, removeEmptyAux]

theorem prepareNDP_N {rules : Decl.Rules} {lex : Lex} {t : Term} (tb : Table) (g n : FV)
    (hpos : t.pos = .N) (hown : t.pOwn = none) :
    prepareNDP rules lex t tb g n false = .ok (t, tb.rows, [(Feat.g, g), (Feat.n, n)]) := by
  simp [prepareNDP, reqPerson, majesticStep, hpos, ownStep, hown, baseKeyVals, bind, Except.bind, pure, Except.pure]

theorem realTerm_N {rules : Decl.Rules} {lex : Lex} {t : Term} {name radical : Str} {tb : Table} {entry : PosEntry}
    {val : Str}
    (hpos : t.pos = .N) (htab : t.tab = some name) (hstem : t.stem = some radical)
    (hown : t.pOwn = none) (hw : t.warns = 0) (htb : lookup name rules = some tb)
    (hlex : lexPos lex t.lemma "N".toList = some entry)
    (hsel : selRow tb.rows [(Feat.g, dfltG t.getG), (Feat.n, dfltN t.getN)] val = true)
    (hveto : nounOK t.lang (lookup "g".toList entry) (lookup "cnt".toList entry) (dfltG t.getG) (dfltN t.getN) = true) :
    realTerm rules lex t = .ok ⟨[radical ++ val], 0⟩ := by
  have hnc := nounChecks_ok (form := radical ++ val) hlex hveto
  unfold realTerm realGen
  simp only [hpos, htab]
  unfold declineGen
  simp only [htb, hstem, hpos]
  unfold declineNDP
  simp only [hpos]
  have e1 : (Pos.N = Pos.A ∨ Pos.N = Pos.Adv) = False := by simp
  have e2 : ∀ x : FV, (if (Pos.N = Pos.D ∨ True) ∧ x = FV.none then FV.str ['m'] else x) = dfltG x := by
    intro x; simp [dfltG, fvStr]
  have e3 : ∀ x : FV, (if (Pos.N = Pos.D ∨ True) ∧ x = FV.none then FV.str ['s'] else x) = dfltN x := by
    intro x; simp [dfltN, fvStr]
  simp only [e1, e2, e3, if_false, if_true]
  unfold selRow at hsel
  rcases hrows : tb.rows with _ | ⟨d, _ | ⟨d2, ds2⟩⟩ <;> rw [hrows] at hsel <;> simp only [beq_iff_eq] at hsel
  case cons.nil =>
    subst hsel
    simp only [bind, Except.bind, hnc]
    simp [removeEmpty_single, hw, pure, Except.pure]
  all_goals
    simp only [prepareNDP_N tb _ _ hpos hown, bind, Except.bind, hrows]
    simp only [hsel, hstem, hpos, if_true, hnc]
    simp [removeEmpty_single, hw, pure, Except.pure]

theorem realTerm_Afr {rules : Decl.Rules} {lex : Lex} {t : Term} {name radical : Str} {tb : Table} {val : Str}
    (hpos : t.pos = .A ∨ t.pos = .Adv) (hlang : t.lang = .fr) (htab : t.tab = some name)
    (hstem : t.stem = some radical) (hf : t.pF = none) (hw : t.warns = 0) (htb : lookup name rules = some tb)
    (hsel : bestMatch tb.rows [(Feat.g, t.getG), (Feat.n, t.getN)] = some val) :
    realTerm rules lex t = .ok ⟨[radical ++ val], 0⟩ := by
  unfold realTerm realGen
  rcases hpos with hpos | hpos <;>
  · simp only [hpos, htab]
    unfold declineGen
    simp only [htb, hstem, hpos, hlang]
    simp [declineAdjFr, hsel, hf, bind, Except.bind, pure, Except.pure, removeEmpty_single, hw]

theorem realTerm_Aen_plain {rules : Decl.Rules} {lex : Lex} {t : Term} {name radical : Str} {tb : Table}
    (hpos : t.pos = .A ∨ t.pos = .Adv) (hlang : t.lang = .en) (htab : t.tab = some name)
    (hstem : t.stem = some radical) (hf : t.pF = none) (hw : t.warns = 0) (htb : lookup name rules = some tb) :
    realTerm rules lex t = .ok ⟨[t.lemma], 0⟩ := by
  unfold realTerm realGen
  rcases hpos with hpos | hpos <;>
  · simp only [hpos, htab]
    unfold declineGen
    simp only [htb, hstem, hpos, hlang]
    simp [declineAdjEn, hf, bind, Except.bind, pure, Except.pure, removeEmpty_single, hw]

theorem realTerm_Aen_f {rules : Decl.Rules} {lex : Lex} {t : Term} {name radical : Str} {tb : Table} {val fs : Str}
    (hpos : t.pos = .A ∨ t.pos = .Adv) (hlang : t.lang = .en) (htab : t.tab = some name)
    (hstem : t.stem = some radical) (hf : t.pF = some (.str fs)) (hw : t.warns = 0)
    (htb : lookup name rules = some tb) (ha1 : name ≠ "a1".toList) (hb1 : name ≠ "b1".toList)
    (hsel : bestMatch tb.rows [(Feat.f, .str fs)] = some val) :
    realTerm rules lex t = .ok ⟨[radical ++ val], 0⟩ := by
  have ha1' : ¬ (name = ['a', '1']) := ha1
  have hb1' : ¬ (name = ['b', '1']) := hb1
  unfold realTerm realGen
  rcases hpos with hpos | hpos <;>
  · simp only [hpos, htab]
    unfold declineGen
    simp only [htb, hstem, hpos, hlang]
    simp [declineAdjEn, hf, ha1', hb1', adjRowsEn, hsel, bind, Except.bind, pure, Except.pure, removeEmpty_single, hw]

/-- `pF` after the option calls -/
def afterF (opts : List (Str × OV)) (pf : Option FV) : Option FV :=
  opts.foldl (fun acc o => if o.1 = "f".toList then some o.2.toFV else acc) pf

theorem strs_contains {l : List String} {v : OV} (h : (strs l).contains v = true) : ∃ x, v = .str x := by
  induction l with
  | nil => simp [strs] at h
  | cons a r ih =>
    simp only [strs, List.map_cons, List.contains_cons, Bool.or_eq_true, beq_iff_eq] at h
    rcases h with h | h
    · exact ⟨_, h⟩
    · exact ih (by simpa [strs] using h)

theorem applyOpt_str {t : Term} {name x : Str} {vals : List OV}
    (hname : name = "g".toList ∨ name = "n".toList ∨ name = "f".toList)
    (hv : validVals name = some vals) (hin : vals.contains (OV.str x) = true) (hpos : t.pos ∈ allowedPos name) :
    applyOpt t name (.str x) = .ok (setOptProp t name (.str x)) := by
  have hm : ¬ (name = ['m', 'a', 'j', 'e']) := by rcases hname with rfl | rfl | rfl <;> decide
  have hin' : OV.str x ∈ vals := by simpa using hin
  unfold applyOpt
  simp [hm, hv, hpos, hin', OV.toFV, pure, Except.pure]

theorem applyOpt_valid {t : Term} {name : Str} {v : OV}
    (h : ((name = "g".toList ∨ name = "n".toList ∨ name = "f".toList) && decide (t.pos ∈ allowedPos name) &&
      match validVals name with
      | some vals => vals.contains v
      | none => false) = true) :
    ∃ t1, applyOpt t name v = .ok t1 ∧ t1.pos = t.pos ∧ t1.lang = t.lang ∧ t1.lemma = t.lemma ∧ t1.tab = t.tab ∧
      t1.stem = t.stem ∧ t1.pOwn = t.pOwn ∧ t1.warns = t.warns ∧
      t1.getG = (if name = "g".toList then v.toFV else t.getG) ∧
      t1.getN = (if name = "n".toList then v.toFV else t.getN) ∧
      t1.pF = (if name = "f".toList then some v.toFV else t.pF) := by
  simp only [Bool.and_eq_true, decide_eq_true_eq, Bool.decide_or, Bool.or_eq_true] at h
  obtain ⟨⟨hname, hpos⟩, hval⟩ := h
  rcases hname with rfl | rfl | rfl
  · have hv : validVals "g".toList = some (strs ["m", "f", "n", "x"]) := rfl
    rw [hv] at hval
    obtain ⟨x, rfl⟩ := strs_contains hval
    refine ⟨_, applyOpt_str (Or.inl rfl) hv hval hpos, ?_⟩
    simp [setOptProp, Term.setG, Term.getG, Term.getN, OV.toFV]
    cases t.pN <;> cases t.peng <;> rfl
  · have hv : validVals "n".toList = some (strs ["s", "p", "x"]) := rfl
    rw [hv] at hval
    obtain ⟨x, rfl⟩ := strs_contains hval
    refine ⟨_, applyOpt_str (Or.inr (Or.inl rfl)) hv hval hpos, ?_⟩
    simp [setOptProp, Term.setN, Term.getG, Term.getN, OV.toFV]
    cases t.pG <;> cases t.peng <;> rfl
  · have hv : validVals "f".toList = some (strs ["co", "su"]) := rfl
    rw [hv] at hval
    obtain ⟨x, rfl⟩ := strs_contains hval
    refine ⟨_, applyOpt_str (Or.inr (Or.inr rfl)) hv hval hpos, ?_⟩
    simp [setOptProp, Term.getG, Term.getN, OV.toFV]

theorem applyOpts_valid : ∀ (opts : List (Str × OV)) (t : Term), optsValid t.pos opts = true →
    ∃ t1, applyOpts t opts = .ok t1 ∧ t1.pos = t.pos ∧ t1.lang = t.lang ∧ t1.lemma = t.lemma ∧ t1.tab = t.tab ∧
      t1.stem = t.stem ∧ t1.pOwn = t.pOwn ∧ t1.warns = t.warns ∧
      t1.getG = afterOpts "g" opts t.getG ∧ t1.getN = afterOpts "n" opts t.getN ∧ t1.pF = afterF opts t.pF
  | [], t, _ => ⟨t, rfl, rfl, rfl, rfl, rfl, rfl, rfl, rfl, rfl, rfl, rfl⟩
  | (k, v) :: r, t, h => by
    unfold optsValid at h
    rw [List.all_cons, Bool.and_eq_true] at h
    obtain ⟨t', ht', hpos, hlang, hlem, htab, hstem, hown, hw, hg, hn, hf⟩ := applyOpt_valid (t := t) (name := k) (v := v) h.1
    have hr : optsValid t'.pos r = true := by rw [hpos]; exact h.2
    obtain ⟨t1, ht1, hpos1, hlang1, hlem1, htab1, hstem1, hown1, hw1, hg1, hn1, hf1⟩ := applyOpts_valid r t' hr
    refine ⟨t1, ?_, hpos1.trans hpos, hlang1.trans hlang, hlem1.trans hlem, htab1.trans htab, hstem1.trans hstem,
      hown1.trans hown, hw1.trans hw, ?_, ?_, ?_⟩
    · simp [applyOpts, ht', bind, Except.bind, ht1]
    · rw [hg1, hg]; simp [afterOpts, List.foldl_cons]
    · rw [hn1, hn]; simp [afterOpts, List.foldl_cons]
    · rw [hf1, hf]; simp [afterF, List.foldl_cons]

theorem afterF_none (opts : List (Str × OV)) (acc : Option OV) :
    afterF opts (acc.map OV.toFV) =
      (opts.foldl (fun acc o => if o.1 = "f".toList then some o.2 else acc) acc).map OV.toFV := by
  induction opts generalizing acc with
  | nil => rfl
  | cons o r ih =>
    simp only [afterF, List.foldl_cons]
    by_cases h : o.1 = "f".toList
    · simp only [h, if_true]
      exact ih (some o.2)
    · simp only [h, if_false]
      exact ih acc

theorem afterF_optVal (opts : List (Str × OV)) : afterF opts none = (optVal "f" opts).map OV.toFV :=
  afterF_none opts none

theorem firstRows_sub : ∀ (rows : List Row) (seen : List Str) (d : Row), d ∈ firstRows rows seen → d ∈ rows
  | [], _, d, h => by cases h
  | r :: rs, seen, d, h => by
    unfold firstRows at h
    split at h
    · exact List.mem_cons_of_mem _ (firstRows_sub rs seen d h)
    · rcases List.mem_cons.mp h with h | h
      · exact h ▸ List.mem_cons_self
      · exact List.mem_cons_of_mem _ (firstRows_sub rs _ d h)

theorem firstRows_has : ∀ (rows : List Row) (seen : List Str) (d : Row), d ∈ rows → d.val ∉ seen →
    ∃ d0 ∈ firstRows rows seen, d0.val = d.val
  | r :: rs, seen, d, hd, hns => by
    unfold firstRows
    by_cases hs : seen.contains r.val = true
    · rw [if_pos hs]
      rcases List.mem_cons.mp hd with rfl | hd
      · exact absurd (List.contains_iff_mem.mp hs) hns
      · exact firstRows_has rs seen d hd hns
    · rw [if_neg hs]
      by_cases hv : r.val = d.val
      · exact ⟨r, List.mem_cons_self, hv⟩
      · rcases List.mem_cons.mp hd with rfl | hd
        · exact absurd rfl hv
        · obtain ⟨d0, h0, hv0⟩ := firstRows_has rs _ d hd (fun hm => (List.mem_append.mp hm).elim hns
            (fun h1 => hv (List.mem_singleton.mp h1).symm))
          exact ⟨d0, List.mem_cons_of_mem _ h0, hv0⟩

/-- what `declLoop` lists: for the first row of each `val` (`firstRows`), the pair that `genExp` gives it -/
theorem declLoop_eq {lang : Lang} {pos lemma radical : Str} {entry : PosEntry} {rows : List Row} {seen : List Str}
    {l : List Pair} (h : declLoop lang pos lemma entry radical rows seen = .ok l) :
    l = (firstRows rows seen).filterMap
          (fun d => (genExp lang d pos lemma entry).toOption.join.map (fun e => (radical ++ d.val, e))) ∧
      ∀ d ∈ firstRows rows seen, ∃ r, genExp lang d pos lemma entry = .ok r := by
  fun_induction declLoop lang pos lemma entry radical rows seen generalizing l <;> unfold firstRows
  case case1 => cases h; exact ⟨rfl, fun _ hd => nomatch hd⟩
  case case2 hs ih => rw [if_pos hs]; exact ih h
  case case3 | case4 => cases h
  case case5 hs _ hrest hg ih =>
    cases h
    obtain ⟨ih1, ih2⟩ := ih hrest
    rw [if_neg hs, List.filterMap_cons, hg]
    exact ⟨ih1, fun d hd => (List.mem_cons.mp hd).elim (fun hd => ⟨_, hd ▸ hg⟩) (ih2 d)⟩
  case case6 hs _ hrest _ hg ih =>
    cases h
    obtain ⟨ih1, ih2⟩ := ih hrest
    rw [if_neg hs, List.filterMap_cons, hg]
    exact ⟨congrArg _ ih1, fun d hd => (List.mem_cons.mp hd).elim (fun hd => ⟨_, hd ▸ hg⟩) (ih2 d)⟩

theorem declLoop_mem {lang : Lang} {pos lemma radical : Str} {entry : PosEntry} {rows : List Row} {seen : List Str}
    {l : List Pair} (h : declLoop lang pos lemma entry radical rows seen = .ok l) {p : Pair} (hp : p ∈ l) :
    ∃ d ∈ firstRows rows seen, ∃ e, genExp lang d pos lemma entry = .ok (some e) ∧ p = (radical ++ d.val, e) := by
  rw [(declLoop_eq h).1] at hp
  obtain ⟨d, hd, hf⟩ := List.mem_filterMap.mp hp
  rcases hg : genExp lang d pos lemma entry with _ | _ | e <;> rw [hg] at hf <;> cases hf
  exact ⟨d, hd, e, hg, rfl⟩

theorem declLoop_complete {lang : Lang} {pos lemma radical : Str} {entry : PosEntry} {rows : List Row}
    {seen : List Str} {l : List Pair} (h : declLoop lang pos lemma entry radical rows seen = .ok l) {d : Row}
    (hd : d ∈ rows) (hns : d.val ∉ seen)
    (hgen : ∀ d' ∈ rows, d'.val = d.val → genExp lang d' pos lemma entry ≠ .ok none) :
    ∃ e, (radical ++ d.val, e) ∈ l := by
  obtain ⟨d0, h0, hv⟩ := firstRows_has rows seen d hd hns
  obtain ⟨r, hr⟩ := (declLoop_eq h).2 d0 h0
  cases r with
  | none => exact absurd hr (hgen d0 (firstRows_sub _ _ _ h0) hv)
  | some e =>
    rw [(declLoop_eq h).1]
    exact ⟨e, List.mem_filterMap.mpr ⟨d0, h0, by rw [hr, hv]; rfl⟩⟩

/-- `genExpN` only appends option calls to the expression it is given: it commutes with every map of expressions
    that commutes with the option calls -/
theorem genExpN_natural (f : Exp → Exp) (hf : ∀ e n v, f (Exp.opt e n v) = (f e).opt n v)
    (lang : Lang) (d : Row) (e : Exp) (lg cn : Option LV) :
    genExpN lang d (f e) lg cn = (genExpN lang d e lg cn).map (Option.map f) := by
  unfold genExpN
  cases lang <;> simp only [] <;> repeat' split
  all_goals simp only [hf, Except.map, Option.map]

theorem genExpA_natural (f : Exp → Exp) (hf : ∀ e n v, f (Exp.opt e n v) = (f e).opt n v)
    (lang : Lang) (d : Row) (e : Exp) : genExpA lang d (f e) = (genExpA lang d e).map f := by
  unfold genExpA
  cases lang <;> simp only [] <;> repeat' split
  all_goals simp only [hf, Except.map]

theorem genExpCore_natural (f : Exp → Exp) (hf : ∀ e n v, f (Exp.opt e n v) = (f e).opt n v) (lang : Lang) (d : Row)
    {pos : Pos} (hcls : pos = .N ∨ pos = .A ∨ pos = .Adv) {l l' : Str}
    (hinit : f (expInit pos.name l') = expInit pos.name l) (lg cn : Option LV) :
    genExpCore lang d pos.name l lg cn = (genExpCore lang d pos.name l' lg cn).map (Option.map f) := by
  rcases hcls with rfl | rfl | rfl <;> simp [genExpCore, Pos.name] at hinit ⊢ <;> rw [← hinit]
  · exact genExpN_natural f hf ..
  · rw [genExpA_natural f hf]
    cases genExpA lang d _ <;> rfl
  · cases lang
    · cases d.get .f <;> simp only [hf, Except.map, Option.map]
    · rfl

/-- the options `genExp` infers for N, A, Adv do not depend on the lemma -/
def relemma (l : Str) (e : Exp) : Exp := { e with lemma := l }

theorem opt_pos (e : Exp) (n : String) (v : OV) : (e.opt n v).pos = e.pos := rfl
theorem opt_lemma (e : Exp) (n : String) (v : OV) : (e.opt n v).lemma = e.lemma := rfl

theorem stripLead_noLead {x : Str} (h : noLeadSpace x = true) : Decl.stripLead x = x := by
  cases x with
  | nil => rfl
  | cons c r =>
    simp only [noLeadSpace, List.head?_cons, bne_iff_ne, ne_eq, Option.some.injEq] at h
    unfold Decl.stripLead
    split
    · rename_i r' heq
      cases heq
      exact absurd rfl h
    · rfl

theorem stem_append_ending {x suf : Str} (h : endsWith x suf = true) : dropRight x suf.length ++ suf = x := by
  unfold endsWith at h
  simp only [Bool.and_eq_true, decide_eq_true_eq, beq_iff_eq] at h
  unfold dropRight
  have := List.take_append_drop (x.length - suf.length) x
  rw [h.2] at this
  exact this

theorem genExpCore_pos {lang : Lang} {d : Row} {pos : Pos} (hcls : pos = .N ∨ pos = .A ∨ pos = .Adv)
    {l : Str} {lg cn : Option LV} {e : Exp} (h : genExpCore lang d pos.name l lg cn = .ok (some e)) :
    e.pos = pos.name := by
  have hn := genExpCore_natural (fun e => { e with pos := pos.name }) (fun _ _ _ => rfl) lang d hcls
    (l := l) (l' := l) rfl lg cn
  rw [h] at hn
  exact congrArg Exp.pos (Option.some.inj (Except.ok.inj hn))

theorem expandDecl_core {env : Env} {lex : Lex} {verb : Option Conj.Verb} {pos : Pos} {lemma name : Str}
    {tb : Table} {entry : PosEntry} {c : Ctor} {l : List Pair}
    (hcls : pos = .N ∨ pos = .A ∨ pos = .Adv)
    (htb : lookup name env.decl = some tb) (hend : endsWith lemma tb.ending = true)
    (hsp : noLeadSpace lemma = true)
    (hctor : ctorOK env.decl lex env.lang pos lemma name (dropRight lemma tb.ending.length) entry c = true)
    (hd : DistinctRows env.lang pos name tb c = true)
    (hl : expandDeclension env.lang env.decl lemma pos.name (.str name) entry = .ok l) :
    ∀ p ∈ l, realizeExp env lex verb p.2 = .ok (p.1, 0) := by
  intro p hp
  unfold expandDeclension at hl
  simp only [htb, hend, if_true] at hl
  obtain ⟨d, hdm, e, he, rfl⟩ := declLoop_mem hl hp
  unfold ctorOK at hctor
  cases hmk : mkTerm env.decl lex env.lang pos lemma with
  | error cr => simp [hmk] at hctor
  | ok t0 =>
    simp only [hmk, Bool.and_eq_true, decide_eq_true_eq] at hctor
    obtain ⟨⟨⟨⟨⟨⟨⟨⟨⟨⟨⟨⟨h_lang, h_pos⟩, h_lemma⟩, h_tab⟩, h_stem⟩, h_g⟩, h_n⟩, h_own⟩, h_f⟩, h_w⟩, h_lex⟩, h_lg⟩, h_cn⟩ := hctor
    have he' : genExpCore env.lang d pos.name lemma c.lexG c.cnt = .ok (some e) := by
      rw [← h_lg, ← h_cn]; exact he
    rw [genExpCore_natural (relemma lemma) (fun _ _ _ => rfl) env.lang d hcls (l' := []) rfl] at he'
    cases hg0 : genExpCore env.lang d pos.name [] c.lexG c.cnt with
    | error cr => rw [hg0] at he'; cases he'
    | ok o0 =>
      cases o0 with
      | none => rw [hg0] at he'; cases he'
      | some e0 =>
        rw [hg0] at he'
        simp only [Except.map, Option.map, Except.ok.injEq, Option.some.injEq] at he'
        subst he'
        unfold DistinctRows at hd
        simp only [Bool.and_eq_true, List.all_eq_true] at hd
        obtain ⟨hrsp, hall⟩ := hd
        have hrow := hall d hdm
        rw [hg0] at hrow
        simp only [] at hrow
        have hdval : noLeadSpace d.val = true := by
          unfold rowNoLeadSpace at hrsp
          rw [List.all_eq_true] at hrsp
          exact hrsp d (firstRows_sub _ _ d hdm)
        have hform := noLead_stem_append tb.ending.length hsp hdval
        have hpos0 := genExpCore_pos hcls hg0
        have hposV : ¬ ((relemma lemma e0).pos = "V".toList) := by
          rw [show (relemma lemma e0).pos = e0.pos from rfl, hpos0]
          rcases hcls with rfl | rfl | rfl <;> decide
        have hposOf : posOf? (relemma lemma e0).pos = some pos := by
          rw [show (relemma lemma e0).pos = e0.pos from rfl, hpos0]
          rcases hcls with rfl | rfl | rfl <;> rfl
        unfold realizeExp
        simp only [hposV, if_false, hposOf]
        unfold realize
        simp only [show (relemma lemma e0).lemma = lemma from rfl, show (relemma lemma e0).opts = e0.opts from rfl,
          hmk, bind, Except.bind]
        unfold rowOK at hrow
        rw [Bool.and_eq_true] at hrow
        obtain ⟨hvalid, hrest⟩ := hrow
        obtain ⟨t1, ht1, p1, p2, p3, p4, p5, p6, p7, pg, pn, pf⟩ :=
          applyOpts_valid e0.opts t0 (by rw [h_pos]; exact hvalid)
        rw [ht1]
        simp only []
        rw [h_g] at pg
        rw [h_n] at pn
        rw [h_f, afterF_optVal] at pf
        have hdet : ∀ x : Str, noLeadSpace x = true → detok [x] = x := fun x hx => by
          simp [detok, stripLead_noLead hx]
        rcases hcls with rfl | hA
        · -- nouns
          simp only [Bool.and_eq_true, beq_iff_eq] at hrest
          obtain ⟨⟨_, hsel⟩, hveto⟩ := hrest
          have hlexN : lexPos lex t1.lemma "N".toList = some entry := by rw [p3, h_lemma]; exact h_lex
          rw [realTerm_N (p1.trans h_pos) (p4.trans h_tab) (p5.trans h_stem) (p6.trans h_own)
            (p7.trans h_w) htb hlexN (by rw [pg, pn]; exact hsel) (by rw [pg, pn, h_lg, h_cn, p2, h_lang]; exact hveto)]
          simp [hdet _ hform]
        · -- adjectives and adverbs
          have hposA : t1.pos = .A ∨ t1.pos = .Adv := by rw [p1, h_pos]; exact hA
          rcases hA with rfl | rfl
          all_goals
            cases hlang : env.lang with
            | fr =>
              rw [hlang] at hrest
              simp only [Bool.and_eq_true, beq_iff_eq] at hrest
              obtain ⟨hnof, hsel⟩ := hrest
              rw [hnof] at pf
              rw [realTerm_Afr hposA ((p2.trans h_lang).trans hlang) (p4.trans h_tab)
                (p5.trans h_stem) pf (p7.trans h_w) htb (by rw [pg, pn]; exact hsel)]
              simp [hdet _ hform]
            | en =>
              rw [hlang] at hrest
              simp only [] at hrest
              cases hov : optVal "f" e0.opts with
              | none =>
                rw [hov] at hrest pf
                simp only [beq_iff_eq] at hrest
                rw [realTerm_Aen_plain hposA ((p2.trans h_lang).trans hlang) (p4.trans h_tab)
                  (p5.trans h_stem) pf (p7.trans h_w) htb]
                have : t1.lemma = dropRight lemma tb.ending.length ++ d.val := by
                  rw [p3, h_lemma, hrest, stem_append_ending hend]
                simp only [this]
                simp [hdet _ hform]
              | some fv =>
                rw [hov] at hrest pf
                cases fv with
                | str fs =>
                  simp only [Bool.and_eq_true, decide_eq_true_eq, beq_iff_eq] at hrest
                  obtain ⟨⟨ha1, hb1⟩, hsel⟩ := hrest
                  rw [realTerm_Aen_f hposA ((p2.trans h_lang).trans hlang) (p4.trans h_tab)
                    (p5.trans h_stem) pf (p7.trans h_w) htb ha1 hb1 hsel]
                  simp [hdet _ hform]
                | int i => cases hrest
                | none => cases hrest
                | bool b => cases hrest

/-- `genExp` answers `None` only for the plural row of an English noun that the lexicon marks uncountable -/
theorem genExp_none {lang : Lang} {d : Row} {pos lemma : Str} {entry : PosEntry}
    (h : genExp lang d pos lemma entry = .ok none) :
    lang = .en ∧ pos = "N".toList ∧ d.get .n = some (fvStr "p") ∧
      lookup "cnt".toList entry = some (LV.str "no".toList) := by
  unfold genExp genExpCore at h
  by_cases hN : pos = "N".toList
  · simp only [hN, if_true] at h
    unfold genExpN at h
    cases lang with
    | en =>
      simp only [] at h
      repeat' split at h
      all_goals (cases h)
      rename_i dn hdn hp cnt c hc hno
      exact ⟨rfl, hN, by rw [hdn, hp], by rw [hc, hno]⟩
    | fr =>
      simp only [] at h
      repeat' split at h
      all_goals cases h
  · simp only [hN, if_false] at h
    repeat' split at h
    all_goals first
      | cases h
      | (cases hg : genExpA lang d (expInit pos lemma) <;> rw [hg] at h <;> cases h)

end Pyrealb.Lemmatize
