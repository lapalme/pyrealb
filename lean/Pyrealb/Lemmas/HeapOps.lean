import Pyrealb.Model.HeapOps
/-! # When the partial operations of `Model/HeapOps` succeed -/
namespace Pyrealb.Heap
open Pyrealb

/-- the store in which `linkProperties` runs when `e` is added to `p` at `pos` -/
def preLink (h : Heap) (p e : Nat) (pos : Option Int) : Heap := addElement (setParent h e (some p)) p e pos

theorem linkR_ok {h h' : Heap} {p : Nat} :
    linkR h p = .ok h' ↔ ∃ P, plan h p = some P ∧ planLocal h p P = true ∧ exec h P = .ok h' := by
  unfold linkR
  cases plan h p with
  | none => simp
  | some P =>
    cases hl : planLocal h p P with
    | false => simp [hl]
    | true => cases hx : exec h P <;> simp [hl, hx]

theorem relinkUp_ok {fuel : Nat} {h h' : Heap} {x : Nat} :
    relinkUp (fuel + 1) h x = .ok h' ↔
      ((h.node x).parent = none ∧ h' = h) ∨
      ∃ q h1, (h.node x).parent = some q ∧ linkR h q = .ok h1 ∧ relinkUp fuel h1 q = .ok h' := by
  simp only [relinkUp]
  cases (h.node x).parent with
  | none => simp [eq_comm]
  | some q => cases hl : linkR h q <;> simp [hl]

theorem phraseAdd1_ok {h h' : Heap} {p e : Nat} {pos : Option Int} :
    phraseAdd1 h p e pos = .ok h' ↔
      ∃ h2 h3, linkR (preLink h p e pos) p = .ok h2 ∧ relinkUp (h2.n + 1) h2 p = .ok h3 ∧ h' = reorder h3 p := by
  unfold phraseAdd1 preLink
  cases linkR (addElement (setParent h e (some p)) p e pos) p with
  | ok h2 => cases hu : relinkUp (h2.n + 1) h2 p <;> simp [hu, eq_comm]
  | crash c => simp
  | outside => simp

theorem depAdd_node_ok {h h' : Heap} {p d : Nat} {pos : Option Int} :
    depAdd h p pos (.item (.node d)) = .ok h' ↔
      if (h.kind d).isDep then ∃ h2, linkR (addElement h p d pos) p = .ok h2 ∧ relinkUp (h2.n + 1) h2 p = .ok h'
      else h' = h.warn := by
  simp only [depAdd]
  split
  · cases linkR (addElement h p d pos) p <;> simp
  · simp [eq_comm]

end Pyrealb.Heap
