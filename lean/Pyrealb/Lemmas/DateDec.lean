import Pyrealb.Model.Date
/-! Decimal text of integers is injective; consequence for the `str(diffDays) in relativeDate` lookup. -/
namespace Pyrealb.Date

theorem dec_isDigit {n : Nat} {c : Char} (h : c ∈ dec n) : c.isDigit = true :=
  Nat.isDigit_of_mem_toDigits (by decide) (by decide) h

theorem dec_ne_nil (n : Nat) : dec n ≠ [] := Nat.toDigits_ne_nil

theorem dec_inj {a b : Nat} (h : dec a = dec b) : a = b := by
  have ha := @Nat.ofDigitChars_ten_toDigits a
  have hb := @Nat.ofDigitChars_ten_toDigits b
  unfold dec at h
  rw [h] at ha
  omega

theorem dec_head_ne (n : Nat) {c : Char} (hc : c.isDigit = false) (t : Str) : dec n ≠ c :: t := by
  intro h
  have := dec_isDigit (h ▸ List.mem_cons_self : c ∈ dec n)
  rw [hc] at this; cases this

theorem pyInt_inj {a b : Int} (h : pyInt a = pyInt b) : a = b := by
  unfold pyInt at h
  by_cases ha : a < 0 <;> by_cases hb : b < 0 <;> simp only [ha, hb, if_true, if_false] at h
  · have := dec_inj (List.cons.inj h).2; omega
  · exact absurd h.symm (dec_head_ne _ (by decide) _)
  · exact absurd h (dec_head_ne _ (by decide) _)
  · have := dec_inj h; omega

theorem pyInt_ne_singleton (a : Int) {c : Char} (hc : c.isDigit = false) : pyInt a ≠ [c] := by
  unfold pyInt; split
  · intro h; exact dec_ne_nil _ (List.cons.inj h).2
  · exact dec_head_ne _ hc _

theorem lookup_none_of_forall {α} (k : Str) (l : List (Str × α)) (h : ∀ kv ∈ l, kv.1 ≠ k) : lookup k l = none := by
  induction l with
  | nil => rfl
  | cons kv r ih =>
    obtain ⟨k', v⟩ := kv
    have h1 : k' ≠ k := h (k', v) List.mem_cons_self
    simp only [lookup, h1, if_false]
    exact ih (fun x hx => h x (List.mem_cons_of_mem _ hx))

def week : List Int := (List.range 13).map (fun (i : Nat) => (i : Int) - 6)

/-- every key of a relative-time table is `"-"`, `"+"` or `str(k)` with −6 ≤ k ≤ 6 (decidable; proved of the
    generated tables by `decide`) -/
def RelKeysWF (tbl : List (Str × Str)) : Bool :=
  tbl.all (fun kv => kv.1 = ['-'] || kv.1 = ['+'] || (week.map pyInt).contains kv.1)

theorem mem_week {k : Int} : k ∈ week ↔ -6 ≤ k ∧ k ≤ 6 := by
  simp only [week, List.mem_map, List.mem_range]
  exact ⟨fun ⟨i, hi, e⟩ => by omega, fun h => ⟨(k + 6).toNat, by omega, by omega⟩⟩

/-- beyond a week the `str(diffDays) in relativeDate` test fails, whatever the size of the difference -/
theorem lookup_far (tbl : List (Str × Str)) (hwf : RelKeysWF tbl = true) (d : Int) (hd : d < -6 ∨ 6 < d) :
    lookup (pyInt d) tbl = none := by
  apply lookup_none_of_forall
  intro kv hkv heq
  have h := List.all_eq_true.mp hwf kv hkv
  simp only [Bool.or_eq_true, decide_eq_true_eq, List.contains_iff_mem] at h
  rcases h with (h | h) | h
  · exact pyInt_ne_singleton d (by decide) (heq ▸ h)
  · exact pyInt_ne_singleton d (by decide) (heq ▸ h)
  · obtain ⟨k, hk, hke⟩ := List.mem_map.mp h
    have : k = d := pyInt_inj (hke.trans heq)
    have := mem_week.1 hk
    omega

end Pyrealb.Date
