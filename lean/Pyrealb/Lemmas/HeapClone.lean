import Pyrealb.Lemmas.HeapFrame
/-! # `cloneRegion`: the copy is isomorphic to the original region, disjoint from it, and has the same abstraction -/
namespace Pyrealb.Heap
open Pyrealb

theorem idxIn_lt {C : List Nat} {x : Nat} (hx : x ∈ C) : idxIn C x < C.length :=
  List.idxOf_lt_length_iff.mpr hx

theorem getElem?_idxIn {C : List Nat} {x : Nat} (hx : x ∈ C) : C[idxIn C x]? = some x := by
  have h := idxIn_lt hx
  rw [List.getElem?_eq_getElem h]
  simp [idxIn, List.getElem_idxOf]

theorem idxIn_inj {C : List Nat} {x y : Nat} (hx : x ∈ C) (hy : y ∈ C) (e : idxIn C x = idxIn C y) : x = y := by
  have a := getElem?_idxIn hx
  have b := getElem?_idxIn hy
  rw [e] at a
  rw [a] at b
  exact Option.some.inj b

theorem mem_recsOf {f : Nat → Option Nat} {C : List Nat} {r : Nat} : r ∈ recsOf f C ↔ ∃ x ∈ C, f x = some r := by
  simp [recsOf, List.mem_eraseDups, List.mem_filterMap]

section clone
variable (h : Heap) (C : List Nat)

theorem clone_inN_new {x : Nat} (hx : x ∈ C) :
    (if (cloneMaps h C).base ≤ (cloneMaps h C).ρ x then C[(cloneMaps h C).ρ x - (cloneMaps h C).base]? else none) = some x := by
  simp [CloneMaps.ρ, cloneMaps, getElem?_idxIn hx]

theorem clone_inN_old {i : Nat} (hi : i < h.n) :
    (if (cloneMaps h C).base ≤ i then C[i - (cloneMaps h C).base]? else none) = none := by
  have : ¬ (cloneMaps h C).base ≤ i := by simp [cloneMaps]; omega
  simp [this]

theorem clone_new {x : Nat} (hx : x ∈ C) :
    let m := cloneMaps h C
    let h' := cloneRegion h C
    h'.node (m.ρ x) = mapNode m (h.node x) ∧ h'.peng (m.ρ x) = (h.peng x).map m.σ ∧
    h'.taux (m.ρ x) = (h.taux x).map m.τ ∧ h'.cod (m.ρ x) = (h.cod x).map m.ρ ∧
    h'.subject (m.ρ x) = (h.subject x).map (Option.map m.ρ) := by
  have e := clone_inN_new h C hx
  simp only [cloneRegion, e, and_self]

theorem clone_old {i : Nat} (hi : i < h.n) :
    let h' := cloneRegion h C
    h'.node i = h.node i ∧ h'.peng i = h.peng i ∧ h'.taux i = h.taux i ∧ h'.cod i = h.cod i ∧
    h'.subject i = h.subject i := by
  have e := clone_inN_old h C hi
  simp only [cloneRegion, e, and_self]

theorem clone_prec_old {r : Nat} (hr : r < ownRec h.nRec ∨ r % 2 = 1) : (cloneRegion h C).prec r = h.prec r := by
  have : ¬ (r % 2 = 0 ∧ (cloneMaps h C).rbase ≤ r / 2) := by
    simp only [cloneMaps, ownRec] at hr ⊢
    omega
  simp only [cloneRegion, this, if_false]

theorem clone_trec_old {r : Nat} (hr : r < h.nTRec) : (cloneRegion h C).trec r = h.trec r := by
  have : ¬ (cloneMaps h C).tbase ≤ r := by simp [cloneMaps]; omega
  simp only [cloneRegion, this, if_false]

theorem clone_prec_new {r : Nat} (hr : r ∈ (cloneMaps h C).R) :
    (cloneRegion h C).prec ((cloneMaps h C).σ r) = h.prec r := by
  have e1 : (cloneMaps h C).σ r % 2 = 0 := by simp [CloneMaps.σ, ownRec]
  have e2 : (cloneMaps h C).σ r / 2 = (cloneMaps h C).rbase + idxIn (cloneMaps h C).R r := by
    simp [CloneMaps.σ, ownRec]
  simp [cloneRegion, e1, e2, getElem?_idxIn hr]

theorem clone_trec_new {r : Nat} (hr : r ∈ (cloneMaps h C).T) :
    (cloneRegion h C).trec ((cloneMaps h C).τ r) = h.trec r := by
  simp [cloneRegion, CloneMaps.τ, getElem?_idxIn hr]

theorem rho_inj {x y : Nat} (hx : x ∈ C) (hy : y ∈ C) (e : (cloneMaps h C).ρ x = (cloneMaps h C).ρ y) : x = y := by
  exact idxIn_inj hx hy (Nat.add_left_cancel e)

theorem sigma_inj {r s : Nat} (hr : r ∈ (cloneMaps h C).R) (hs : s ∈ (cloneMaps h C).R)
    (e : (cloneMaps h C).σ r = (cloneMaps h C).σ s) : r = s := by
  simp only [CloneMaps.σ, ownRec] at e
  exact idxIn_inj hr hs (by omega)

theorem tau_inj {r s : Nat} (hr : r ∈ (cloneMaps h C).T) (hs : s ∈ (cloneMaps h C).T)
    (e : (cloneMaps h C).τ r = (cloneMaps h C).τ s) : r = s := by
  exact idxIn_inj hr hs (Nat.add_left_cancel e)

theorem rho_fresh (x : Nat) : h.n ≤ (cloneMaps h C).ρ x := by simp [CloneMaps.ρ, cloneMaps]
theorem sigma_fresh (r : Nat) : ownRec h.nRec ≤ (cloneMaps h C).σ r ∧ (cloneMaps h C).σ r % 2 = 0 := by
  simp only [CloneMaps.σ, cloneMaps, ownRec]; omega
theorem tau_fresh (r : Nat) : h.nTRec ≤ (cloneMaps h C).τ r := by simp [CloneMaps.τ, cloneMaps]

theorem rho_lt {x : Nat} (hx : x ∈ C) : (cloneMaps h C).ρ x < (cloneRegion h C).n := by
  have := idxIn_lt hx
  simp only [CloneMaps.ρ, cloneMaps, cloneRegion]
  omega

theorem nbrs_clone {x : Nat} (hx : x ∈ C) :
    nbrs (cloneRegion h C) ((cloneMaps h C).ρ x) = (nbrs h x).map (cloneMaps h C).ρ := by
  obtain ⟨hn, _, _, hc, hs⟩ := clone_new h C hx
  simp only [nbrs, Heap.kids, hn, hc, hs, mapNode, List.map_append]
  congr 1
  · congr 1
    · congr 1
      · congr 1
        cases (h.node x).term <;> rfl
      · cases (h.node x).parent <;> rfl
    · cases h.cod x <;> rfl
  · cases hsx : h.subject x with
    | none => rfl
    | some o => cases o <;> rfl

end clone

/-! ### the abstraction of a region: everything relative to the region itself -/

/-- position in `C` of the first node that shares the record `r` -/
def firstWith (f : Nat → Option Nat) (C : List Nat) (r : Nat) : Nat := C.findIdx (fun y => f y == some r)

/-- the abstraction of one node of the region `C`: its own fields, its references as positions in `C`, the class of its
    records in the partition of `C` by shared record (numbered by first occurrence), and the record contents -/
structure AbsNode where
  nd : Node
  cod : Option Nat
  subject : Option (Option Nat)
  pc : Option Nat
  prec : Option PRec
  tc : Option Nat
  trec : Option TRec

def absNode (h : Heap) (C : List Nat) (x : Nat) : AbsNode :=
  { nd := { h.node x with kids := (h.node x).kids.map (idxIn C), term := (h.node x).term.map (idxIn C),
                          parent := (h.node x).parent.map (idxIn C) }
    cod := (h.cod x).map (idxIn C)
    subject := (h.subject x).map (Option.map (idxIn C))
    pc := (h.peng x).map (firstWith h.peng C)
    prec := (h.peng x).map h.prec
    tc := (h.taux x).map (firstWith h.taux C)
    trec := (h.taux x).map h.trec }

/-- the abstraction of the region: tree, own props, partition by shared record, record contents -/
def absRegion (h : Heap) (C : List Nat) : List AbsNode := C.map (absNode h C)

theorem findIdx_map {L : List Nat} {f : Nat → Nat} {p p' : Nat → Bool} (hp : ∀ y ∈ L, p' (f y) = p y) :
    (L.map f).findIdx p' = L.findIdx p := by
  induction L with
  | nil => rfl
  | cons a t ih =>
    simp only [List.map_cons, List.findIdx_cons, hp a List.mem_cons_self]
    rw [ih (fun y hy => hp y (List.mem_cons_of_mem _ hy))]

theorem idxIn_map {C : List Nat} {f : Nat → Nat} (inj : ∀ a ∈ C, ∀ b ∈ C, f a = f b → a = b) {y : Nat} (hy : y ∈ C) :
    idxIn (C.map f) (f y) = idxIn C y :=
  findIdx_map fun z hz => Bool.eq_iff_iff.mpr (by simpa using ⟨inj z hz y hy, congrArg f⟩)

theorem firstWith_clone {f f' : Nat → Option Nat} {C : List Nat} {ρ σ : Nat → Nat} {r : Nat}
    (hf : ∀ y ∈ C, f' (ρ y) = (f y).map σ) (inj : ∀ y ∈ C, ∀ s, f y = some s → σ s = σ r → s = r) :
    firstWith f' (C.map ρ) (σ r) = firstWith f C r := by
  refine findIdx_map fun y hy => ?_
  rw [hf y hy]
  cases hq : f y with
  | none => rfl
  | some s =>
    refine Bool.eq_iff_iff.mpr ?_
    simp only [Option.map_some, beq_iff_eq, Option.some.injEq]
    exact ⟨inj y hy s hq, congrArg σ⟩

theorem absNode_clone (h : Heap) (C : List Nat) (cl : Closed h C) {x : Nat} (hx : x ∈ C) :
    absNode (cloneRegion h C) (C.map (cloneMaps h C).ρ) ((cloneMaps h C).ρ x) = absNode h C x := by
  obtain ⟨hn, hp, ht, hc, hs⟩ := clone_new h C hx
  have rel : ∀ y ∈ nbrs h x, idxIn (C.map (cloneMaps h C).ρ) ((cloneMaps h C).ρ y) = idxIn C y :=
    fun y hy => idxIn_map (fun a ha b hb => rho_inj h C ha hb) ((cl x hx).2 y hy)
  have eo : ∀ o : Option Nat, (∀ y, o = some y → y ∈ nbrs h x) →
      (o.map (cloneMaps h C).ρ).map (idxIn (C.map (cloneMaps h C).ρ)) = o.map (idxIn C) := fun o ho => by
    rw [Option.map_map]; exact Option.map_congr fun y hy => rel y (ho y hy)
  have ek : ((h.node x).kids.map (cloneMaps h C).ρ).map (idxIn (C.map (cloneMaps h C).ρ)) = (h.node x).kids.map (idxIn C) := by
    rw [List.map_map]; exact List.map_congr_left fun y hy => rel y (mem_nbrs.2 (.inl hy))
  have et := eo (h.node x).term fun y hy => mem_nbrs.2 (.inr (.inl hy))
  have epar := eo (h.node x).parent fun y hy => mem_nbrs.2 (.inr (.inr (.inl hy)))
  have ecod := eo (h.cod x) fun y hy => mem_nbrs.2 (.inr (.inr (.inr (.inl hy))))
  have esub : ((h.subject x).map (Option.map (cloneMaps h C).ρ)).map (Option.map (idxIn (C.map (cloneMaps h C).ρ))) =
      (h.subject x).map (Option.map (idxIn C)) := by
    rw [Option.map_map]
    refine Option.map_congr fun o ho => ?_
    rw [Function.comp, Option.map_map]
    exact Option.map_congr fun y hy => rel y (mem_nbrs.2 (.inr (.inr (.inr (.inr (by rw [ho, hy]))))))
  have epc : ((h.peng x).map (cloneMaps h C).σ).map (firstWith (cloneRegion h C).peng (C.map (cloneMaps h C).ρ)) =
      (h.peng x).map (firstWith h.peng C) := by
    rw [Option.map_map]
    exact Option.map_congr fun r hr => firstWith_clone (fun y hy => (clone_new h C hy).2.1) fun y hy s hq =>
      sigma_inj h C (mem_recsOf.mpr ⟨y, hy, hq⟩) (mem_recsOf.mpr ⟨x, hx, hr⟩)
  have etc : ((h.taux x).map (cloneMaps h C).τ).map (firstWith (cloneRegion h C).taux (C.map (cloneMaps h C).ρ)) =
      (h.taux x).map (firstWith h.taux C) := by
    rw [Option.map_map]
    exact Option.map_congr fun r hr => firstWith_clone (fun y hy => (clone_new h C hy).2.2.1) fun y hy s hq =>
      tau_inj h C (mem_recsOf.mpr ⟨y, hy, hq⟩) (mem_recsOf.mpr ⟨x, hx, hr⟩)
  have eprec : ((h.peng x).map (cloneMaps h C).σ).map (cloneRegion h C).prec = (h.peng x).map h.prec := by
    rw [Option.map_map]
    exact Option.map_congr fun r hr => clone_prec_new h C (mem_recsOf.mpr ⟨x, hx, hr⟩)
  have etrec : ((h.taux x).map (cloneMaps h C).τ).map (cloneRegion h C).trec = (h.taux x).map h.trec := by
    rw [Option.map_map]
    exact Option.map_congr fun r hr => clone_trec_new h C (mem_recsOf.mpr ⟨x, hx, hr⟩)
  simp only [absNode, hn, hp, ht, hc, hs, mapNode, ek, et, epar, ecod, esub, epc, eprec, etc, etrec]

end Pyrealb.Heap
