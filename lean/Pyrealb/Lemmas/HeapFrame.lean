import Pyrealb.Model.HeapClone
/-! # Frames and read-locality: what an operation may write, and what it may depend on

`Closed h D`: the set of nodes `D` is closed under the references of the object graph (children, terminal, parentConst,
cod, subject).  `Frame D h0 h1`: going from `h0` to `h1` nothing outside `D` was written — neither a node outside `D`, nor
its `peng`/`taux`/`cod`/`subject`, nor the content of a record that no node of `D` pointed to — and the records the nodes
of `D` point to afterwards are records they pointed to before, or fresh ones.
`Agree A h g`: the stores `h` and `g` have the same nodes `A` (fields, pointers) and the same contents in the records these
nodes point to; everything else (other trees, the warning counter, the allocation counters) may differ.
`Sim A h h' g'` packs what is proved of every operation on a closed set `A`, performed in `h` and in a store `g` that
agrees with `h` on `A`: it is framed by `A`, leaves `A` closed, and the two results agree on `A` again.  Every operation is
a sequence of updates of single fields (`sim_*`), each chosen by reading inside `A`. -/
namespace Pyrealb.Heap
open Pyrealb

def Closed (h : Heap) (D : List Nat) : Prop := ∀ x ∈ D, x < h.n ∧ ∀ y ∈ nbrs h x, y ∈ D

theorem closedB_iff (h : Heap) (S : List Nat) : closedB h S = true ↔ Closed h S := by
  simp [closedB, Closed, List.all_eq_true]

theorem mem_nbrs {h : Heap} {x y : Nat} : y ∈ nbrs h x ↔
    y ∈ h.kids x ∨ (h.node x).term = some y ∨ (h.node x).parent = some y ∨ h.cod x = some y ∨
      h.subject x = some (some y) := by
  simp only [nbrs, List.mem_append, Option.mem_toList, or_assoc]
  cases h.subject x with
  | none => simp
  | some o => cases o <;> simp [eq_comm]

theorem Closed.of_nbrs {h h' : Heap} {D : List Nat} (cl : Closed h D) (hn : h.n ≤ h'.n)
    (hs : ∀ x ∈ D, ∀ y ∈ nbrs h' x, y ∈ nbrs h x ∨ y ∈ D) : Closed h' D :=
  fun x hx => ⟨Nat.lt_of_lt_of_le (cl x hx).1 hn, fun y hy => (hs x hx y hy).elim ((cl x hx).2 y) id⟩

theorem Closed.refs {h : Heap} {D : List Nat} (cl : Closed h D) {x : Nat} (hx : x ∈ D) (y : Nat)
    (hy : y ∈ (h.node x).kids ∨ (h.node x).term = some y ∨ (h.node x).parent = some y) : y ∈ D :=
  (cl x hx).2 y (mem_nbrs.2 (hy.imp_right fun o => o.imp_right Or.inl))

def RecOf (h : Heap) (D : List Nat) (r : Nat) : Prop := ∃ x ∈ D, h.peng x = some r
def TRecOf (h : Heap) (D : List Nat) (r : Nat) : Prop := ∃ x ∈ D, h.taux x = some r

structure Frame (D : List Nat) (h0 h1 : Heap) : Prop where
  n : h1.n = h0.n
  node : ∀ y, ¬ y ∈ D → h1.node y = h0.node y
  peng : ∀ y, ¬ y ∈ D → h1.peng y = h0.peng y
  taux : ∀ y, ¬ y ∈ D → h1.taux y = h0.taux y
  cod : ∀ y, ¬ y ∈ D → h1.cod y = h0.cod y
  subject : ∀ y, ¬ y ∈ D → h1.subject y = h0.subject y
  nRec : h0.nRec ≤ h1.nRec
  nTRec : h0.nTRec ≤ h1.nTRec
  recOf : ∀ r, RecOf h1 D r → RecOf h0 D r ∨ ∃ x ∈ D, r = freshRec x
  trecOf : ∀ r, TRecOf h1 D r → TRecOf h0 D r
  prec : ∀ r, ¬ RecOf h0 D r → (∀ x ∈ D, r ≠ freshRec x) → h1.prec r = h0.prec r
  trec : ∀ r, ¬ TRecOf h0 D r → h1.trec r = h0.trec r

theorem Frame.refl (D : List Nat) (h : Heap) : Frame D h h :=
  ⟨rfl, fun _ _ => rfl, fun _ _ => rfl, fun _ _ => rfl, fun _ _ => rfl, fun _ _ => rfl, Nat.le_refl _, Nat.le_refl _,
   fun _ hr => Or.inl hr, fun _ hr => hr, fun _ _ _ => rfl, fun _ _ => rfl⟩

theorem Frame.trans {D : List Nat} {h0 h1 h2 : Heap} (a : Frame D h0 h1) (b : Frame D h1 h2) : Frame D h0 h2 where
  n := b.n.trans a.n
  node y hy := (b.node y hy).trans (a.node y hy)
  peng y hy := (b.peng y hy).trans (a.peng y hy)
  taux y hy := (b.taux y hy).trans (a.taux y hy)
  cod y hy := (b.cod y hy).trans (a.cod y hy)
  subject y hy := (b.subject y hy).trans (a.subject y hy)
  nRec := Nat.le_trans a.nRec b.nRec
  nTRec := Nat.le_trans a.nTRec b.nTRec
  recOf r hr := (b.recOf r hr).elim (a.recOf r) Or.inr
  trecOf r hr := a.trecOf r (b.trecOf r hr)
  prec r hn hf := (b.prec r (fun h1 => (a.recOf r h1).elim hn fun ⟨x, hx, e⟩ => hf x hx e) hf).trans (a.prec r hn hf)
  trec r hn := (b.trec r fun h1 => hn (a.trecOf r h1)).trans (a.trec r hn)

structure Agree (A : List Nat) (h g : Heap) : Prop where
  n : g.n = h.n
  node : ∀ x ∈ A, g.node x = h.node x
  peng : ∀ x ∈ A, g.peng x = h.peng x
  taux : ∀ x ∈ A, g.taux x = h.taux x
  cod : ∀ x ∈ A, g.cod x = h.cod x
  subject : ∀ x ∈ A, g.subject x = h.subject x
  prec : ∀ r, RecOf h A r → g.prec r = h.prec r
  trec : ∀ r, TRecOf h A r → g.trec r = h.trec r

theorem Agree.refl (A : List Nat) (h : Heap) : Agree A h h :=
  ⟨rfl, fun _ _ => rfl, fun _ _ => rfl, fun _ _ => rfl, fun _ _ => rfl, fun _ _ => rfl, fun _ _ => rfl, fun _ _ => rfl⟩

structure Sim (A : List Nat) (h h' g' : Heap) : Prop where
  frame : Frame A h h'
  closed : Closed h' A
  agree : Agree A h' g'

theorem Sim.trans {A : List Nat} {h h1 h2 g1 g2 : Heap} (a : Sim A h h1 g1) (b : Sim A h1 h2 g2) : Sim A h h2 g2 :=
  ⟨a.frame.trans b.frame, b.closed, b.agree⟩

theorem sim_ite {A : List Nat} {h a b a' b' : Heap} {c : Prop} [Decidable c] (ht : Sim A h a a') (he : Sim A h b b') :
    Sim A h (if c then a else b) (if c then a' else b') := by
  split <;> assumption

theorem upd_of_not_mem {β} {D : List Nat} {x y : Nat} (f : Nat → β) (v : β) (hx : x ∈ D) (hy : ¬ y ∈ D) :
    upd f x v y = f y := upd_other f x y v fun e => hy (e ▸ hx)

theorem upd_congr {β} {f f' : Nat → β} {z : Nat} (x : Nat) (v : β) (e : f' z = f z) : upd f' x v z = upd f x v z := by
  simp only [upd, e]

/-- who points to `r'` after `x` was pointed to `r` (`RecOf` / `TRecOf` after an update of `peng` / `taux`) -/
theorem ptr_upd {f : Nat → Option Nat} {A : List Nat} {x r r' : Nat} (hr : ∃ z ∈ A, upd f x (some r) z = some r') :
    r' = r ∨ ∃ z ∈ A, f z = some r' := by
  obtain ⟨z, hz, e⟩ := hr
  by_cases hzx : z = x
  · subst hzx; left; simpa using e.symm
  · right; exact ⟨z, hz, by simpa [upd_other _ _ _ _ hzx] using e⟩

section
variable {A : List Nat} {h g : Heap} (cl : Closed h A) (ag : Agree A h g)
include cl ag

theorem sim_refl : Sim A h h g := ⟨Frame.refl A h, cl, ag⟩

-- `warn` touches the warning counter only: every other field of `Frame.refl` / `ag` holds of `h.warn k` by unfolding
theorem sim_warn (k : Nat) : Sim A h (h.warn k) (g.warn k) :=
  ⟨{ Frame.refl A h with n := rfl }, cl.of_nbrs (Nat.le_refl _) fun _ _ _ hy => Or.inl hy, { ag with n := ag.n }⟩

theorem sim_setNode {x : Nat} (hx : x ∈ A) (nd : Node)
    (hn : ∀ y, y ∈ nd.kids ∨ nd.term = some y ∨ nd.parent = some y → y ∈ A) :
    Sim A h (h.setNode x nd) (g.setNode x nd) where
  frame := { Frame.refl A h with node := fun _ hy => upd_of_not_mem _ _ hx hy }
  closed := cl.of_nbrs (Nat.le_refl _) fun z _ y hy => by
    by_cases e : z = x
    · subst e
      simp only [mem_nbrs, Heap.kids, Heap.setNode, upd_same] at hy ⊢
      rcases hy with hy | hy | hy | hy
      · exact Or.inr (hn y (Or.inl hy))
      · exact Or.inr (hn y (Or.inr (Or.inl hy)))
      · exact Or.inr (hn y (Or.inr (Or.inr hy)))
      · exact Or.inl (Or.inr (Or.inr (Or.inr hy)))
    · simpa [mem_nbrs, Heap.kids, Heap.setNode, upd_other _ _ _ _ e] using Or.inl hy
  agree := { ag with node := fun z hz => upd_congr x nd (ag.node z hz) }

theorem sim_peng {x r : Nat} (hx : x ∈ A) (hr : RecOf h A r ∨ ∃ x' ∈ A, r = freshRec x') (hp : g.prec r = h.prec r) :
    Sim A h { h with peng := upd h.peng x (some r) } { g with peng := upd g.peng x (some r) } where
  frame := { Frame.refl A h with
    peng := fun _ hy => upd_of_not_mem _ _ hx hy
    recOf := fun _ hr' => (ptr_upd hr').elim (· ▸ hr) Or.inl }
  closed := cl.of_nbrs (Nat.le_refl _) fun _ _ _ hy => Or.inl hy
  agree := { ag with
    peng := fun z hz => upd_congr x _ (ag.peng z hz)
    prec := fun r' hr' => (ptr_upd hr').elim (· ▸ hp) (ag.prec r') }

theorem sim_taux {x r : Nat} (hx : x ∈ A) (hr : TRecOf h A r) :
    Sim A h { h with taux := upd h.taux x (some r) } { g with taux := upd g.taux x (some r) } where
  frame := { Frame.refl A h with
    taux := fun _ hy => upd_of_not_mem _ _ hx hy
    trecOf := fun _ hr' => (ptr_upd hr').elim (· ▸ hr) id }
  closed := cl.of_nbrs (Nat.le_refl _) fun _ _ _ hy => Or.inl hy
  agree := { ag with
    taux := fun z hz => upd_congr x _ (ag.taux z hz)
    trec := fun r' hr' => (ptr_upd hr').elim (· ▸ ag.trec r hr) (ag.trec r') }

theorem sim_prec {r : Nat} (hr : RecOf h A r ∨ ∃ x ∈ A, r = freshRec x) (c : PRec) :
    Sim A h { h with prec := upd h.prec r c } { g with prec := upd g.prec r c } where
  frame := { Frame.refl A h with
    prec := fun _ hn hf => upd_other _ _ _ _ fun e => hr.elim (e ▸ hn) fun ⟨x, hx, e'⟩ => hf x hx (e.trans e') }
  closed := cl.of_nbrs (Nat.le_refl _) fun _ _ _ hy => Or.inl hy
  agree := { ag with prec := fun r' hr' => upd_congr r c (ag.prec r' hr') }

theorem sim_trec {r : Nat} (hr : TRecOf h A r) (c : TRec) :
    Sim A h { h with trec := upd h.trec r c } { g with trec := upd g.trec r c } where
  frame := { Frame.refl A h with trec := fun _ hn => upd_other _ _ _ _ fun e => hn (e ▸ hr) }
  closed := cl.of_nbrs (Nat.le_refl _) fun _ _ _ hy => Or.inl hy
  agree := { ag with trec := fun r' hr' => upd_congr r c (ag.trec r' hr') }

theorem sim_cod {x y : Nat} (hx : x ∈ A) (hy : y ∈ A) :
    Sim A h { h with cod := upd h.cod x (some y) } { g with cod := upd g.cod x (some y) } where
  frame := { Frame.refl A h with cod := fun _ hz => upd_of_not_mem _ _ hx hz }
  closed := cl.of_nbrs (Nat.le_refl _) fun z _ w hw => by
    by_cases e : z = x
    · subst e
      simp only [mem_nbrs, Heap.kids, upd_same, Option.some.injEq] at hw ⊢
      rcases hw with hw | hw | hw | hw | hw
      · exact Or.inl (Or.inl hw)
      · exact Or.inl (Or.inr (Or.inl hw))
      · exact Or.inl (Or.inr (Or.inr (Or.inl hw)))
      · exact Or.inr (hw ▸ hy)
      · exact Or.inl (Or.inr (Or.inr (Or.inr (Or.inr hw))))
    · simpa [mem_nbrs, Heap.kids, upd_other _ _ _ _ e] using Or.inl hw
  agree := { ag with cod := fun z hz => upd_congr x _ (ag.cod z hz) }

theorem sim_subject {x : Nat} (hx : x ∈ A) (o : Option Nat) (ho : ∀ y, o = some y → y ∈ A) :
    Sim A h { h with subject := upd h.subject x (some o) } { g with subject := upd g.subject x (some o) } where
  frame := { Frame.refl A h with subject := fun _ hz => upd_of_not_mem _ _ hx hz }
  closed := cl.of_nbrs (Nat.le_refl _) fun z _ w hw => by
    by_cases e : z = x
    · subst e
      simp only [mem_nbrs, Heap.kids, upd_same, Option.some.injEq] at hw ⊢
      rcases hw with hw | hw | hw | hw | hw
      · exact Or.inl (Or.inl hw)
      · exact Or.inl (Or.inr (Or.inl hw))
      · exact Or.inl (Or.inr (Or.inr (Or.inl hw)))
      · exact Or.inl (Or.inr (Or.inr (Or.inr (Or.inl hw))))
      · exact Or.inr (ho w hw)
    · simpa [mem_nbrs, Heap.kids, upd_other _ _ _ _ e] using Or.inl hw
  agree := { ag with subject := fun z hz => upd_congr x _ (ag.subject z hz) }

/-- a statement under an unsatisfied `hasattr` test -/
theorem sim_skip {strict : Bool} {c : Crash} {h' : Heap}
    (hs : (if strict = true then Except.error c else Except.ok h) = .ok h') :
    ∃ g', (if strict = true then Except.error c else Except.ok g) = .ok g' ∧ Sim A h h' g' := by
  cases strict
  · cases hs; exact ⟨g, rfl, sim_refl cl ag⟩
  · cases hs

theorem step_sim (a : Act) (hn : ∀ y ∈ a.nodes, y ∈ A) {h' : Heap} (hs : step h a = .ok h') :
    ∃ g', step g a = .ok g' ∧ Sim A h h' g' := by
  cases a <;> simp only [Act.nodes, List.forall_mem_cons, List.not_mem_nil, false_imp_iff, implies_true, and_true] at hn
  case setPeng strict x y =>
    obtain ⟨hx, hy⟩ := hn
    simp only [step, ag.peng y hy] at hs ⊢
    cases hq : h.peng y with
    | none => rw [hq] at hs; exact sim_skip cl ag hs
    | some r =>
      rw [hq] at hs; cases hs
      exact ⟨_, rfl, sim_peng cl ag hx (Or.inl ⟨y, hy, hq⟩) (ag.prec r ⟨y, hy, hq⟩)⟩
  case setTaux strict x y =>
    obtain ⟨hx, hy⟩ := hn
    simp only [step, ag.taux y hy] at hs ⊢
    cases hq : h.taux y with
    | none => rw [hq] at hs; exact sim_skip cl ag hs
    | some r => rw [hq] at hs; cases hs; exact ⟨_, rfl, sim_taux cl ag hx ⟨y, hy, hq⟩⟩
  case writeN strict y v =>
    have hy := hn
    simp only [step, ag.peng y hy] at hs ⊢
    cases hq : h.peng y with
    | none => rw [hq] at hs; exact sim_skip cl ag hs
    | some r =>
      rw [hq] at hs; cases hs
      simp only [ag.prec r ⟨y, hy, hq⟩]
      exact ⟨_, rfl, sim_prec cl ag (Or.inl ⟨y, hy, hq⟩) _⟩
  case copyG strict t y =>
    obtain ⟨ht, hy⟩ := hn
    simp only [step, ag.peng y hy, ag.peng t ht] at hs ⊢
    cases hq : h.peng y with
    | none => rw [hq] at hs; exact sim_skip cl ag hs
    | some r =>
      rw [hq] at hs; simp only at hs ⊢
      rw [ag.prec r ⟨y, hy, hq⟩]
      cases hg : (h.prec r).g with
      | none => rw [hg] at hs; cases hs
      | some gv =>
        rw [hg] at hs; simp only at hs ⊢
        cases hqt : h.peng t with
        | none => rw [hqt] at hs; cases hs
        | some rt =>
          rw [hqt] at hs; cases hs
          simp only
          rw [ag.prec rt ⟨t, ht, hqt⟩]
          exact ⟨_, rfl, sim_prec cl ag (Or.inl ⟨t, ht, hqt⟩) _⟩
  case fresh x ifNone =>
    have hx := hn
    simp only [step, ag.peng x hx] at hs ⊢
    by_cases hc : (ifNone && (h.peng x).isSome) = true
    · simp only [hc, if_true] at hs ⊢
      cases hs; exact ⟨g, rfl, sim_refl cl ag⟩
    · simp only [hc] at hs ⊢
      cases hs
      have s1 := sim_prec cl ag (Or.inr ⟨x, hx, rfl⟩) {}
      exact ⟨_, rfl, s1.trans (sim_peng s1.closed s1.agree hx (Or.inr ⟨x, hx, rfl⟩) (by simp))⟩
  case setCod x y =>
    cases hs
    exact ⟨_, rfl, sim_cod cl ag hn.1 hn.2⟩
  case setSubject x y =>
    cases hs
    exact ⟨_, rfl, sim_subject cl ag hn.1 y fun w e => hn.2 w (by simp [e])⟩
  case morphoError x =>
    have hx := hn
    cases hs
    simp only [step, ag.node x hx]
    have s1 := sim_setNode cl ag hx { h.node x with kind := .Q } (cl.refs hx)
    exact ⟨_, rfl, s1.trans (sim_warn s1.closed s1.agree 1)⟩
  case guardHas o => cases hs; exact ⟨g, rfl, sim_refl cl ag⟩
  case crash c => cases hs

end

theorem exec_sim {A : List Nat} (acts : List Act) (hn : ∀ a ∈ acts, ∀ y ∈ a.nodes, y ∈ A) {h g h' : Heap}
    (cl : Closed h A) (ag : Agree A h g) (hs : exec h acts = .ok h') : ∃ g', exec g acts = .ok g' ∧ Sim A h h' g' := by
  induction acts generalizing h g with
  | nil => cases hs; exact ⟨g, rfl, sim_refl cl ag⟩
  | cons a as ih =>
    have hst : a.stops g.peng = a.stops h.peng := by
      cases a <;> simp only [Act.stops]
      rw [ag.peng _ (hn _ List.mem_cons_self _ (by simp [Act.nodes]))]
    simp only [exec, hst] at hs ⊢
    by_cases hc : a.stops h.peng = true
    · simp only [hc, if_true] at hs ⊢
      cases hs; exact ⟨g, rfl, sim_refl cl ag⟩
    · simp only [hc] at hs ⊢
      cases h1 : step h a with
      | error c => rw [h1] at hs; cases hs
      | ok h1' =>
        rw [h1] at hs
        obtain ⟨g1, hg1, s1⟩ := step_sim cl ag a (hn a List.mem_cons_self) h1
        obtain ⟨g', hg', s2⟩ := ih (fun b hb => hn b (List.mem_cons_of_mem _ hb)) s1.closed s1.agree hs
        exact ⟨g', by rw [hg1]; exact hg', s1.trans s2⟩

/-! ### the closure is the least closed set, and is computed inside it -/

theorem all_congr' {l : List Nat} {f f' : Nat → Bool} (hf : ∀ x ∈ l, f x = f' x) : l.all f = l.all f' := by
  simpa using congrArg (List.all · id) (List.map_congr_left hf)

theorem any_congr' {l : List Nat} {f f' : Nat → Bool} (hf : ∀ x ∈ l, f x = f' x) : l.any f = l.any f' := by
  simpa using congrArg (List.any · id) (List.map_congr_left hf)

theorem flatMap_congr' {β : Type} {l : List Nat} {f f' : Nat → List β} (hf : ∀ x ∈ l, f x = f' x) :
    l.flatMap f = l.flatMap f' := by
  rw [List.flatMap_def, List.flatMap_def, List.map_congr_left hf]

theorem Closed.frontier {h : Heap} {D S : List Nat} (cl : Closed h D) (hS : ∀ y ∈ S, y ∈ D) :
    ∀ y ∈ S ++ (S.flatMap (nbrs h)).filter (fun y => !S.contains y), y ∈ D := by
  intro y hy
  rcases List.mem_append.mp hy with hy | hy
  · exact hS y hy
  · obtain ⟨x, hx, hxy⟩ := List.mem_flatMap.mp (List.mem_filter.mp hy).1
    exact (cl x (hS x hx)).2 y hxy

theorem closureLoop_sub (D : List Nat) (h : Heap) (cl : Closed h D) (fuel : Nat) (S S' : List Nat)
    (hS : ∀ y ∈ S, y ∈ D) (hr : closureLoop fuel h S = some S') : ∀ y ∈ S', y ∈ D := by
  fun_induction closureLoop fuel h S with
  | case1 | case3 => cases hr; exact hS
  | case2 => cases hr
  | case4 fuel h S hc ih => exact ih cl (cl.frontier hS) hr

theorem closure_spec (h : Heap) (x : Nat) (C : List Nat) (hc : closure h x = some C) :
    Closed h C ∧ x ∈ C ∧ C.Nodup ∧ ∀ D, Closed h D → x ∈ D → ∀ y ∈ C, y ∈ D := by
  unfold closure at hc
  cases hl : closureLoop h.n h [x] with
  | none => rw [hl] at hc; cases hc
  | some S =>
    rw [hl] at hc
    simp only at hc
    split at hc
    · rename_i hcond
      cases hc
      simp only [Bool.and_eq_true] at hcond
      refine ⟨(closedB_iff _ _).mp hcond.1, by simpa using hcond.2, List.filter_sublist.nodup List.nodup_range, ?_⟩
      intro D cl hx y hy
      have hyS : y ∈ S := by simpa using (List.mem_filter.mp hy).2
      exact closureLoop_sub D h cl h.n [x] S (by simpa using hx) hl y hyS
    · cases hc

theorem planLocal_sub {D : List Nat} {h : Heap} {p : Nat} {P : List Act} (cl : Closed h D) (hp : p ∈ D)
    (hloc : planLocal h p P = true) : ∀ a ∈ P, ∀ y ∈ a.nodes, y ∈ D := by
  unfold planLocal at hloc
  cases hc : closure h p with
  | none => simp [hc] at hloc
  | some C =>
    simp only [hc, List.all_eq_true] at hloc
    intro a ha y hy
    exact (closure_spec h p C hc).2.2.2 D cl hp y (by simpa using hloc a ha y hy)

section
variable {A : List Nat} {h g : Heap}

theorem nbrs_ag (ag : Agree A h g) {x : Nat} (hx : x ∈ A) : nbrs g x = nbrs h x := by
  simp only [nbrs, Heap.kids, ag.node x hx, ag.cod x hx, ag.subject x hx]

theorem closed_of_agree (cl : Closed h A) (ag : Agree A h g) : Closed g A := by
  intro x hx
  obtain ⟨h1, h2⟩ := cl x hx
  exact ⟨by rw [ag.n]; exact h1, by rw [nbrs_ag ag hx]; exact h2⟩

theorem closedB_ag (ag : Agree A h g) (S : List Nat) (hS : ∀ y ∈ S, y ∈ A) : closedB g S = closedB h S := by
  unfold closedB
  apply all_congr'
  intro x hx
  rw [ag.n, nbrs_ag ag (hS x hx)]

theorem closureLoop_ag (cl : Closed h A) (ag : Agree A h g) (fuel : Nat) (S : List Nat) (hS : ∀ y ∈ S, y ∈ A) :
    closureLoop fuel g S = closureLoop fuel h S := by
  induction fuel generalizing S with
  | zero => simp only [closureLoop, closedB_ag ag S hS]
  | succ f ih =>
    simp only [closureLoop, closedB_ag ag S hS, flatMap_congr' fun x hx => nbrs_ag ag (hS x hx)]
    split
    · rfl
    · exact ih _ (cl.frontier hS)

theorem closure_ag (cl : Closed h A) (ag : Agree A h g) {p : Nat} (hp : p ∈ A) : closure g p = closure h p := by
  unfold closure
  rw [ag.n, closureLoop_ag cl ag h.n [p] (by simpa using hp)]
  cases hl : closureLoop h.n h [p] with
  | none => rfl
  | some S =>
    simp only
    have hS : ∀ y ∈ S, y ∈ A := closureLoop_sub A h cl h.n [p] S (by simpa using hp) hl
    rw [closedB_ag ag _ (fun y hy => hS y (by simpa using (List.mem_filter.mp hy).2))]

theorem planLocal_ag (cl : Closed h A) (ag : Agree A h g) {p : Nat} (hp : p ∈ A) (acts : List Act) :
    planLocal g p acts = planLocal h p acts := by
  unfold planLocal
  rw [closure_ag cl ag hp]

end

end Pyrealb.Heap
