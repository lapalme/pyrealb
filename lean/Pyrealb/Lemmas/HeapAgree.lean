import Pyrealb.Lemmas.HeapFrame
/-! # Read-locality of `linkProperties`

For `A` closed in `h` and `Agree A h g`: the link plan of a node of `A` is the same in both stores (`plan_agree`): the whole
of `Model/HeapLink` only navigates along the references of the object graph. -/
namespace Pyrealb.Heap
open Pyrealb

section
variable {A : List Nat} {h g : Heap}

section
variable (ag : Agree A h g) {x : Nat} (hx : x ∈ A)
include ag hx

theorem Agree.kind : g.kind x = h.kind x := by simp [Heap.kind, ag.node x hx]
theorem Agree.kids : g.kids x = h.kids x := by simp [Heap.kids, ag.node x hx]
theorem Agree.isA (ks : List Kind) : g.isA x ks = h.isA x ks := by simp [Heap.isA, ag.kind hx]
theorem Agree.lemmaOf : g.lemmaOf x = h.lemmaOf x := by simp [Heap.lemmaOf, ag.node x hx]
theorem Agree.parentOf : g.parentOf x = h.parentOf x := by simp [Heap.parentOf, ag.node x hx]
theorem Agree.hasProp (k : Str) : g.hasProp x k = h.hasProp x k := by simp [Heap.hasProp, ag.node x hx]
theorem Agree.gramNumber : g.gramNumber x = h.gramNumber x := by simp [Heap.gramNumber, ag.node x hx]

theorem Agree.getProp (k : Str) : g.getProp x k = h.getProp x k := by
  unfold Heap.getProp
  rw [ag.node x hx, ag.peng x hx, ag.taux x hx]
  cases lookup k (h.node x).props with
  | some v => rfl
  | none =>
    simp only
    split
    · cases hq : h.peng x with
      | none => rfl
      | some r => simp only; rw [ag.prec r ⟨x, hx, hq⟩]
    · split
      · cases hq : h.taux x with
        | none => rfl
        | some r => simp only; rw [ag.trec r ⟨x, hx, hq⟩]
      · rfl

theorem Agree.isPP : isPP g x = isPP h x := by simp [Heap.isPP, ag.kind hx, ag.getProp hx]

end

section
variable (cl : Closed h A) {x y : Nat} (hx : x ∈ A)
include cl hx

theorem Closed.kid (hy : y ∈ h.kids x) : y ∈ A := cl.refs hx y (.inl hy)
theorem Closed.kid? {i : Nat} (hy : (h.kids x)[i]? = some y) : y ∈ A := cl.kid hx (List.mem_of_getElem? hy)
theorem Closed.parent (hy : h.parentOf x = some y) : y ∈ A := cl.refs hx y (.inr (.inr hy))
theorem Closed.term (hy : (h.node x).term = some y) : y ∈ A := cl.refs hx y (.inr (.inl hy))

end

variable (cl : Closed h A) (ag : Agree A h g)
include cl ag

omit cl ag in
theorem findIdxFrom_congr (p q : Nat → Bool) : ∀ (l : List Nat) (i : Nat), (∀ x ∈ l, p x = q x) →
    findIdxFrom p l i = findIdxFrom q l i := by
  intro l
  induction l with
  | nil => intro i _; rfl
  | cons a t ih =>
    intro i hl
    simp only [findIdxFrom, hl a List.mem_cons_self]
    rw [ih (i + 1) (fun x hx => hl x (List.mem_cons_of_mem _ hx))]

theorem getIndex_ag {p : Nat} (hp : p ∈ A) (ks : List Kind) (start : Nat) :
    g.getIndex p ks start = h.getIndex p ks start := by
  unfold Heap.getIndex
  rw [ag.kids hp]
  apply findIdxFrom_congr
  intro x hx
  exact ag.isA (cl.kid hp (List.mem_of_mem_drop hx)) ks

theorem getConst_ag {x : Nat} (hx : x ∈ A) (ks : List Kind) : g.getConst x ks = h.getConst x ks := by
  unfold Heap.getConst
  rw [ag.kind hx, ag.isA hx, getIndex_ag cl ag hx, ag.kids hx]

theorem getConst_mem {x y : Nat} (hx : x ∈ A) {ks : List Kind} (hy : h.getConst x ks = some y) : y ∈ A := by
  unfold Heap.getConst at hy
  split at hy
  · split at hy
    · simp only [Option.some.injEq] at hy; subst hy; exact hx
    · simp at hy
  · split at hy
    · exact cl.kid? hx hy
    · simp at hy

theorem getFromPath_ag : ∀ (path : List (List Kind × Bool)) {x : Nat}, x ∈ A →
    g.getFromPath x path = h.getFromPath x path ∧ ∀ y, h.getFromPath x path = some y → y ∈ A := by
  intro path
  induction path with
  | nil => intro x hx; simp [Heap.getFromPath]; exact hx
  | cons pe rest ih =>
    intro x hx
    obtain ⟨ks, opt⟩ := pe
    simp only [Heap.getFromPath]
    rw [getConst_ag cl ag hx]
    cases hc : h.getConst x ks with
    | none =>
      simp only
      split
      · exact ih hx
      · simp
    | some c =>
      simp only
      exact ih (getConst_mem cl ag hx hc)

omit cl ag in
theorem append_congr' {β : Type} {a a' b b' : List β} (h1 : a = a') (h2 : b = b') : a ++ b = a' ++ b' := by
  rw [h1, h2]

theorem linkPengWithSubject_ag {self subject : Nat} (hs : self ∈ A) (hsub : subject ∈ A) (phrase terminal : Kind)
    (dyn : Nat) :
    linkPengWithSubject g self phrase terminal subject dyn = linkPengWithSubject h self phrase terminal subject dyn := by
  unfold linkPengWithSubject
  rw [ag.kind hsub, ag.node subject hsub, (getFromPath_ag cl ag _ hs).1, (getFromPath_ag cl ag _ hs).1]
  split
  · rfl
  · cases hq : h.getFromPath self [([phrase], false), ([terminal], false)] with
    | none => rfl
    | some pt =>
      simp only
      rw [ag.parentOf ((getFromPath_ag cl ag _ hs).2 pt hq)]

theorem linkAttributes_ag (lang : Lang) {vpv subject : Nat} (hv : vpv ∈ A) (hsub : subject ∈ A) (vpcp : Option Nat)
    (hcp : ∀ c, vpcp = some c → c ∈ A) (dyn : Nat) :
    linkAttributes g lang vpv vpcp subject dyn = linkAttributes h lang vpv vpcp subject dyn := by
  unfold linkAttributes
  cases lang with
  | en => rfl
  | fr =>
    dsimp only
    rw [ag.lemmaOf hv]
    by_cases hc : copulasFr.contains (h.lemmaOf vpv) = true
    · rw [if_pos hc, if_pos hc]
      cases vpcp with
      | some cp =>
        dsimp only
        have hc := hcp cp rfl
        rw [ag.kids hc]
        apply flatMap_congr'
        intro e he
        have heA := cl.kid hc he
        rw [ag.kind heA, ag.isPP heA, linkPengWithSubject_ag cl ag heA hsub, getConst_ag cl ag heA]
        cases hq : h.getConst e [Kind.V] with
        | none => rfl
        | some v => dsimp only; rw [ag.getProp (getConst_mem cl ag heA hq)]
      | none =>
        dsimp only
        rw [ag.parentOf hv]
        cases hq : h.parentOf vpv with
        | none => rfl
        | some vp =>
          dsimp only
          have hvp := cl.parent hv hq
          rw [linkPengWithSubject_ag cl ag hvp hsub, ag.kids hvp]
          cases (linkPengWithSubject h vp Kind.AP Kind.A subject dyn).2 with
          | some _ => rfl
          | none =>
            dsimp only
            cases List.idxOf? vpv (h.kids vp) with
            | none => rfl
            | some i =>
              dsimp only
              congr 1
              apply flatMap_congr'
              intro e he
              rw [ag.isPP (cl.kid hvp (List.mem_of_mem_drop he))]
    · rw [if_neg hc, if_neg hc]

theorem linkDAV_ag (lang : Lang) (self : Nat) {e : Nat} (he : e ∈ A) : linkDAV g lang self e = linkDAV h lang self e := by
  unfold linkDAV
  rw [ag.kind he, ag.lemmaOf he, ag.hasProp he, ag.isPP he]

theorem npHeadIndex_ag {p : Nat} (hp : p ∈ A) : npHeadIndex g p = npHeadIndex h p := by
  unfold npHeadIndex
  simp only [ag.kids hp, getIndex_ag cl ag hp]
  cases hq : (h.kids p)[(h.getIndex p [Kind.NP, Kind.N]).getD 0]? with
  | none => rfl
  | some e0 =>
    simp only
    have he := cl.kid? hp hq
    rw [ag.kind he, ag.getProp he]
    split
    · have : findIdxFrom (fun x => g.kind x = Kind.N && g.getProp x possKey == Val.none)
          (List.drop ((h.getIndex p [Kind.NP, Kind.N]).getD 0 + 1) (h.kids p)) ((h.getIndex p [Kind.NP, Kind.N]).getD 0 + 1) =
        findIdxFrom (fun x => h.kind x = Kind.N && h.getProp x possKey == Val.none)
          (List.drop ((h.getIndex p [Kind.NP, Kind.N]).getD 0 + 1) (h.kids p)) ((h.getIndex p [Kind.NP, Kind.N]).getD 0 + 1) := by
        apply findIdxFrom_congr
        intro x hx
        have hxA := cl.kid hp (List.mem_of_mem_drop hx)
        rw [ag.kind hxA, ag.getProp hxA]
      rw [this]
    · rfl

theorem linkSubjObjSubordinate_ag (lang : Lang) {p pro v : Nat} (hp : p ∈ A) (hpro : pro ∈ A) (hv : v ∈ A)
    (subject : Option Nat) :
    linkSubjObjSubordinate g lang p pro v subject = linkSubjObjSubordinate h lang p pro v subject := by
  unfold linkSubjObjSubordinate
  have hpath := getFromPath_ag cl ag [([Kind.VP], false), ([Kind.CP], false)] hp
  rw [hpath.1, ag.lemmaOf hpro, ag.lemmaOf hv, ag.parentOf hv]
  have la : ∀ lg, linkAttributes g lg v (h.getFromPath p [([Kind.VP], false), ([Kind.CP], false)]) p p =
      linkAttributes h lg v (h.getFromPath p [([Kind.VP], false), ([Kind.CP], false)]) p p :=
    fun lg => linkAttributes_ag cl ag lg hv hp _ (fun c hc => hpath.2 c hc) p
  cases lang with
  | en => simp only [la]
  | fr =>
    simp only [la]
    cases hq : h.parentOf v with
    | none => rfl
    | some vp =>
      have hvp := cl.parent hv hq
      simp only
      rw [getIndex_ag cl ag hvp, ag.kids hvp]
      cases hi : h.getIndex vp [Kind.V] 0 with
      | none => rfl
      | some idx =>
        simp only
        cases hn : (h.kids vp)[idx + 1]? with
        | none => rfl
        | some nxt => simp only; rw [ag.isPP (cl.kid? hvp hn)]

omit cl ag in
theorem map_zipIdx_congr {β : Type} (l : List Nat) (f f' : Nat × Nat → β) (hf : ∀ x ∈ l, ∀ i, f (x, i) = f' (x, i)) :
    l.zipIdx.map f = l.zipIdx.map f' := by
  apply List.map_congr_left
  intro xi hxi
  obtain ⟨x, i⟩ := xi
  obtain ⟨_, hlt, hx⟩ := List.mem_zipIdx hxi
  exact hf x (hx ▸ List.getElem_mem _) i

theorem linkPengWithSubject_mem {self subject v : Nat} (hs : self ∈ A) (phrase terminal : Kind) (dyn : Nat)
    (hv : (linkPengWithSubject h self phrase terminal subject dyn).2 = some v) : v ∈ A := by
  unfold linkPengWithSubject at hv
  split at hv
  · simp at hv
  · cases hq : h.getFromPath self [([phrase], false), ([terminal], false)] with
    | some pt =>
      rw [hq] at hv
      simp only at hv
      have hpt := (getFromPath_ag cl ag _ hs).2 pt hq
      cases hpar : h.parentOf pt <;> rw [hpar] at hv <;> simp at hv <;> exact hv ▸ hpt
    | none =>
      rw [hq] at hv
      simp only at hv
      cases hq2 : h.getFromPath self [([terminal], false)] with
      | some pt =>
        rw [hq2] at hv
        simp at hv
        exact hv ▸ (getFromPath_ag cl ag _ hs).2 pt hq2
      | none => rw [hq2] at hv; simp at hv

theorem planVP_ag {p : Nat} (hp : p ∈ A) : planVP g p = planVP h p := by
  unfold planVP
  simp only [ag.kids hp, getIndex_ag cl ag hp]

theorem planXP_ag {p : Nat} (hp : p ∈ A) (tk : Kind) : planXP g p tk = planXP h p tk := by
  unfold planXP
  simp only [ag.kids hp, getIndex_ag cl ag hp, ag.kind hp]

theorem shouldTry_ag (lang : Lang) {p : Nat} (hp : p ∈ A) (lem : Str) (i : Nat) :
    shouldTryAnotherSubject g lang p lem i = shouldTryAnotherSubject h lang p lem i := by
  unfold shouldTryAnotherSubject
  have hany : ((g.kids p).drop (i + 1)).any (fun x => g.isA x [Kind.NP, Kind.N, Kind.CP, Kind.Pro]) =
      ((h.kids p).drop (i + 1)).any (fun x => h.isA x [Kind.NP, Kind.N, Kind.CP, Kind.Pro]) := by
    rw [ag.kids hp]
    apply any_congr'
    intro x hx
    rw [ag.isA (cl.kid hp (List.mem_of_mem_drop hx))]
  simp only [hany]
  cases lang with
  | en => rfl
  | fr =>
    simp only [ag.kids hp]
    cases hq : (h.kids p)[i - 1]? with
    | none => rfl
    | some e => simp only; rw [ag.kind (cl.kid? hp hq)]

theorem planNP_ag {p : Nat} (hp : p ∈ A) : planNP g p = planNP h p := by
  unfold planNP
  simp only [ag.node p hp, ag.kids hp, npHeadIndex_ag cl ag hp]
  cases hq : (h.kids p)[npHeadIndex h p]? with
  | none => rfl
  | some hd =>
    simp only
    have hhd := cl.kid? hp hq
    have hpath := getFromPath_ag cl ag [([Kind.S, Kind.SP], false), ([Kind.Pro], false)] hp
    apply congrArg Plan.cat
    refine append_congr' (append_congr' rfl ?_) (congrArg (fun r => [some r]) ?_)
    · apply map_zipIdx_congr
      intro e he i
      have heA := cl.kid hp he
      simp only [ag.kind heA, ag.gramNumber heA, ag.isA heA, linkDAV_ag cl ag _ p heA,
        ag.lemmaOf heA, ag.getProp hhd, ag.kids heA]
      have e1 : (h.kids e).flatMap (fun el => if g.isA el [Kind.A, Kind.NO] = true then [Act.setPeng true el p] else []) =
          (h.kids e).flatMap (fun el => if h.isA el [Kind.A, Kind.NO] = true then [Act.setPeng true el p] else []) := by
        apply flatMap_congr'
        intro el hel
        rw [ag.isA (cl.kid heA hel)]
      have e2 : (h.kids e).map (fun el => linkDAV g (h.node p).lang p el) =
          (h.kids e).map (fun el => linkDAV h (h.node p).lang p el) := by
        apply List.map_congr_left
        intro el hel
        rw [linkDAV_ag cl ag _ p (cl.kid heA hel)]
      rw [e1, e2]
    · rw [hpath.1]
      cases hpro : h.getFromPath p [([Kind.S, Kind.SP], false), ([Kind.Pro], false)] with
      | none => rfl
      | some pro =>
        simp only
        have hproA := hpath.2 pro hpro
        rw [ag.parentOf hproA]
        cases hsp : h.parentOf pro with
        | none => rfl
        | some sp =>
          simp only
          have hspA := cl.parent hproA hsp
          have hp2 := getFromPath_ag cl ag [([Kind.VP], false), ([Kind.V], false)] hspA
          rw [hp2.1, ag.subject sp hspA]
          cases hv : h.getFromPath sp [([Kind.VP], false), ([Kind.V], false)] with
          | none => rfl
          | some v => simp only; rw [linkSubjObjSubordinate_ag cl ag _ hp hproA (hp2.2 v hv)]

omit cl ag in
/-- the pieces of `planS` -/
def sVpv (h : Heap) (p : Nat) : Option Nat := h.getFromPath p [([.VP], true), ([.V], false)]
def sPreL (h : Heap) (p : Nat) : List Act := match sVpv h p with | some v => [.setTaux true p v] | none => []
def sImp (h : Heap) (p : Nat) : Bool := match sVpv h p with | some v => h.getProp v Heap.tKey == ipVal | none => false
def sKinds : List Kind := [.NP, .N, .CP, .Pro]

def sChoose (h : Heap) (p iSubj subject0 : Nat) : Option (Nat × List Act) :=
  if h.kind p = .SP && h.kind subject0 = .Pro then
    if shouldTryAnotherSubject h (h.node p).lang p (h.lemmaOf subject0) iSubj then
      match findIdxFrom (fun x => h.isA x sKinds) ((h.kids p).drop (iSubj + 1)) (iSubj + 1) with
      | some j =>
        match (h.kids p)[j]? with
        | some sj => some (sj, [.setSubject p (some sj)])
        | none => none
      | none => none
    else some (subject0, [.setSubject p (some subject0)])
  else some (subject0, [])

def sCvs (h : Heap) (p subject : Nat) : List Act :=
  (h.kids p).flatMap (fun cp =>
    if h.kind cp = .CP && cp != subject && (h.getConst cp [.VP]).isSome then
      (h.kids cp).flatMap (fun e =>
        if (h.kind e).isPhrase then
          (linkPengWithSubject h e .VP .V subject subject).1 ++
            (match (linkPengWithSubject h e .VP .V subject subject).2 with
            | some v => linkAttributes h (h.node p).lang v (h.getFromPath e [([.CP], false)]) subject subject
            | none => [])
        else [])
    else [])

def sCco (h : Heap) (p : Nat) : List Act :=
  match (h.node p).lang with
  | .en => []
  | .fr =>
    match h.getConst p [.CP], h.getConst p [.SP] with
    | some cp, some sp =>
      match h.getConst sp [.Pro] with
      | some sppro =>
        if h.lemmaOf sppro = s "que" then
          match h.getFromPath sp [([.VP], true), ([.V], false)] with
          | some v => [.setCod v cp]
          | none => []
        else []
      | none => []
    | _, _ => []

def sAfter (h : Heap) (p : Nat) (pre : List Act) : Option (Nat × List Act) → Plan
  | none => some pre
  | some (subject, sacts) =>
    some (pre ++ sacts ++ [.guardHas subject, .setPeng true p subject] ++
      (linkPengWithSubject h p .VP .V subject subject).1 ++
      (match (linkPengWithSubject h p .VP .V subject subject).2 with
       | some v => [.setTaux true p v] ++
           linkAttributes h (h.node p).lang v (h.getFromPath p [([.VP], false), ([.CP], false)]) subject subject
       | none => sCvs h p subject ++ sCco h p))

omit cl ag in
theorem planS_unfold (h : Heap) (p : Nat) :
    planS h p = (if sImp h p then some (sPreL h p)
      else match h.getIndex p sKinds with
        | none => some (sPreL h p ++ [.setSubject p none])
        | some iSubj =>
          match (h.kids p)[iSubj]? with
          | none => some (sPreL h p ++ [.setSubject p none])
          | some subject0 => sAfter h p (sPreL h p ++ [.setSubject p none]) (sChoose h p iSubj subject0)) := by
  rfl

theorem sVpv_ag {p : Nat} (hp : p ∈ A) : sVpv g p = sVpv h p ∧ ∀ v, sVpv h p = some v → v ∈ A :=
  getFromPath_ag cl ag _ hp

theorem sPreL_ag {p : Nat} (hp : p ∈ A) : sPreL g p = sPreL h p := by
  unfold sPreL; rw [(sVpv_ag cl ag hp).1]

theorem sImp_ag {p : Nat} (hp : p ∈ A) : sImp g p = sImp h p := by
  unfold sImp
  rw [(sVpv_ag cl ag hp).1]
  cases hv : sVpv h p with
  | none => rfl
  | some v => simp only; rw [ag.getProp ((sVpv_ag cl ag hp).2 v hv)]

theorem sChoose_ag {p s0 : Nat} (hp : p ∈ A) (hs0 : s0 ∈ A) (i : Nat) :
    sChoose g p i s0 = sChoose h p i s0 ∧ ∀ sub sa, sChoose h p i s0 = some (sub, sa) → sub ∈ A := by
  constructor
  · unfold sChoose
    rw [ag.kind hp, ag.kind hs0, ag.node p hp, ag.lemmaOf hs0, shouldTry_ag cl ag _ hp,
      ag.kids hp]
    have hfi : findIdxFrom (fun x => g.isA x sKinds) (List.drop (i + 1) (h.kids p)) (i + 1) =
        findIdxFrom (fun x => h.isA x sKinds) (List.drop (i + 1) (h.kids p)) (i + 1) := by
      apply findIdxFrom_congr
      intro x hx
      rw [ag.isA (cl.kid hp (List.mem_of_mem_drop hx))]
    rw [hfi]
  · intro sub sa hch
    unfold sChoose at hch
    split at hch
    · split at hch
      · split at hch
        · rename_i j _
          cases hj : (h.kids p)[j]? with
          | none => rw [hj] at hch; simp at hch
          | some sj => rw [hj] at hch; simp at hch; exact hch.1 ▸ cl.kid? hp hj
        · simp at hch
      · simp at hch; exact hch.1 ▸ hs0
    · simp at hch; exact hch.1 ▸ hs0

theorem sCvs_ag {p subject : Nat} (hp : p ∈ A) (hsub : subject ∈ A) : sCvs g p subject = sCvs h p subject := by
  unfold sCvs
  rw [ag.kids hp, ag.node p hp]
  apply flatMap_congr'
  intro cp hcp
  have hcpA := cl.kid hp hcp
  rw [ag.kind hcpA, getConst_ag cl ag hcpA, ag.kids hcpA]
  split
  · apply flatMap_congr'
    intro e he
    have heA := cl.kid hcpA he
    rw [ag.kind heA, linkPengWithSubject_ag cl ag heA hsub]
    split
    · congr 1
      cases hv : (linkPengWithSubject h e Kind.VP Kind.V subject subject).2 with
      | none => rfl
      | some v =>
        simp only
        have hpe := getFromPath_ag cl ag [([Kind.CP], false)] heA
        rw [hpe.1, linkAttributes_ag cl ag _ (linkPengWithSubject_mem cl ag heA _ _ _ hv) hsub _
          (fun c hc => hpe.2 c hc)]
    · rfl
  · rfl

theorem sCco_ag {p : Nat} (hp : p ∈ A) : sCco g p = sCco h p := by
  unfold sCco
  rw [ag.node p hp, getConst_ag cl ag hp, getConst_ag cl ag hp]
  cases (h.node p).lang with
  | en => rfl
  | fr =>
    simp only
    cases hc1 : h.getConst p [Kind.CP] with
    | none => rfl
    | some cp =>
      cases hc2 : h.getConst p [Kind.SP] with
      | none => rfl
      | some sp =>
        simp only
        have hspA := getConst_mem cl ag hp hc2
        rw [getConst_ag cl ag hspA]
        cases hc3 : h.getConst sp [Kind.Pro] with
        | none => rfl
        | some sppro =>
          simp only
          rw [ag.lemmaOf (getConst_mem cl ag hspA hc3),
            (getFromPath_ag cl ag [([Kind.VP], true), ([Kind.V], false)] hspA).1]

theorem sAfter_ag {p : Nat} (hp : p ∈ A) (pre : List Act) (ch : Option (Nat × List Act))
    (hch : ∀ sub sa, ch = some (sub, sa) → sub ∈ A) : sAfter g p pre ch = sAfter h p pre ch := by
  cases ch with
  | none => rfl
  | some pr =>
    obtain ⟨subject, sacts⟩ := pr
    have hsub := hch subject sacts rfl
    simp only [sAfter]
    have hpath2 := getFromPath_ag cl ag [([Kind.VP], false), ([Kind.CP], false)] hp
    rw [linkPengWithSubject_ag cl ag hp hsub, ag.node p hp, hpath2.1, sCvs_ag cl ag hp hsub, sCco_ag cl ag hp]
    cases hv : (linkPengWithSubject h p Kind.VP Kind.V subject subject).2 with
    | none => rfl
    | some v =>
      simp only
      rw [linkAttributes_ag cl ag _ (linkPengWithSubject_mem cl ag hp _ _ _ hv) hsub _ (fun c hc => hpath2.2 c hc)]

theorem planS_ag {p : Nat} (hp : p ∈ A) : planS g p = planS h p := by
  rw [planS_unfold, planS_unfold, sImp_ag cl ag hp, sPreL_ag cl ag hp, getIndex_ag cl ag hp, ag.kids hp]
  split
  · rfl
  · cases hi : h.getIndex p sKinds 0 with
    | none => rfl
    | some iSubj =>
      simp only
      cases hs0 : (h.kids p)[iSubj]? with
      | none => rfl
      | some subject0 =>
        simp only
        have hs0A := cl.kid? hp hs0
        have hc := sChoose_ag cl ag hp hs0A iSubj
        rw [hc.1, sAfter_ag cl ag hp _ _ hc.2]

theorem planPhrase_ag {p : Nat} (hp : p ∈ A) : planPhrase g p = planPhrase h p := by
  unfold planPhrase
  simp only [ag.kids hp, ag.kind hp, planNP_ag cl ag hp, planVP_ag cl ag hp, planXP_ag cl ag hp,
    planS_ag cl ag hp]
  have : (h.kids p).any (fun e => (g.kind e).isDep) = (h.kids p).any (fun e => (h.kind e).isDep) := by
    apply any_congr'
    intro e he
    rw [ag.kind (cl.kid hp he)]
  rw [this]

theorem termKindIs_ag {d : Nat} (hd : d ∈ A) (ks : List Kind) : termKindIs g d ks = termKindIs h d ks := by
  unfold termKindIs
  rw [ag.node d hd]
  cases ht : (h.node d).term with
  | none => rfl
  | some t => simp only; rw [ag.isA (cl.term hd ht)]

theorem termLemma_ag {d : Nat} (hd : d ∈ A) : termLemma g d = termLemma h d := by
  unfold termLemma
  rw [ag.node d hd]
  cases ht : (h.node d).term with
  | none => rfl
  | some t => simp only; rw [ag.lemmaOf (cl.term hd ht)]

theorem depFindIndex_ag {p : Nat} (hp : p ∈ A) (tg th : Nat → Bool) (ht : ∀ d ∈ A, tg d = th d) :
    depFindIndex g p tg = depFindIndex h p th := by
  unfold depFindIndex
  rw [ag.kids hp]
  apply findIdxFrom_congr
  intro d hd
  have hdA := cl.kid hp hd
  rw [ag.kind hdA, ag.kids hdA, ht d hdA]
  cases hh : (h.kids d).head? with
  | none => rfl
  | some d0 =>
    simp only
    rw [ht d0 (cl.kid hdA (List.mem_of_mem_head? hh))]

omit cl ag in
/-- the two tests of the verb branch: a dependent whose terminal is a relative pronoun, a `comp` whose terminal is a
    past participle -/
def isRelDep (h : Heap) (rels : List Str) (dI : Nat) : Bool :=
  h.isA dI [.subj, .comp, .mod] && termKindIs h dI [.Pro] && rels.contains (termLemma h dI)
def isPPComp (h : Heap) (dI : Nat) : Bool :=
  h.kind dI = .comp && termKindIs h dI [.V] &&
    (match (h.node dI).term with | some t => h.getProp t Heap.tKey == ppVal | none => false)

omit cl ag in
/-- the verb branch of a `mod`/`comp` dependent (Dependent.py:147-157), as in `planDepStep` -/
def depVerbActs (h : Heap) (lang : Lang) (p headTerm dep depTerm : Nat) : List Act :=
  let iRel := depFindIndex h dep (isRelDep h (match lang with | .en => relProsEn | .fr => relProsFr))
  let a1 : List Act :=
    match iRel with
    | some i =>
      (match (h.kids dep)[i]? with
       | some dr => if h.kind dr = .subj then [.setPeng true depTerm p] else []
       | none => []) ++
      (match lang with
       | .en => []
       | .fr =>
         [.setCod depTerm headTerm] ++
           (if h.lemmaOf depTerm = s "avoir" then
             match depFindIndex h dep (isPPComp h) with
             | some iVerb =>
               match (h.kids dep)[iVerb]? with
               | some dv => (match (h.node dv).term with | some t => [.setCod t headTerm] | none => [])
               | none => []
             | none => []
           else []))
    | none => []
  let a2 : List Act :=
    match lang with
    | .en => []
    | .fr => if h.getProp depTerm Heap.tKey == ppVal then [.setPeng true depTerm p] else []
  a1 ++ a2

omit cl ag in
/-- the attribute branch of a `mod`/`comp` dependent -/
def depAttrActs (h : Heap) (lang : Lang) (p headTerm depTerm : Nat) : List Act :=
  match lang with
  | .en => []
  | .fr =>
    if copulasFr.contains (h.lemmaOf headTerm) then
      match depFindIndex h p (fun d0 => h.kind d0 = .subj && termKindIs h d0 [.N, .Pro]) with
      | some iSubj =>
        match (h.kids p)[iSubj]? with
        | some sd => [.setPeng true depTerm sd]
        | none => []
      | none => []
    else []

omit cl ag in
/-- the `coord` branch -/
def depCoordActs (h : Heap) (p headTerm dep : Nat) : Option (List Act) :=
  match (h.kids dep).head? with
  | none => some ([])
  | some firstDep =>
    if h.kind firstDep = .subj then some ([.setPeng true dep p])
    else if h.kind firstDep = .det then some ([.setPeng true dep headTerm])
    else if h.isA firstDep [.mod, .comp] && termKindIs h firstDep [.V, .A] then
      some ([.setPeng false dep headTerm] ++
        (h.kids dep).flatMap (fun dI =>
          [.setPeng false dI headTerm] ++
            (match (h.node dI).term with
             | some t => [.setPeng false t headTerm]
             | none => [.crash .attributeError])))
    else some ([])

omit cl ag in
def depModActs (h : Heap) (p headTerm dep depTerm : Nat) : Option (List Act) :=
  let lang := (h.node p).lang
  if h.kind depTerm = .A || isPP h depTerm then
    some ([.setPeng false depTerm p] ++ depAttrActs h lang p headTerm depTerm)
  else if h.kind depTerm = .V then some (depVerbActs h lang p headTerm dep depTerm)
  else if h.kind depTerm = .Pro &&
      (match lang with | .en => relPropagateEn | .fr => relPropagateFr).contains (h.lemmaOf depTerm) then none
  else some ([])

omit cl ag in
theorem planDepStep_unfold (h : Heap) (p headTerm dep : Nat) :
    planDepStep h p headTerm dep =
      (match (h.node dep).term with
       | none => none
       | some depTerm =>
         match h.kind dep with
         | .subj => if h.kind headTerm = .V then some [.setPeng true headTerm dep] else some []
         | .det =>
           if h.kind depTerm = .D then
             some ([.setPeng false depTerm p] ++
               (if (h.node p).lang = .en && h.lemmaOf depTerm = s "a" && h.getProp headTerm cntKey == .s (s "no")
                then [.morphoError depTerm] else []))
           else if h.kind depTerm = .NO then
             some ([.setPeng true depTerm headTerm, .writeN true depTerm (h.gramNumber depTerm)])
           else some ([])
         | .mod | .comp => depModActs h p headTerm dep depTerm
         | .root => some ([])
         | .coord => depCoordActs h p headTerm dep
         | _ => none) := by
  rfl

theorem isRelDep_ag (rels : List Str) {d : Nat} (hd : d ∈ A) : isRelDep g rels d = isRelDep h rels d := by
  simp only [isRelDep, ag.isA hd, termKindIs_ag cl ag hd, termLemma_ag cl ag hd]

theorem isPPComp_ag {d : Nat} (hd : d ∈ A) : isPPComp g d = isPPComp h d := by
  simp only [isPPComp, ag.kind hd, termKindIs_ag cl ag hd, ag.node d hd]
  cases ht : (h.node d).term with
  | none => rfl
  | some t => simp only; rw [ag.getProp (cl.term hd ht)]

theorem depVerbActs_ag (lang : Lang) {p headTerm dep depTerm : Nat} (hd : dep ∈ A) (hdt : depTerm ∈ A) :
    depVerbActs g lang p headTerm dep depTerm = depVerbActs h lang p headTerm dep depTerm := by
  unfold depVerbActs
  simp only [depFindIndex_ag cl ag hd _ _ fun d => isRelDep_ag cl ag _, depFindIndex_ag cl ag hd _ _ fun d => isPPComp_ag cl ag,
    ag.kids hd, ag.lemmaOf hdt, ag.getProp hdt]
  congr 1
  cases depFindIndex h dep (isRelDep h (match lang with | .en => relProsEn | .fr => relProsFr)) with
  | none => rfl
  | some i =>
    simp only
    apply append_congr'
    · cases hq : (h.kids dep)[i]? with
      | none => rfl
      | some dr => simp only; rw [ag.kind (cl.kid? hd hq)]
    · cases lang with
      | en => rfl
      | fr =>
        simp only
        congr 1
        split
        · cases depFindIndex h dep (isPPComp h) with
          | none => rfl
          | some iVerb =>
            simp only
            cases hq : (h.kids dep)[iVerb]? with
            | none => rfl
            | some dv => simp only; rw [ag.node dv (cl.kid? hd hq)]
        · rfl

theorem depAttrActs_ag (lang : Lang) {p headTerm : Nat} (depTerm : Nat) (hp : p ∈ A) (hh : headTerm ∈ A) :
    depAttrActs g lang p headTerm depTerm = depAttrActs h lang p headTerm depTerm := by
  unfold depAttrActs
  have f1 : depFindIndex g p (fun d0 => g.kind d0 = Kind.subj && termKindIs g d0 [Kind.N, Kind.Pro]) =
      depFindIndex h p (fun d0 => h.kind d0 = Kind.subj && termKindIs h d0 [Kind.N, Kind.Pro]) :=
    depFindIndex_ag cl ag hp _ _ (fun d hdA => by simp only [ag.kind hdA, termKindIs_ag cl ag hdA])
  rw [f1, ag.lemmaOf hh, ag.kids hp]

theorem depCoordActs_ag {p headTerm dep : Nat} (hd : dep ∈ A) :
    depCoordActs g p headTerm dep = depCoordActs h p headTerm dep := by
  unfold depCoordActs
  rw [ag.kids hd]
  cases hhead : (h.kids dep).head? with
  | none => rfl
  | some firstDep =>
    have hfA := cl.kid hd (List.mem_of_mem_head? hhead)
    simp only [ag.kind hfA, ag.isA hfA, termKindIs_ag cl ag hfA]
    have e3 : (h.kids dep).flatMap (fun dI =>
          [Act.setPeng false dI headTerm] ++
            (match (g.node dI).term with
             | some t => [Act.setPeng false t headTerm]
             | none => [Act.crash Crash.attributeError])) =
        (h.kids dep).flatMap (fun dI =>
          [Act.setPeng false dI headTerm] ++
            (match (h.node dI).term with
             | some t => [Act.setPeng false t headTerm]
             | none => [Act.crash Crash.attributeError])) := by
      apply flatMap_congr'
      intro dI hdI
      rw [ag.node dI (cl.kid hd hdI)]
    rw [e3]

theorem depModActs_ag {p headTerm dep depTerm : Nat} (hp : p ∈ A) (hh : headTerm ∈ A) (hd : dep ∈ A)
    (hdt : depTerm ∈ A) : depModActs g p headTerm dep depTerm = depModActs h p headTerm dep depTerm := by
  unfold depModActs
  simp only [ag.node p hp, ag.kind hdt, ag.isPP hdt, ag.lemmaOf hdt,
    depAttrActs_ag cl ag _ depTerm hp hh, depVerbActs_ag cl ag _ hd hdt]

theorem planDepStep_ag {p headTerm dep : Nat} (hp : p ∈ A) (hh : headTerm ∈ A) (hd : dep ∈ A) :
    planDepStep g p headTerm dep = planDepStep h p headTerm dep := by
  rw [planDepStep_unfold, planDepStep_unfold, ag.node dep hd]
  cases hterm : (h.node dep).term with
  | none => rfl
  | some depTerm =>
    have hdt := cl.term hd hterm
    simp only [ag.kind hd, ag.kind hh, ag.kind hdt, ag.lemmaOf hdt, ag.node p hp,
      ag.getProp hh, ag.gramNumber hdt, depModActs_ag cl ag hp hh hd hdt, depCoordActs_ag cl ag hd]

theorem planDepLoop_ag {p headTerm : Nat} (hp : p ∈ A) (hh : headTerm ∈ A) :
    ∀ (l : List Nat), (∀ d ∈ l, d ∈ A) → planDepLoop g p headTerm l = planDepLoop h p headTerm l := by
  intro l
  induction l with
  | nil => intro _; rfl
  | cons d t ih =>
    intro hl
    simp only [planDepLoop]
    rw [planDepStep_ag cl ag hp hh (hl d List.mem_cons_self), ih (fun x hx => hl x (List.mem_cons_of_mem _ hx))]

theorem planDep_ag {p : Nat} (hp : p ∈ A) : planDep g p = planDep h p := by
  unfold planDep
  simp only [ag.kids hp, ag.node p hp, ag.kind hp]
  have : (h.kids p).any (fun d => !(g.kind d).isDep) = (h.kids p).any (fun d => !(h.kind d).isDep) := by
    apply any_congr'
    intro e he
    rw [ag.kind (cl.kid hp he)]
  rw [this]
  cases ht : (h.node p).term with
  | none => rfl
  | some headTerm =>
    simp only
    rw [planDepLoop_ag cl ag hp (cl.term hp ht) _ (fun d hd => cl.kid hp hd)]

/-- **read-locality of `linkProperties`**: the plan of a node of a closed set depends only on the content of the set -/
theorem plan_agree {p : Nat} (hp : p ∈ A) : plan g p = plan h p := by
  unfold plan
  rw [ag.kind hp, planPhrase_ag cl ag hp, planDep_ag cl ag hp]

end
end Pyrealb.Heap
