import Pyrealb.Lemmas.ElisionWords
/-! One iteration of the French loop on well-formed tokens: it does not raise (`stepFr_total`), it leaves a settled
    pair alone (`stepFr_fix`), and under the side conditions of the window the token it passes on is settled with
    whatever the rest of the pass makes of its right neighbour (`stepFr_sound`). -/
namespace Pyrealb.Elision
open Pyrealb Pyrealb.Gen.Elision

theorem tokWF_spec (t : Tok) (h : tokWF t = true) : (∃ x, t.real = some x) ∧ t.hW ≠ .crash ∧ t.hR = t.hW := by
  simp only [tokWF, Bool.and_eq_true, bne_iff_ne, ne_eq, beq_iff_eq] at h
  exact ⟨Option.isSome_iff_exists.mp h.1.1, h.1.2, h.2⟩

theorem tokWF_setReal (t : Tok) (x : Str) (h : tokWF t = true) : tokWF (t.setReal x) = true := by
  simp only [tokWF, Bool.and_eq_true] at h ⊢
  exact ⟨⟨rfl, h.1.2⟩, h.2⟩

theorem elidableNext_ok (x : Str) (h : HFlag) (hc : h ≠ .crash) :
    elidableNext x h = .ok (isOkTrue (elidableNext x h)) := by
  cases x with
  | nil => rfl
  | cons c cs =>
    simp only [elidableNext]
    split
    · rfl
    · split
      · cases h <;> first | rfl | exact absurd rfl hc
      · rfl

/-- on well-formed tokens the guards of the loop body reduce to the two first words: the pair is left alone unless
    the first token is French and both tokens have a first word -/
theorem stepFr_cases (t1 t2 : Tok) (t3 : Option Tok) (w1 : tokWF t1 = true) (w2 : tokWF t2 = true) :
    (stepFr t1 t2 t3 = .ok .keep ∧ (t1.fr = false ∨ view .fr t1 = none ∨ view .fr t2 = none)) ∨
    ∃ v1 v2, t1.fr = true ∧ view .fr t1 = some v1 ∧ view .fr t2 = some v2 ∧
      stepFr t1 t2 t3 = stepFrCore t1 t2 t3 v1 v2 (vowelOrMuteH v2.w t2) := by
  obtain ⟨⟨x1, h1⟩, _, _⟩ := tokWF_spec t1 w1
  obtain ⟨⟨x2, h2⟩, hc2, _⟩ := tokWF_spec t2 w2
  cases hf : t1.fr with
  | false => exact Or.inl ⟨by rw [stepFr, hf]; rfl, Or.inl rfl⟩
  | true =>
    cases hv1 : view .fr t1 with
    | none => exact Or.inl ⟨by simp only [stepFr, hf, h1, hv1, Bool.not_true, Bool.false_eq_true, if_false], Or.inr (Or.inl rfl)⟩
    | some v1 =>
      cases hv2 : view .fr t2 with
      | none =>
        exact Or.inl ⟨by simp only [stepFr, hf, h1, h2, hv1, hv2, Bool.not_true, Bool.false_eq_true, if_false],
          Or.inr (Or.inr rfl)⟩
      | some v2 =>
        refine Or.inr ⟨v1, v2, rfl, rfl, rfl, ?_⟩
        simp only [stepFr, hf, h1, h2, hv1, hv2, Bool.not_true, Bool.false_eq_true, if_false]
        rw [elidableNext_ok v2.w t2.hW hc2]
        rfl

/-- the look-ahead tests the RAW realization: when it answers `True` the token has a first word, which
    `isElidableFr` accepts as well -/
theorem view_of_raw (t : Tok) (x : Str) (w : tokWF t = true) (hr : t.real = some x)
    (h : elidableNext x t.hR = .ok true) : ∃ v, view .fr t = some v ∧ vowelOrMuteH v.w t = true := by
  cases x with
  | nil => cases h
  | cons c cs =>
    have hcl : vowelsFr.contains (lowerC c) = true ∨ lowerC c = 'h' := by
      have h' : nextClass (some (lowerC c)) t.hR = .ok true := (elidableNext_eq (c :: cs) t.hR).symm.trans h
      by_cases hv : vowelsFr.contains (lowerC c) = true
      · exact Or.inl hv
      · by_cases hh : lowerC c = 'h'
        · exact Or.inr hh
        · rw [nextClass, if_neg hv, if_neg (by simpa using hh)] at h'; cases h'
    have hw := wd_of_class c hcl
    have hlt : c ≠ '<' := by
      intro e; rw [e, isWd_lt] at hw; cases hw
    have hk : skipLen (isWd .fr) .out (c :: cs) = 0 := by simp [skipLen, hlt, hw]
    refine ⟨⟨[], c :: cs.takeWhile (isWd .fr), ((c :: cs).dropWhile (isWd .fr)).takeWhile (· != '\n')⟩, ?_, ?_⟩
    · simp [view, hr, sepWord, hk, hw]
    · rw [vowelOrMuteH, ← (tokWF_spec t w).2.2, elidableNext_eq] at *
      exact congrArg isOkTrue h

theorem view_none_pairOK (t : Tok) (h : view .fr t = none) (b : Tok) : pairOKFr t b = true ∧ pairOKFr b t = true := by
  constructor
  · rw [pairOKFr, h]
  · rw [pairOKFr, h]; cases view .fr b <;> rfl

/-- a window whose first word is not French: the loop skips it and the clauses ask nothing -/
theorem pairOK_not_fr (t1 t2 : Tok) (h : t1.fr = false) : pairOKFr t1 t2 = true := by
  unfold pairOKFr
  cases view .fr t1 <;> cases view .fr t2 <;> simp [h]

theorem pairOKFr_iff {t1 t2 : Tok} {v1 v2 : View} (hv1 : view .fr t1 = some v1) (hv2 : view .fr t2 = some v2) :
    pairOKFr t1 t2 = true ↔ (t1.fr = true → noWords v1.rest = true →
      clausesFr v1.w t1.sg v2.w (vowelOrMuteH v2.w t2) (t2.ct == ['D']) t2.fr = true) := by
  simp only [pairOKFr, hv1, hv2]
  cases t1.fr <;> cases noWords v1.rest <;> simp

/-! ### how the pass may have rewritten the head of the rest of the list -/

def Rew (t : Tok) (nxt : Option Tok) (h : Tok) : Prop :=
  h = t ∨ ∃ v w', view .fr t = some v ∧ h = t.setReal (v.rebuild w') ∧
    ((lower v.w ∈ EE ∧ w' = elidedOf v.w) ∨ (lower v.w ∈ EE ∧ w' ∈ euphResults) ∨
     (∃ t3 v3, nxt = some t3 ∧ view .fr t3 = some v3 ∧ contrFr v.w v3.w = some w' ∧ t.fr = true ∧ t3.fr = true))

theorem Rew.fields {t nxt h} (hr : Rew t nxt h) :
    h.ct = t.ct ∧ h.sg = t.sg ∧ h.lier = t.lier ∧ h.fr = t.fr ∧ h.hW = t.hW := by
  rcases hr with rfl | ⟨_, _, _, rfl, _⟩ <;> exact ⟨rfl, rfl, rfl, rfl, rfl⟩

theorem Rew.ct {t nxt h} (hr : Rew t nxt h) : h.ct = t.ct := hr.fields.1
theorem Rew.sg {t nxt h} (hr : Rew t nxt h) : h.sg = t.sg := hr.fields.2.1

theorem Rew_view_none (t h : Tok) (nxt : Option Tok) (hr : Rew t nxt h) (hv : view .fr t = none) : h = t := by
  rcases hr with e | ⟨v, _, hv', _⟩
  · exact e
  · rw [hv] at hv'; cases hv'

/-- the rewritten head keeps groups 1 and 3 and its vowel / mute-h status; its new first word is neither `le/les`
    nor, before a vowel, a euphony exception, and it ends no key of the contraction table unless it is itself the
    result of a contraction with the next token -/
theorem Rew.view {t nxt h} (hr : Rew t nxt h) {v : View} (hv : view .fr t = some v) :
    ∃ w', view .fr h = some ⟨v.pre, w', v.rest⟩ ∧ vowelOrMuteH w' h = vowelOrMuteH v.w t ∧
      (w' = v.w ∨ (leLes.contains (lower w') = false ∧ (vowelOrMuteH v.w t = true → euphExc w' = euphExc v.w) ∧
        ((∀ w1, (∀ c ∈ w1, isWd .fr c = true) → contrFr w1 w' = none) ∨
         ∃ t3 v3, nxt = some t3 ∧ view .fr t3 = some v3 ∧ contrFr v.w v3.w = some w' ∧ t.fr = true ∧ t3.fr = true))) := by
  rcases hr with rfl | ⟨v', w', hv', rfl, kind⟩
  · exact ⟨v.w, hv, rfl, Or.inl rfl⟩
  · cases hv.symm.trans hv'
    have wd := (view_wd _ _ _ hv).2
    rcases kind with ⟨hE, rfl⟩ | ⟨hE, hres⟩ | ⟨t3, v3, hn, hv3, hc, hf, hf3⟩
    · have V0 := vowelOrMuteH_false_of_EE v.w t hE
      exact ⟨_, view_setReal _ _ _ hv _ (elidedOf_ne_nil _) (wd_elidedOf _ wd),
        (vowelOrMuteH_elidedOf _ _ hE).trans V0.symm,
        Or.inr ⟨(elided_inert v.w hE).2.2.2.2, elim_of_false V0, Or.inl fun w1 hw1 => contrFr_elided_second w1 v.w hE hw1⟩⟩
    · have V0 := vowelOrMuteH_false_of_EE v.w t hE
      exact ⟨_, view_setReal _ _ _ hv _ (euphResult_wd _ hres).1 (euphResult_wd _ hres).2,
        (vowelOrMuteH_euphResult _ _ hres).trans V0.symm,
        Or.inr ⟨(fact_euph_inert _ hres).2.2.2, elim_of_false V0, Or.inl fun w1 hw1 => contrFr_euphResult_second w1 _ hw1 hres⟩⟩
    · obtain ⟨c1, c2, c3, c4, c5⟩ := contr_result v.w v3.w w' wd hc
      exact ⟨_, view_setReal _ _ _ hv _ c1 c2, c3 t _ rfl, Or.inr ⟨c4, fun _ => c5, Or.inr ⟨t3, v3, hn, hv3, hc, hf, hf3⟩⟩⟩

/-- transfer: a settled pair stays settled when its second token is rewritten later by the pass, provided that
    contracting it with the token after it does not create a new contractable pair -/
theorem pairOK_transfer {t1 t2 h : Tok} {nxt : Option Tok} {v1 v2 : View} (hv1 : view .fr t1 = some v1)
    (hv2 : view .fr t2 = some v2) (hr : Rew t2 nxt h) (hok : pairOKFr t1 t2 = true)
    (ht4 : ∀ t3 v3 c, nxt = some t3 → view .fr t3 = some v3 → t2.fr = true → t3.fr = true →
      contrFr v2.w v3.w = some c → contrFr v1.w c = none) : pairOKFr t1 h = true := by
  obtain ⟨w', hvh, hV, kind⟩ := hr.view hv2
  refine (pairOKFr_iff hv1 hvh).mpr fun hf1 hnw => ?_
  have hc := (pairOKFr_iff hv1 hv2).mp hok hf1 hnw
  rw [hV, hr.ct, hr.fields.2.2.2.1]
  rcases kind with rfl | ⟨hl, he, hcn⟩
  · exact hc
  · refine clauses_transfer _ _ _ _ _ _ _ (fun _ => ?_) hl he hc
    rcases hcn with hcn | ⟨t3, v3, hn, hv3, hcc, hf2, hf3⟩
    · exact hcn _ (view_wd _ _ _ hv1).2
    · exact ht4 t3 v3 w' hn hv3 hf2 hf3 hcc

/-- what an iteration guarantees of the tokens it passes on: the first one is a rewriting of `t1` that is settled
    with whatever the rest of the pass makes of its right neighbour; after `i += 2` the same holds of the second
    one, which is then left as it is -/
def StepOK (t1 t2 : Tok) (t3 : Option Tok) : ActFr → Prop
  | .keep => ∀ h, Rew t2 t3 h → pairOKFr t1 h = true
  | .one a => Rew t1 (some t2) a ∧ ∀ h, Rew t2 t3 h → pairOKFr a h = true
  | .two a b => Rew t1 (some t2) a ∧ b.lier = t2.lier ∧ pairOKFr a b = true ∧
      (∀ t h nxt, t3 = some t → Rew t nxt h → pairOKFr b h = true) ∧ (t3 = none → freshTok b = true)

/-- the body of the loop, branch by branch.  Each side condition of the window is used once: T5 where no rule
    applies (`noRule`), T2 for the emptied second token of a contraction, T4 in the transfer of a pair left alone -/
theorem stepFrCore_sound (t1 t2 : Tok) (t3 : Option Tok) (v1 v2 : View) (w3 : ∀ t, t3 = some t → tokWF t = true)
    (hf1 : t1.fr = true) (hv1 : view .fr t1 = some v1) (hv2 : view .fr t2 = some v2)
    (hb : bwdPairFr t1 t2 = true) (ht : tameWinFr t1 t2 t3 = true) :
    ∃ act, stepFrCore t1 t2 t3 v1 v2 (vowelOrMuteH v2.w t2) = .ok act ∧ StepOK t1 t2 t3 act := by
  have wd1 := (view_wd _ _ _ hv1).2
  have wd2 := (view_wd _ _ _ hv2).2
  simp only [tameWinFr, hv1, hv2, hf1, Bool.not_true, Bool.false_or, Bool.and_eq_true] at ht
  obtain ⟨⟨T5, T2⟩, T4⟩ := ht
  simp only [bwdPairFr, hv1, hv2, hf1, Bool.not_true, Bool.false_or] at hb
  -- a rewriting of `t1` whose first word begins no key of the contraction table
  have one : ∀ w', view .fr (t1.setReal (v1.rebuild w')) = some ⟨v1.pre, w', v1.rest⟩ →
      Rew t1 (some t2) (t1.setReal (v1.rebuild w')) → (∀ c, contrFr w' c = none) →
      clausesFr w' t1.sg v2.w (vowelOrMuteH v2.w t2) (t2.ct == ['D']) t2.fr = true →
      StepOK t1 t2 t3 (.one (t1.setReal (v1.rebuild w'))) := by
    intro w' hva hrew hin hcl
    have hok := (pairOKFr_iff hva hv2).mpr fun _ _ => hcl
    exact ⟨hrew, fun h hr => pairOK_transfer hva hv2 hr hok fun _ _ c _ _ _ _ _ => hin c⟩
  have elide : lower v1.w ∈ EE → vowelOrMuteH v2.w t2 = true →
      StepOK t1 t2 t3 (.one (t1.setReal (v1.rebuild (elidedOf v1.w)))) := by
    intro hE cV
    refine one _ (view_setReal _ _ _ hv1 _ (elidedOf_ne_nil v1.w) (wd_elidedOf _ wd1))
      (Or.inr ⟨v1, _, hv1, rfl, Or.inl ⟨hE, rfl⟩⟩) (fun c => contrFr_elided_first v1.w c hE wd1) ?_
    rw [cV]; exact clauses_after_elision _ _ _ _ _ hE wd1
  -- the pair is left alone
  have keep : (noWords v1.rest = true →
      clausesFr v1.w t1.sg v2.w (vowelOrMuteH v2.w t2) (t2.ct == ['D']) t2.fr = true) → StepOK t1 t2 t3 .keep := by
    intro hcl h hr
    refine pairOK_transfer hv1 hv2 hr ((pairOKFr_iff hv1 hv2).mpr fun _ => hcl) ?_
    intro t3' v3 c hn hv3 hf2 hf3 hc
    subst hn
    simpa [hv3, hc, hf2, hf3] using T4
  simp only [stepFrCore, elidedOf_def]
  by_cases c1 : (vowelOrMuteH v2.w t2 && isElidableWord v1.w && noWords v1.rest) = true
  · rw [if_pos c1]
    simp only [Bool.and_eq_true] at c1
    exact ⟨_, rfl, elide (mem_EE_of_elidable _ c1.1.2) c1.1.1⟩
  rw [if_neg c1]
  by_cases c2 : (vowelOrMuteH v2.w t2 && isEuphonic v1.w && noWords v1.rest && t1.sg) = true
  · rw [if_pos c2]
    simp only [Bool.and_eq_true] at c2
    obtain ⟨⟨⟨cV, cE⟩, _⟩, _⟩ := c2
    by_cases c3 : (ceMatch v1.w && ceVerb v2.w) = true
    · rw [if_pos c3]
      exact ⟨_, rfl, elide (mem_EE_of_euphonic _ cE) cV⟩
    rw [if_neg c3]
    cases c4 : euphExc v2.w with
    | true =>
      refine ⟨_, rfl, keep fun _ => ?_⟩
      rw [cV]; exact clauses_euph_exc _ _ _ _ _ cE wd1 c4
    | false =>
      obtain ⟨r, hr, hres⟩ := euphForm_some v1.w cE
      rw [hr]
      refine ⟨_, rfl, one r (view_setReal _ _ _ hv1 r (euphResult_wd r hres).1 (euphResult_wd r hres).2)
        (Or.inr ⟨v1, _, hv1, rfl, Or.inr (Or.inl ⟨mem_EE_of_euphonic _ cE, hres⟩)⟩)
        (fun c => contrFr_euphResult_first r c hres) ?_⟩
      rw [cV]; exact clauses_after_euph _ _ _ _ _ hres c4
  rw [if_neg c2]
  -- no elision, no euphony: the pair is settled unless a contraction applies
  have noRule : (noWords v1.rest = true → t2.fr = true → contrFr v1.w v2.w = none) → StepOK t1 t2 t3 .keep := by
    intro hcn
    refine keep fun hnw => ?_
    rw [hnw] at hb c1 c2
    refine clauses_of_no_rule _ _ _ _ _ _ ?_ ?_ (hcn hnw) (by simpa using hb) T5
    · simpa using c1
    · simpa [Bool.and_assoc] using c2
  by_cases c0 : (noWords v1.rest && t2.fr) = true
  case neg =>
    rw [if_neg c0]
    exact ⟨_, rfl, noRule fun hnw hf2 => absurd (by rw [hnw, hf2]; rfl) c0⟩
  rw [if_pos c0]
  simp only [Bool.and_eq_true] at c0
  obtain ⟨hnw, hf2⟩ := c0
  cases hcf : contrFr v1.w v2.w with
  | none => exact ⟨_, rfl, noRule fun _ _ => hcf⟩
  | some c =>
    simp only []
    have hvb : view .fr (t2.setReal (v2.pre ++ strip v2.rest)) = none := by
      simpa [hnw, hf2, hcf] using T2
    have hrew : Rew t1 (some t2) (t1.setReal (v1.rebuild c)) :=
      Or.inr ⟨v1, c, hv1, rfl, Or.inr (Or.inr ⟨t2, v2, rfl, hv2, hcf, hf1, hf2⟩)⟩
    have contract : StepOK t1 t2 t3 (.two (t1.setReal (v1.rebuild c)) (t2.setReal (v2.pre ++ strip v2.rest))) :=
      ⟨hrew, rfl, (view_none_pairOK _ hvb _).2, fun _ h _ _ _ => (view_none_pairOK _ hvb h).1,
        fun _ => by rw [freshTok, hvb]⟩
    by_cases c5 : (isElidableWord v2.w && t2.ct != ['D', 'T']) = true
    case neg => rw [if_neg c5]; exact ⟨_, rfl, contract⟩
    rw [if_pos c5]
    cases t3 with
    | none => exact ⟨_, rfl, contract⟩
    | some t =>
      have wt := w3 t rfl
      obtain ⟨⟨x3, hx3⟩, hc3, hR3⟩ := tokWF_spec t wt
      simp only [hx3]
      rw [elidableNext_ok x3 t.hR (by rw [hR3]; exact hc3)]
      cases hb3 : isOkTrue (elidableNext x3 t.hR) with
      | false => exact ⟨_, rfl, contract⟩
      | true =>
        -- the look-ahead: `l'` before a word that the raw test accepted
        simp only [Bool.and_eq_true] at c5
        have hE2 := mem_EE_of_elidable _ c5.1
        have hvb2 := view_setReal _ _ _ hv2 _ (elidedOf_ne_nil v2.w) (wd_elidedOf _ wd2)
        obtain ⟨v3, hv3, V3⟩ := view_of_raw t x3 wt hx3 (by rw [elidableNext_ok x3 t.hR (by rw [hR3]; exact hc3), hb3])
        refine ⟨_, rfl, Or.inl rfl, rfl, (pairOKFr_iff hv1 hvb2).mpr fun _ _ => ?_, ?_, fun e => nomatch e⟩
        · rw [vowelOrMuteH_elidedOf _ _ hE2]
          exact clauses_ahead_first v1.w v2.w c t1.sg _ _ hcf wd1 c5.1
        · intro t' h nxt e hr
          cases e
          obtain ⟨w', hvh, hV, _⟩ := hr.view hv3
          refine (pairOKFr_iff hvb2 hvh).mpr fun _ _ => ?_
          rw [hV, V3]
          exact clauses_after_elision v2.w w' _ _ _ hE2 wd2

theorem stepFr_sound (t1 t2 : Tok) (t3 : Option Tok) (w1 : tokWF t1 = true) (w2 : tokWF t2 = true)
    (w3 : ∀ t, t3 = some t → tokWF t = true) (hb : bwdPairFr t1 t2 = true) (ht : tameWinFr t1 t2 t3 = true) :
    ∃ act, stepFr t1 t2 t3 = .ok act ∧ StepOK t1 t2 t3 act := by
  rcases stepFr_cases t1 t2 t3 w1 w2 with ⟨h, why⟩ | ⟨v1, v2, hf1, hv1, hv2, h⟩
  · -- the clauses ask nothing of the pair
    refine ⟨_, h, fun h' hr => ?_⟩
    rcases why with hf1 | hv1 | hv2
    · exact pairOK_not_fr _ _ hf1
    · exact (view_none_pairOK t1 hv1 h').1
    · rw [Rew_view_none t2 h' t3 hr hv2]; exact (view_none_pairOK t2 hv2 t1).2
  · rw [h]; exact stepFrCore_sound t1 t2 t3 v1 v2 w3 hf1 hv1 hv2 hb ht

theorem stepFr_fix (t1 t2 : Tok) (t3 : Option Tok) (w1 : tokWF t1 = true) (w2 : tokWF t2 = true)
    (hok : pairOKFr t1 t2 = true) : stepFr t1 t2 t3 = .ok .keep := by
  rcases stepFr_cases t1 t2 t3 w1 w2 with ⟨h, _⟩ | ⟨v1, v2, hf1, hv1, hv2, h⟩
  · exact h
  rw [h]
  simp only [stepFrCore]
  cases hnw : noWords v1.rest with
  | false => simp
  | true =>
    obtain ⟨F1, _, F3, _, F4, _⟩ := (clausesFr_iff ..).mp ((pairOKFr_iff hv1 hv2).mp hok hf1 hnw)
    have c0 : (if t2.fr = true then contrFr v1.w v2.w else none) = none := by
      cases hf2 : t2.fr with
      | false => rfl
      | true => exact F3 hf2
    cases hV : vowelOrMuteH v2.w t2 with
    | false => simp [c0]
    | true =>
      rw [hV] at F1 F4
      have c1 : isElidableWord v1.w = false := by
        cases h : isElidableWord v1.w with
        | false => rfl
        | true => cases F1 h
      by_cases c2 : isEuphonic v1.w = true ∧ t1.sg = true
      · -- a euphonic word is left before an exception only, and no exception is `est`, `étai…`, `a`
        have hexc := F4 c2.1 c2.2 rfl
        have hcv : ceVerb v2.w = false := fact_exc_not_ceverb _ (List.contains_iff_mem.mp hexc)
        simp [c1, c2.1, c2.2, hcv, hexc]
      · have : (isEuphonic v1.w && t1.sg) = false := by simpa using c2
        simp [c1, c0, this]

/-- the tokens an iteration writes are well-formed -/
def ActWF : ActFr → Prop
  | .keep => True
  | .one a => tokWF a = true
  | .two a b => tokWF a = true ∧ tokWF b = true

theorem stepFr_total (t1 t2 : Tok) (t3 : Option Tok) (w1 : tokWF t1 = true) (w2 : tokWF t2 = true)
    (w3 : ∀ t, t3 = some t → tokWF t = true) : ∃ act, stepFr t1 t2 t3 = .ok act ∧ ActWF act := by
  rcases stepFr_cases t1 t2 t3 w1 w2 with ⟨h, _⟩ | ⟨v1, v2, _, _, _, h⟩
  · exact ⟨_, h, trivial⟩
  rw [h]
  have wa := fun x => tokWF_setReal t1 x w1
  have wb := fun x => tokWF_setReal t2 x w2
  simp only [stepFrCore]
  by_cases c1 : (vowelOrMuteH v2.w t2 && isElidableWord v1.w && noWords v1.rest) = true
  · rw [if_pos c1]; exact ⟨_, rfl, wa _⟩
  rw [if_neg c1]
  by_cases c2 : (vowelOrMuteH v2.w t2 && isEuphonic v1.w && noWords v1.rest && t1.sg) = true
  · rw [if_pos c2]
    by_cases c3 : (ceMatch v1.w && ceVerb v2.w) = true
    · rw [if_pos c3]; exact ⟨_, rfl, wa _⟩
    rw [if_neg c3]
    by_cases c4 : (!euphExc v2.w) = true
    · -- the only dict subscript: every word of `euphonieFrRE` is a key of the table
      simp only [Bool.and_eq_true] at c2
      obtain ⟨r, hr, _⟩ := euphForm_some v1.w c2.1.1.2
      rw [if_pos c4, hr]; exact ⟨_, rfl, wa _⟩
    · rw [if_neg c4]; exact ⟨_, rfl, trivial⟩
  rw [if_neg c2]
  cases (if (noWords v1.rest && t2.fr) = true then contrFr v1.w v2.w else none) with
  | none => exact ⟨_, rfl, trivial⟩
  | some c =>
    simp only []
    by_cases c5 : (isElidableWord v2.w && t2.ct != ['D', 'T']) = true
    case neg => rw [if_neg c5]; exact ⟨_, rfl, wa _, wb _⟩
    rw [if_pos c5]
    cases t3 with
    | none => exact ⟨_, rfl, wa _, wb _⟩
    | some t =>
      obtain ⟨⟨x3, hx3⟩, hc3, hR3⟩ := tokWF_spec t (w3 t rfl)
      simp only [hx3]
      rw [elidableNext_ok x3 t.hR (by rw [hR3]; exact hc3)]
      cases isOkTrue (elidableNext x3 t.hR) with
      | false => exact ⟨_, rfl, wa _, wb _⟩
      | true => exact ⟨_, rfl, w1, wb _⟩

end Pyrealb.Elision
