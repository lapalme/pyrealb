/-! Reversed-stack view of `oneOf` for one key (head = what `indices.pop()` returns) and its invariants.
    `Pyrealb.OneOf.stepPy` (Python list order) is related to this view in `Lemmas/OneOfBridge`. -/
namespace Pyrealb.OneOf.Rev

/-- Python: `indices[0],indices[-1] = indices[-1],indices[0]` on the reversed view (head = next to pop). -/
def swapHL : List Nat → List Nat
  | [] => []
  | [a] => [a]
  | a :: rest => rest.getLast! :: (rest.dropLast ++ [a])

/-- One call on the reversed view `rem` (head = element that `pop()` returns).
    `perm` is what `random.shuffle(range n)` produces at this call, already reversed. -/
def step (mem : Option (List Nat)) (perm : List Nat) : Nat × List Nat :=
  match mem with
  | none =>
    match perm with
    | [] => (0, [])
    | i :: r => (i, r)
  | some [] => (0, [])
  | some (i :: r) =>
    if r.isEmpty then
      let p := match perm with
        | [] => []
        | j :: _ => if j = i then swapHL perm else perm
      (i, p)
    else (i, r)

def run : Option (List Nat) → List (List Nat) → List Nat
  | _, [] => []
  | mem, p :: ps => (step mem p).1 :: run (some (step mem p).2) ps

theorem swapHL_concat (a z : Nat) (mid : List Nat) : swapHL (a :: (mid ++ [z])) = z :: (mid ++ [a]) := by
  cases mid with
  | nil => rfl
  | cons b m =>
    have e : b :: (m ++ [z]) = (b :: m) ++ [z] := rfl
    show (b :: (m ++ [z])).getLast! :: ((b :: (m ++ [z])).dropLast ++ [a]) = _
    rw [e, List.dropLast_concat, List.getLast!_eq_getLast?_getD, List.getLast?_concat]
    rfl

theorem exists_mid (b : Nat) (r : List Nat) : ∃ mid z, b :: r = mid ++ [z] ∧ z ∈ b :: r :=
  ⟨_, _, (List.dropLast_concat_getLast (List.cons_ne_nil b r)).symm, List.getLast_mem _⟩

theorem swapHL_perm : ∀ l : List Nat, (swapHL l).Perm l
  | [] => .refl _
  | [_] => .refl _
  | a :: b :: r => by
    obtain ⟨mid, z, e, _⟩ := exists_mid b r
    rw [e, swapHL_concat]
    exact ((List.perm_append_singleton a mid).cons z).trans
      ((List.Perm.swap a z mid).trans ((List.perm_append_singleton z mid).cons a).symm)

theorem swapHL_head_ne (a b : Nat) (r : List Nat) (hnd : (a :: b :: r).Nodup) :
    ∃ h t, swapHL (a :: b :: r) = h :: t ∧ h ≠ a := by
  obtain ⟨mid, z, e, hz⟩ := exists_mid b r
  refine ⟨z, mid ++ [a], by rw [e, swapHL_concat], fun h => ?_⟩
  exact (List.nodup_cons.mp hnd).1 (h ▸ hz)

/-- validity of a shuffle outcome for `n` alternatives -/
def IsPerm (n : Nat) (p : List Nat) : Prop := p.Perm (List.range n)

theorem IsPerm.nodup {n p} (h : IsPerm n p) : p.Nodup := (List.Perm.nodup_iff h).mpr List.nodup_range
theorem IsPerm.length {n p} (h : IsPerm n p) : p.length = n := by
  have := List.Perm.length_eq h; simpa using this

theorem IsPerm.two_le {n p} (hn : 2 ≤ n) (h : IsPerm n p) : ∃ a b r, p = a :: b :: r := by
  have hl := h.length
  match p, hl with
  | [], hl | [_], hl => simp at hl; omega
  | a :: b :: r, _ => exact ⟨a, b, r, rfl⟩

/-- the memory between two calls: something is left to pop, nothing twice -/
def Good (rem : List Nat) : Prop := rem ≠ [] ∧ rem.Nodup

theorem IsPerm.good {n p} (hn : 2 ≤ n) (h : IsPerm n p) : Good p := by
  obtain ⟨a, b, r, rfl⟩ := h.two_le hn
  exact ⟨List.cons_ne_nil _ _, h.nodup⟩

/-- when the last index `i` of a cycle is popped, the memory becomes the new cycle: a permutation whose head is not `i` -/
theorem fix_good {n : Nat} (hn : 2 ≤ n) (i : Nat) (perm : List Nat) (hp : IsPerm n perm) :
    ∃ h t, (step (some [i]) perm).2 = h :: t ∧ h ≠ i ∧ (h :: t).Perm (List.range n) := by
  obtain ⟨a, b, r, rfl⟩ := hp.two_le hn
  by_cases hai : a = i
  · subst hai
    obtain ⟨h, t, e, hne⟩ := swapHL_head_ne a b r hp.nodup
    exact ⟨h, t, by simp [step, e], hne, e ▸ (swapHL_perm _).trans hp⟩
  · exact ⟨a, b :: r, by simp [step, hai], hai, hp⟩

theorem step_fst (i : Nat) (r perm : List Nat) : (step (some (i :: r)) perm).1 = i := by
  simp only [step]
  split <;> rfl

theorem step_some {n : Nat} (hn : 2 ≤ n) (i : Nat) (r perm : List Nat) (hg : Good (i :: r))
    (hp : IsPerm n perm) :
    ((r ≠ [] ∧ (step (some (i :: r)) perm).2 = r) ∨
     (r = [] ∧ IsPerm n (step (some (i :: r)) perm).2)) ∧
    Good (step (some (i :: r)) perm).2 ∧
    (step (some (i :: r)) perm).2.head? ≠ some i := by
  have hnd := List.nodup_cons.mp hg.2
  cases r with
  | nil =>
    obtain ⟨h, t, hs, hne, hperm⟩ := fix_good hn i perm hp
    rw [hs]
    exact ⟨Or.inr ⟨rfl, hperm⟩, ⟨by simp, hperm.nodup_iff.mpr List.nodup_range⟩, by simp [hne]⟩
  | cons a t =>
    have hs : (step (some (i :: a :: t)) perm).2 = a :: t := rfl
    rw [hs]
    refine ⟨Or.inl ⟨by simp, rfl⟩, ⟨by simp, hnd.2⟩, ?_⟩
    intro h
    exact hnd.1 (by simp [Option.some.inj h])

/-- adjacent elements differ -/
def NoRep : List Nat → Prop
  | [] => True
  | [_] => True
  | a :: b :: r => a ≠ b ∧ NoRep (b :: r)

theorem noRep_cons (a : Nat) (l : List Nat) : NoRep (a :: l) ↔ l.head? ≠ some a ∧ NoRep l := by
  cases l with
  | nil => simp [NoRep]
  | cons b r => simp [NoRep, eq_comm]

theorem head?_run (i : Nat) (r : List Nat) (ps : List (List Nat)) :
    (run (some (i :: r)) ps).head? = some i ∨ ps = [] := by
  cases ps with
  | nil => exact Or.inr rfl
  | cons p ps => exact Or.inl (by rw [run, List.head?_cons, step_fst])

/-- **No back-to-back repeat**, from any good state, for every sequence of shuffle outcomes. -/
theorem run_chain {n : Nat} (hn : 2 ≤ n) :
    ∀ (ps : List (List Nat)) (rem : List Nat), Good rem → (∀ p ∈ ps, IsPerm n p) → NoRep (run (some rem) ps)
  | [], _, _, _ => trivial
  | _ :: _, [], hg, _ => absurd rfl hg.1
  | p :: ps, i :: r, hg, hps => by
    obtain ⟨_, hg', hne⟩ := step_some hn i r p hg (hps p (by simp))
    rw [run, step_fst, noRep_cons]
    refine ⟨?_, run_chain hn ps _ hg' (fun q hq => hps q (by simp [hq]))⟩
    -- the next output, if any, is the head of the new memory
    match hs : (step (some (i :: r)) p).2, hg'.1 with
    | j :: t, _ =>
      rcases head?_run j t ps with h | h
      · rw [h]; rw [hs] at hne; exact hne
      · rw [h]; simp [run]

/-- every aligned block of `n` outputs is a permutation of `range n` -/
def BlockPerm (n : Nat) (l : List Nat) : Prop :=
  ∀ k, (k + 1) * n ≤ l.length → ((l.drop (k * n)).take n).Perm (List.range n)

theorem blockPerm_append {n : Nat} (B l : List Nat) (hB : B.Perm (List.range n)) (hl : BlockPerm n l) :
    BlockPerm n (B ++ l) := by
  have hlen : B.length = n := by simpa using hB.length_eq
  intro k hk
  cases k with
  | zero =>
    simp only [Nat.zero_mul, List.drop_zero]
    rw [List.take_append_of_le_length (by omega)]
    rw [List.take_of_length_le (by omega)]
    exact hB
  | succ k =>
    have e : (k + 1) * n = B.length + k * n := by rw [hlen, Nat.succ_mul]; omega
    rw [e, ← List.drop_drop, List.drop_left]
    apply hl k
    have : (B ++ l).length = n + l.length := by simp [hlen]
    rw [this] at hk
    have e2 : (k + 1 + 1) * n = (k + 1) * n + n := Nat.succ_mul _ _
    omega

theorem blockPerm_short {n : Nat} (l : List Nat) (h : l.length < n) : BlockPerm n l := by
  intro k hk
  have : n ≤ (k + 1) * n := Nat.le_mul_of_pos_left n (by omega)
  omega

/-- **Block permutation** from a state with ghost `done` (outputs already produced in the current block). -/
theorem run_block {n : Nat} (hn : 2 ≤ n) :
    ∀ (ps : List (List Nat)) (done rem : List Nat), Good rem → (done ++ rem).Perm (List.range n) →
      (∀ p ∈ ps, IsPerm n p) → BlockPerm n (done ++ run (some rem) ps)
  | [], done, rem, hg, hperm, _ => by
    have hl : (done ++ rem).length = n := by simpa using hperm.length_eq
    have := List.length_pos_iff.mpr hg.1
    apply blockPerm_short
    simp [run] at hl ⊢; omega
  | _ :: _, _, [], hg, _, _ => absurd rfl hg.1
  | p :: ps, done, i :: r, hg, hperm, hps => by
    obtain ⟨hcase, hg', _⟩ := step_some hn i r p hg (hps p (by simp))
    have hps' : ∀ q ∈ ps, IsPerm n q := fun q hq => hps q (by simp [hq])
    rw [run, step_fst, List.append_cons]
    rcases hcase with ⟨_, hs⟩ | ⟨rfl, hs⟩
    · rw [hs]
      exact run_block hn ps (done ++ [i]) r (hs ▸ hg') (by simpa using hperm) hps'
    · -- the block is complete: a new one starts with the new cycle
      exact blockPerm_append _ _ (by simpa using hperm) (run_block hn ps [] _ hg' hs hps')

/-- the first call keeps what the shuffle leaves after its pop, like a later call inside a cycle -/
theorem run_none (a b : Nat) (r : List Nat) (ps : List (List Nat)) :
    run none ((a :: b :: r) :: ps) = run (some (a :: b :: r)) ((a :: b :: r) :: ps) := rfl

theorem oneOf_no_repeat {n : Nat} (hn : 2 ≤ n) (ps : List (List Nat)) (hps : ∀ p ∈ ps, IsPerm n p) :
    NoRep (run none ps) := by
  cases ps with
  | nil => trivial
  | cons p ps =>
    have hp := hps p (by simp)
    obtain ⟨a, b, r, rfl⟩ := hp.two_le hn
    rw [run_none]
    exact run_chain hn _ _ (hp.good hn) hps

theorem oneOf_block_perm {n : Nat} (hn : 2 ≤ n) (ps : List (List Nat)) (hps : ∀ p ∈ ps, IsPerm n p) :
    BlockPerm n (run none ps) := by
  cases ps with
  | nil => exact blockPerm_short _ (by simp [run]; omega)
  | cons p ps =>
    have hp := hps p (by simp)
    obtain ⟨a, b, r, rfl⟩ := hp.two_le hn
    rw [run_none]
    exact run_block hn _ [] _ (hp.good hn) hp hps

end Pyrealb.OneOf.Rev
