import Pyrealb.Lemmas.ClauseEnPh
/-! Normal form of `realizePhraseW`: the tokens of the clause proper are the declarative linearisation `linPh`.
    `move_object` fronts element 0 of the VP exactly when the words contain a V (`moveObjectPh_eq`); the control flow of
    `Phrase.processInt` is stated for an arbitrary state (`processIntPh_obj`, `processIntPh_pp`, `tagQuestionPh_ok`). -/
namespace Pyrealb.ClauseEn

def mainPh (st : PState) : List Tok :=
  st.sEl.flatMap fun n =>
    match n with
    | .vp => flatVP st.vpEl
    | .tag _ => []
    | n => flatVP [n]

theorem main_grpsPh (ty : Typ) (st : PState) (a : Agr) (w : Nat) :
    ({ grps := (grpsPh ty st).map (fun g => { g with toks := g.toks.map (Tok.resolve a) }), warn := w, agr := a } : Out).main
      = (mainPh st).map (Tok.resolve a) := by
  unfold Out.main grpsPh mainPh
  induction st.sEl with
  | nil => rfl
  | cons n r ih =>
    simp only [List.map_cons, List.filter_cons, List.flatMap_cons, List.map_append, ← ih]
    cases n <;> rfl

/-- `move_object`: when the VP has a V somewhere, element 0 of the VP goes to the front of S -/
theorem moveObjectPh_eq (st : PState) :
    moveObjectPh st =
      if st.vpEl.any (fun n => n.ct == .V) then
        match st.vpEl with
        | x :: r => { st with vpEl := r, sEl := x :: st.sEl }
        | [] => st
      else st := by
  unfold moveObjectPh
  rw [← findIdx_isSome]
  cases findIdx (fun n : PNode => n.ct == .V) st.vpEl with
  | none => rfl
  | some k => cases st.vpEl <;> rfl

theorem mainPh_move (sj : ArgTok) (ws : List Tok) (C : List PNode) (hC : C.any (fun n => n.ct == .V) = false)
    (agr : Agr) (g : Gender) (c : Bool) (pd : Option Agr) :
    mainPh (moveObjectPh ⟨[.arg sj, .vp], ws.map .word ++ C, agr, g, c, pd⟩) = front sj ws (flatVP C) := by
  have hv : (ws.map PNode.word ++ C).any (fun n => n.ct == .V) = hasV ws := by
    rw [List.any_append, hC, Bool.or_false, List.any_map]; rfl
  rw [moveObjectPh_eq, hv]
  unfold front
  cases h : hasV ws
  · simp [mainPh, flatVP, flatVP_append, flatVP_words]
  · cases ws with
    | nil => cases h
    | cons w0 ws' => simp [mainPh, flatVP, flatVP_append, flatVP_words]

theorem moveObjectPh_agr (st : PState) :
    (moveObjectPh st).agr = st.agr ∧ (moveObjectPh st).pending = st.pending := by
  rw [moveObjectPh_eq]
  split
  · split <;> exact ⟨rfl, rfl⟩
  · exact ⟨rfl, rfl⟩

theorem tagQuestionPh_ok (ty : Typ) (st : PState) :
    ∃ st', tagQuestionPh ty st = .ok st' ∧ mainPh st' = mainPh st ∧ st'.agr = st.agr ∧ st'.pending = st.pending := by
  unfold tagQuestionPh
  split
  · exact ⟨_, rfl, by simp [mainPh], rfl, rfl⟩
  · exact ⟨_, rfl, rfl, rfl, rfl⟩

def prefixed (x : Str) (st : PState) : PState := { st with sEl := .word (.q x) :: st.sEl }

theorem processIntPh_obj (ty : Typ) (i : Int) (hi : i = .wod ∨ i = .wad) (st : PState) :
    processIntPh ty i st =
      match findIdx (fun n => isSubjCT n.ct) st.vpEl with
      | some k =>
        .ok (prefixed
          (if Gen.ClauseEn.phraseHumanObjectGetsIntValue && i == .wod &&
              (match st.vpEl[k]? with
               | some (.arg (.np a)) => humanGender a.g
               | some (.arg (.proMe a)) => humanGender a.g
               | _ => false) then s "whom" else intPrefix i)
          (moveObjectPh { st with vpEl := removeAt st.vpEl k }))
      | none => .ok (prefixed (intPrefix i) (moveObjectPh st)) := by
  rcases hi with rfl | rfl <;>
  · simp only [processIntPh]
    cases findIdx (fun n : PNode => isSubjCT n.ct) st.vpEl <;> rfl

/-- prepositional questions: the FIRST prepositional phrase of the VP goes if its preposition fits the question -/
theorem processIntPh_pp (ty : Typ) (i : Int) (hi : i.isPPq = true) (st : PState) :
    processIntPh ty i st =
      match findIdx (fun n => n.ct == .PP) st.vpEl with
      | some k =>
        match st.vpEl.getD k .v0 with
        | .pp prep _ =>
          .ok (prefixed (questionPPPh i [(prep, .it)]).1
            (moveObjectPh (if prepQualifies i prep then { st with vpEl := removeAt st.vpEl k } else st)))
        | _ => .ok (prefixed (intPrefix i) (moveObjectPh st))
      | none => .ok (prefixed (intPrefix i) (moveObjectPh st)) := by
  cases i <;> (try cases hi) <;>
  · simp only [processIntPh]
    cases findIdx (fun n : PNode => n.ct == .PP) st.vpEl with
    | none => rfl
    | some k =>
      simp only
      cases st.vpEl.getD k .v0 <;> try rfl
      simp [questionPPPh, prepQualifies]
      split <;> rfl

theorem compl_noV (o : Option ArgTok) (pl : List (Str × ArgTok)) :
    (objNodes o ++ ppNodes pl).any (fun n => n.ct == .V) = false := by
  rw [List.any_eq_false]
  intro x hx
  rcases List.mem_append.mp hx with h | h
  · cases o <;> simp [objNodes] at h
    subst h; cases ‹ArgTok› <;> simp
  · rw [ppNodes_ct pl x h]; decide

theorem flatVP_compl (o : Option ArgTok) (pl : List (Str × ArgTok)) :
    flatVP (objNodes o ++ ppNodes pl) = objToks o ++ ppToks pl := by
  rw [flatVP_append, flatVP_objNodes, flatVP_ppNodes]

theorem linPh_pp (m : Mid) (i : Int) (hi : i.isPPq = true) (ws : List Tok) :
    linPh m (some i) ws = .q (questionPPPh i m.pl).1 :: front m.subj ws (objToks m.obj ++ ppToks (questionPPPh i m.pl).2) := by
  cases i <;> (try cases hi) <;> rfl

theorem moved_ok (x : Str) (sj : ArgTok) (ws : List Tok) (o : Option ArgTok) (pl : List (Str × ArgTok)) (agr : Agr)
    (g : Gender) (pd : Option Agr) (st : PState)
    (h : st = prefixed x (moveObjectPh ⟨[.arg sj, .vp], ws.map .word ++ (objNodes o ++ ppNodes pl), agr, g, false, pd⟩)) :
    mainPh st = .q x :: front sj ws (objToks o ++ ppToks pl) ∧ st.agr = agr ∧ (pd = none → st.pending = none) := by
  subst h
  exact ⟨(congrArg (Tok.q x :: ·) (mainPh_move sj ws _ (compl_noV o pl) agr g false pd)).trans (by rw [flatVP_compl]),
    (moveObjectPh_agr _).1, fun h => (moveObjectPh_agr _).2.trans h⟩

theorem processIntPh_stOf_pp (ty : Typ) (i : Int) (hi : i.isPPq = true) (m : Mid) (ws : List Tok)
    (hw : ws.all Tok.isWord = true) :
    ∃ st, processIntPh ty i (stOf m ws) = .ok st ∧ mainPh st = linPh m (some i) ws ∧
      st.agr = agrPlain m (some i) ∧ (m.pending = none → st.pending = none) := by
  obtain ⟨subj, obj, pl, agr, g, pd⟩ := m
  have hagr : agrPlain ⟨subj, obj, pl, agr, g, pd⟩ (some i) = agr := by cases i <;> (try cases hi) <;> rfl
  rw [processIntPh_pp ty i hi, linPh_pp _ i hi, hagr]
  have hno : ∀ x ∈ ws.map PNode.word ++ objNodes obj, (fun n : PNode => n.ct == CT.PP) x = false := by
    intro x hx
    rcases List.mem_append.mp hx with h | h
    · exact words_not_PP ws hw x h
    · cases obj <;> simp [objNodes] at h
      subst h; cases ‹ArgTok› <;> rfl
  have hf : findIdx (fun n : PNode => n.ct == CT.PP) (ws.map PNode.word ++ (objNodes obj ++ ppNodes pl))
      = (findIdx (fun n : PNode => n.ct == CT.PP) (ppNodes pl)).map (· + (ws.map PNode.word ++ objNodes obj).length) := by
    rw [← List.append_assoc]; exact findIdx_append_of_none _ _ (ppNodes pl) hno
  simp only [stOf]
  cases pl with
  | nil =>
    simp only [ppNodes_nil, findIdx_nil, Option.map_none] at hf
    simp only [ppNodes_nil, hf]
    exact ⟨_, rfl, moved_ok _ subj ws obj [] agr g pd _ rfl⟩
  | cons pa R =>
    obtain ⟨p, a⟩ := pa
    simp only [ppNodes_cons, findIdx, ct_pp, BEq.rfl, if_true, Option.map_some] at hf
    have hg : (ws.map PNode.word ++ (objNodes obj ++ .pp p a :: ppNodes R))[0 + (ws.map PNode.word ++ objNodes obj).length]?
        = some (.pp p a) := by rw [← List.append_assoc, getElem?_append_length]; rfl
    have hr : removeAt (ws.map PNode.word ++ (objNodes obj ++ .pp p a :: ppNodes R)) (0 + (ws.map PNode.word ++ objNodes obj).length)
        = ws.map PNode.word ++ (objNodes obj ++ ppNodes R) := by
      rw [← List.append_assoc, removeAt_append_length, removeAt_zero, List.append_assoc]
    simp only [ppNodes_cons, hf, List.getD_eq_getElem?_getD, hg, hr, Option.getD_some, questionPPPh]
    cases prepQualifies i p
    · exact ⟨_, rfl, moved_ok _ subj ws obj ((p, a) :: R) agr g pd _ rfl⟩
    · exact ⟨_, rfl, moved_ok _ subj ws obj R agr g pd _ rfl⟩

theorem processIntPh_stOf (ty : Typ) (i : Int) (m : Mid) (ws : List Tok) (hw : ws.all Tok.isWord = true) :
    ∃ st, processIntPh ty i (stOf m ws) = .ok st ∧ mainPh st = linPh m (some i) ws ∧
      st.agr = agrPlain m (some i) ∧ (m.pending = none → st.pending = none) := by
  obtain ⟨subj, obj, pl, agr, g, pd⟩ := m
  cases i
  case yon =>
    refine ⟨_, rfl, ?_, (moveObjectPh_agr _).1, fun h => (moveObjectPh_agr _).2.trans h⟩
    exact (mainPh_move subj ws _ (compl_noV obj pl) agr g false pd).trans (by rw [flatVP_compl]; rfl)
  case how | why | muc => exact ⟨_, rfl, moved_ok _ subj ws obj pl agr g pd _ rfl⟩
  case wod | wad =>
    rw [processIntPh_obj ty _ (by decide)]
    have hf := findIdx_append_of_none (fun n : PNode => isSubjCT n.ct) _ (objNodes obj ++ ppNodes pl)
      (words_not_subj ws hw)
    cases obj with
    | none =>
      simp only [objNodes, List.nil_append, findIdx_subj_ppNodes, Option.map_none] at hf
      simp only [stOf, objNodes, List.nil_append, hf]
      exact ⟨_, rfl, moved_ok _ subj ws none pl agr g pd _ rfl⟩
    | some o =>
      simp only [objNodes, List.cons_append, List.nil_append, findIdx, ct_arg, argTok_isSubjCT, if_true, Option.map_some] at hf
      simp only [stOf, objNodes, List.cons_append, List.nil_append, hf, getElem?_append_length, removeAt_append_length]
      cases o <;> exact ⟨_, rfl, moved_ok _ subj ws none pl agr g pd _ rfl⟩
  case wos | was =>
    have hs : isVerbCT subj.ct = false := by cases subj <;> rfl
    simp only [processIntPh, stOf, findIdx, ct_arg, ct_vp, argTok_isSubjCT, hs, isVerbCT_VP, if_true, Bool.false_eq_true,
      if_false, Option.map_some]
    refine ⟨_, rfl, ?_, rfl, fun _ => rfl⟩
    simp [mainPh, linPh, flatVP, flatVP_append, flatVP_words, flatVP_objNodes, flatVP_ppNodes, removeAt]
  case tag =>
    obtain ⟨st', h, hm, ha, hp⟩ := tagQuestionPh_ok ty (stOf ⟨subj, obj, pl, agr, g, pd⟩ ws)
    simp only [processIntPh, h, bind, Except.bind, pure, Except.pure]
    refine ⟨_, rfl, ?_, ha, fun h => hp.trans h⟩
    show Tok.q _ :: mainPh st' = _
    rw [hm]
    simp [mainPh, linPh, stOf, flatVP, flatVP_append, flatVP_words, flatVP_objNodes, flatVP_ppNodes]
  all_goals exact processIntPh_stOf_pp ty _ rfl ⟨subj, obj, pl, agr, g, pd⟩ ws hw

theorem move_vFirst (S R : List PNode) (l : VLemma) (f : VForm) (r : AgrRef) (agr : Agr) (g : Gender) (c : Bool)
    (pd : Option Agr) :
    moveObjectPh ⟨S, .word (.verb l f r) :: R, agr, g, c, pd⟩ = ⟨.word (.verb l f r) :: S, R, agr, g, c, pd⟩ := by
  simp [moveObjectPh_eq]

theorem move_cannotV (S R : List PNode) (l : VLemma) (f : VForm) (r : AgrRef) (agr : Agr) (g : Gender) (c : Bool)
    (pd : Option Agr) :
    moveObjectPh ⟨S, .word .cannot :: .word (.verb l f r) :: R, agr, g, c, pd⟩
      = ⟨.word .cannot :: S, .word (.verb l f r) :: R, agr, g, c, pd⟩ := by
  simp [moveObjectPh_eq]

theorem move_cannotOnly (S : List PNode) (o : Option ArgTok) (pl : List (Str × ArgTok)) (agr : Agr) (g : Gender)
    (c : Bool) (pd : Option Agr) :
    moveObjectPh ⟨S, .word .cannot :: (objNodes o ++ ppNodes pl), agr, g, c, pd⟩
      = ⟨S, .word .cannot :: (objNodes o ++ ppNodes pl), agr, g, c, pd⟩ := by
  rw [moveObjectPh_eq, List.any_cons, compl_noV]; rfl

theorem map_resolve_append (a : Agr) (l1 l2 : List Tok) :
    (l1 ++ l2).map (Tok.resolve a) = l1.map (Tok.resolve a) ++ l2.map (Tok.resolve a) := List.map_append

theorem agrAtVerb_none (a : Agr) (toks : List Tok) : agrAtVerb none a toks = a := rfl

def PhOK (sp : Spec) (ty : Typ) (ws : List Tok) : Prop :=
  ∃ out, realizePhraseW sp ty ws = .ok out ∧
    out.main = (linPh (midPh sp ty.pas) ty.int ws).map (Tok.resolve out.agr) ∧
    ((midPh sp ty.pas).pending = none → out.agr = agrPlain (midPh sp ty.pas) ty.int)

/-- **normal form of the constituent notation**, for any list of verb-group words -/
theorem phrase_nf_words (sp : Spec) (ty : Typ) (ws : List Tok) (hw : ws.all Tok.isWord = true) : PhOK sp ty ws := by
  unfold PhOK
  simp only [realizePhraseW, mid_state]
  generalize midPh sp ty.pas = m
  cases ty.int with
  | none =>
    refine ⟨_, rfl, (main_grpsPh ..).trans ?_, fun h => ?_⟩
    · simp [mainPh, linPh, stOf, flatVP, flatVP_append, flatVP_words, flatVP_objNodes, flatVP_ppNodes]
    · simp only [stOf, h]; rfl
  | some i =>
    obtain ⟨st, hst, hmain, hagr, hpd⟩ := processIntPh_stOf ty i m ws hw
    simp only [hst, bind, Except.bind, pure, Except.pure]
    refine ⟨_, rfl, (main_grpsPh ..).trans (by rw [hmain]), fun h => ?_⟩
    simp only [hpd h, ← hagr]; rfl

end Pyrealb.ClauseEn
