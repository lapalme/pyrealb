import Pyrealb.Lemmas.ElisionTree
import Pyrealb.Lemmas.ClauseFrPlaceLemmas
/-! # `PlaceOK` for the French pronoun-placement model of C05

`ClauseFr.placePronouns` (C05's model of `NonTerminalFr.doPronounPlacement`) moves the clitic pronouns that follow
the verb in front of it and inserts `ne`, the second negative word, a reflexive pronoun.  `PlaceOK` asks that no
token that a lower level elided (`l'`, `qu'`, `cet`…) be separated from the word that licenses it.  It is FALSE of
arbitrary inputs (a stale token directly followed by a clitic that is popped; a stale token just before the
insertion point); here it is proved for the closed form `ClauseFr.placedAt` (first non-auxiliary verb, loop 1
idle: `ClauseFr.place_first_verb`) under the explicit condition `PlaceCond`, whose heart is the `elided` guard of
the code: a pronoun whose realization ends with an apostrophe is never popped (`ClauseFr.isCliticPro_elided`), so the
popped ones can be required to be fresh. -/
namespace Pyrealb.Elision
open Pyrealb

/-- how the tokens of the clause model are seen by `doElision`: any map that reads `lier` off the token and does
    not look at the `neg2` attribute of a verb -/
structure Embedding where
  emb : ClauseFr.Tok → Tok
  lier : ∀ t, (emb t).lier = t.lier
  verb : ∀ (x : ClauseFr.VT) (f : Str), emb (.v { x with neg2 := none } f) = emb (.v x f)

/-- the guard of `doPronounPlacement` as C05's model mirrors it (`ClauseFr.elidedForm`: since /repo commit c4595d2 the
    FIRST WORD of the realization — `sepWordREC` group 2 — ends with an apostrophe; before, `realization.endswith("'")`):
    a bare word ending with an apostrophe (`l'`, `m'`, `s'`…) is recognised as already elided by either version and is
    not a clitic to pop.  This is why `PlaceCond.pros` may ask the popped pronouns to be fresh. -/
theorem elided_bare_clitic_not_popped (x : ClauseFr.ProT) (f : Str) (hne : f ≠ [])
    (hw : ∀ c ∈ f, ClauseFr.isWordCh c = true) (h : endsWith f ['\''] = true) :
    ClauseFr.isCliticPro x f = false :=
  ClauseFr.isCliticPro_elided x f (by rw [ClauseFr.elidedForm_bare f hne hw]; exact h)

/-- every pronoun that `collect` pops passed the guard: it is not recognised as elided -/
theorem popped_not_elided (l : List ClauseFr.Tok) (x : ClauseFr.ProT) (f : Str)
    (h : ClauseFr.Tok.pro x f ∈ (ClauseFr.collect l).1) : ClauseFr.elidedForm f = false := by
  have hc := ClauseFr.collect_fst_clitic l _ h
  simp only [ClauseFr.Tok.isClitic, ClauseFr.isCliticPro, Bool.and_eq_true, Bool.not_eq_eq_eq_not, Bool.not_true] at hc
  exact hc.1

/-- well-formed tokens that need no licensing word may stand anywhere -/
theorem invIn_fresh (l : List Tok) (hw : TokWF l) (hf : ∀ t ∈ l, freshTok t = true) : InvIn l := by
  refine ⟨hw, ?_, fun t ht => hf t (List.mem_of_getLast? ht)⟩
  suffices h : ∀ (l : List Tok) (pl : Bool), (∀ t ∈ l, freshTok t = true) → bwdFromFr pl l = true from h l false hf
  intro l
  induction l with
  | nil => intro _ _; rfl
  | cons a r ih =>
    intro pl h
    cases r with
    | nil => rfl
    | cons b r' =>
      rw [bwdFromFr, fresh_bwd a b (h a List.mem_cons_self), Bool.or_true, Bool.true_and]
      exact ih a.lier fun t ht => h t (List.mem_cons_of_mem _ ht)

/-- a list whose first token is fresh does not need the exemption of its first pair -/
theorem bwd_unexempt (l : List Tok) (pl : Bool) (hf : ∀ t, l.head? = some t → freshTok t = true)
    (h : bwdFromFr pl l = true) : bwdFromFr false l = true := by
  cases l with
  | nil => rfl
  | cons a r =>
    cases r with
    | nil => rfl
    | cons b r' =>
      rw [bwdFromFr, Bool.and_eq_true] at h
      rw [bwdFromFr, fresh_bwd a b (hf a rfl), Bool.or_true, Bool.true_and]; exact h.2

/-- the exemption flag after the list `a` (whose own first pair has flag `pl`) -/
def lastLier (pl : Bool) (a : List Tok) : Bool :=
  match a.getLast? with
  | some t => t.lier
  | none => pl

theorem bwd_split : ∀ (a b : List Tok) (pl : Bool), bwdFromFr pl (a ++ b) = true →
    bwdFromFr pl a = true ∧ bwdFromFr (lastLier pl a) b = true
  | [], _, _, h => ⟨rfl, h⟩
  | [x], [], _, _ => ⟨rfl, rfl⟩
  | [x], y :: b', pl, h => ⟨rfl, (Bool.and_eq_true _ _ ▸ h).2⟩
  | x :: y :: r', b, pl, h => by
    rw [List.cons_append, List.cons_append, bwdFromFr, Bool.and_eq_true] at h
    have := bwd_split (y :: r') b x.lier h.2
    refine ⟨by rw [bwdFromFr, h.1, this.1]; rfl, ?_⟩
    rw [lastLier, List.getLast?_cons_cons]; exact this.2

/-! ### `collect` (loop 2): what stays after the verb -/

/-- no stale token stands directly before a pronoun that `collect` would pop -/
def CondE (E : Embedding) : List ClauseFr.Tok → Prop
  | a :: b :: r => (b.isClitic = true → freshTok (E.emb a) = true) ∧ CondE E (b :: r)
  | _ => True

theorem condE_tail (E : Embedding) (c : ClauseFr.Tok) (r : List ClauseFr.Tok) (h : CondE E (c :: r)) : CondE E r := by
  cases r with
  | nil => trivial
  | cons b r' => exact h.2

/-- `l'` is `l` without some of its clitic pronouns -/
inductive Del : List ClauseFr.Tok → List ClauseFr.Tok → Prop
  | nil : Del [] []
  | keep (c : ClauseFr.Tok) {l l' : List ClauseFr.Tok} : Del l l' → Del (c :: l) (c :: l')
  | drop (c : ClauseFr.Tok) {l l' : List ClauseFr.Tok} : c.isClitic = true → Del l l' → Del (c :: l) l'

theorem Del.refl : ∀ l, Del l l
  | [] => .nil
  | c :: l => .keep c (Del.refl l)

theorem collect_del (l : List ClauseFr.Tok) : Del l (ClauseFr.collect l).2 := by
  fun_induction ClauseFr.collect l with
  | case1 => exact .nil
  | case2 rest x f h r ih => exact .drop _ h ih
  | case4 rest x f _ _ r ih => exact .keep _ ih
  | case5 y g rest r ih => exact .keep _ (.keep _ ih)
  | case8 y g rest r ih => exact .keep _ (.keep _ ih)
  | case11 c rest r _ _ _ ih => exact .keep _ ih
  | case3 | case6 | case7 | case9 | case10 => exact Del.refl _

theorem Del.head {l l' : List ClauseFr.Tok} (h : Del l l') :
    l'.head? = l.head? ∨ ∃ c, l.head? = some c ∧ c.isClitic = true := by
  cases h with
  | nil => exact Or.inl rfl
  | keep c _ => exact Or.inl rfl
  | drop c hc _ => exact Or.inr ⟨c, rfl, hc⟩

theorem clitic_lier (E : Embedding) (c : ClauseFr.Tok) (h : c.isClitic = true) : (E.emb c).lier = false := by
  rw [E.lier]
  cases c <;> first | rfl | cases h

theorem del_bwd (E : Embedding) {l l' : List ClauseFr.Tok} (h : Del l l') : ∀ pl,
    bwdFromFr pl (l.map E.emb) = true → CondE E l → bwdFromFr pl (l'.map E.emb) = true := by
  induction h with
  | nil => intro _ hb _; exact hb
  | drop c hc _ ih =>
    intro pl hb hcond
    have ht := bwdFrom_tail pl _ _ hb
    rw [clitic_lier E c hc] at ht
    exact bwd_mono _ pl (ih false ht (condE_tail E _ _ hcond))
  | @keep c l l' hd ih =>
    intro pl hb hcond
    have hrec := ih (E.emb c).lier (bwdFrom_tail pl _ _ hb) (condE_tail E _ _ hcond)
    cases l' with
    | nil => rfl
    | cons h' A' =>
      rw [List.map_cons] at hrec
      rw [List.map_cons, List.map_cons, bwdFromFr, hrec, Bool.and_true]
      -- the pair `(c, h')`: an old pair, or `c` stood before a clitic that went
      cases l with
      | nil => cases hd
      | cons r1 r' =>
        rcases hd.head with hh | ⟨cl, hcl, hclit⟩
        · cases hh
          exact (Bool.and_eq_true _ _ ▸ hb).1
        · cases hcl
          rw [fresh_bwd _ _ (hcond.1 hclit), Bool.or_true]

theorem del_last (E : Embedding) {l l' : List ClauseFr.Tok} (h : Del l l') :
    CondE E l → LastFresh (l.map E.emb) → LastFresh (l'.map E.emb) := by
  induction h with
  | nil => intro _ hl; exact hl
  | @drop c l l' hc hd ih =>
    intro hcond hl
    cases l with
    | nil => cases hd; exact fun _ ht => nomatch ht
    | cons r1 r' => exact ih (condE_tail E _ _ hcond) ((lastFresh_cons_cons ..).mp hl)
  | @keep c l l' hd ih =>
    intro hcond hl
    cases l with
    | nil => cases hd; exact hl
    | cons r1 r' =>
      cases l' with
      | nil =>
        -- everything after `c` went: `c` stood before a clitic
        rcases hd.head with hh | ⟨cl, hcl, hclit⟩
        · cases hh
        · cases hcl
          intro t ht; cases ht; exact hcond.1 hclit
      | cons h' A' =>
        exact (lastFresh_cons_cons ..).mpr (ih (condE_tail E _ _ hcond) ((lastFresh_cons_cons ..).mp hl))

open ClauseFr in
/-- the exact condition under which moving the clitics keeps every elided token next to its licensing word -/
structure PlaceCond (E : Embedding) (pre post : List ClauseFr.Tok) (x : ClauseFr.VT) (f : Str) (isR : Bool)
    (pg : Option ClauseFr.VT) : Prop where
  /-- what is put next to the verb (`ne`, a second negative word, the reflexive pronoun, the popped clitics — not
      elided ones: the guard) is well-formed and fresh -/
  pros : ∀ t ∈ prosOf x isR pg (collect post).1, tokWF (E.emb t) = true ∧ freshTok (E.emb t) = true
  /-- the second negative word put after the verb -/
  pas : ∀ w, x.neg2 = some w → tokWF (E.emb (.q w)) = true ∧ freshTok (E.emb (.q w)) = true
  /-- the token before the insertion point is not a stale elided token -/
  pre : LastFresh (pre.map E.emb)
  /-- the verb itself -/
  verb : freshTok (E.emb (.v x f)) = true
  /-- no stale token directly before a pronoun that is popped -/
  adj : CondE E post
  /-- inversion (`lier`): no second negative word is inserted after the verb, and the first token that stays after
      the verb does not need the exemption -/
  inv : x.lier = true → (x.neg2 = none ∨ x.t = .b) ∧
          ∀ t, (collect post).2.head? = some t → freshTok (E.emb t) = true

theorem wf_all (l : List Tok) (h : ∀ t ∈ l, tokWF t = true) : TokWF l := h

/-- **`PlaceOK` for C05's placement model, at the inputs that satisfy `PlaceCond`**: the result is
    `pre ++ pros ++ [verb] ++ after` (`pre ++ [verb] ++ pros ++ after` for a positive imperative), each part
    satisfies the precondition of a pass, and so does a concatenation of such parts -/
theorem placedAt_inv (E : Embedding) (pre post : List ClauseFr.Tok) (x : ClauseFr.VT) (f : Str) (isR : Bool)
    (pg : Option ClauseFr.VT)
    (hin : InvIn ((pre ++ ClauseFr.Tok.v x f :: post).map E.emb)) (hc : PlaceCond E pre post x f isR pg) :
    InvIn ((ClauseFr.placedAt pre post x f isR pg).map E.emb) := by
  obtain ⟨hwf, hbwd, hlast⟩ := hin
  rw [List.map_append, List.map_cons] at hbwd hwf hlast
  have hV' : E.emb (.v (if x.t = .b then x else { x with neg2 := none }) f) = E.emb (.v x f) := by
    split
    · rfl
    · exact E.verb x f
  have wV : tokWF (E.emb (.v x f)) = true := hwf _ (List.mem_append_right _ List.mem_cons_self)
  -- what the input says of the parts that stay
  have hs := bwd_split (pre.map E.emb) (E.emb (.v x f) :: post.map E.emb) false hbwd
  have hPre : InvIn (pre.map E.emb) := ⟨fun t ht => hwf t (List.mem_append_left _ ht), hs.1, hc.pre⟩
  have hPreV : InvIn (pre.map E.emb ++ [E.emb (.v x f)]) := by
    refine ⟨fun t ht => hwf t ?_, (bwd_split _ (post.map E.emb) false ?_).1, fun t ht => ?_⟩
    · rcases List.mem_append.mp ht with h | h
      · exact List.mem_append_left _ h
      · exact List.mem_append_right _ (List.mem_cons.mpr (Or.inl (List.mem_singleton.mp h)))
    · rw [List.append_assoc]; exact hbwd
    · rw [List.getLast?_concat] at ht; cases ht; exact hc.verb
  have hA : InvIn ((ClauseFr.collect post).2.map E.emb) := by
    have wPost : TokWF (post.map E.emb) := fun t ht => hwf t (List.mem_append_right _ (List.mem_cons_of_mem _ ht))
    have lPost : LastFresh (post.map E.emb) := by
      cases post with
      | nil => exact fun _ ht => nomatch ht
      | cons p1 pr =>
        intro t ht
        apply hlast t
        rw [List.map_cons] at ht ⊢
        rw [List.getLast?_append, List.getLast?_cons_cons, ht]; rfl
    have hb := del_bwd E (collect_del post) _ (bwdFrom_tail _ _ _ hs.2) hc.adj
    refine ⟨fun t ht => ?_, ?_, del_last E (collect_del post) hc.adj lPost⟩
    · obtain ⟨a, ha, rfl⟩ := List.mem_map.mp ht
      exact wPost _ (List.mem_map.mpr ⟨a, (ClauseFr.collect_snd_sublist post).subset ha, rfl⟩)
    · -- under inversion the first token that stays does not need the exemption of its first pair
      rw [E.lier] at hb
      cases hl : x.lier with
      | false => rw [show (ClauseFr.Tok.v x f).lier = x.lier from rfl, hl] at hb; exact hb
      | true =>
        refine bwd_unexempt _ _ (fun t ht => ?_) hb
        obtain ⟨a, ha, rfl⟩ := Option.map_eq_some_iff.mp (List.head?_map ▸ ht)
        exact (hc.inv hl).2 a ha
  have hP : InvIn ((ClauseFr.prosOf x isR pg (ClauseFr.collect post).1).map E.emb) :=
    invIn_fresh _ (List.forall_mem_map.mpr fun a ha => (hc.pros a ha).1)
      (List.forall_mem_map.mpr fun a ha => (hc.pros a ha).2)
  have single : ∀ t, tokWF t = true → freshTok t = true → InvIn [t] := fun t hw hf =>
    invIn_fresh _ (List.forall_mem_singleton.mpr hw) (List.forall_mem_singleton.mpr hf)
  have hV := single _ wV hc.verb
  -- the two orders
  have shape : ∀ (V' : ClauseFr.Tok) (after : List ClauseFr.Tok), E.emb V' = E.emb (.v x f) → InvIn (after.map E.emb) →
      InvIn ((if ClauseFr.tableFor x = .ipPos
          then pre ++ [V'] ++ ClauseFr.prosOf x isR pg (ClauseFr.collect post).1 ++ after
          else pre ++ ClauseFr.prosOf x isR pg (ClauseFr.collect post).1 ++ [V'] ++ after).map E.emb) := by
    intro V' after hV' hAft
    split
    · simp only [List.map_append, List.map_cons, List.map_nil, hV']
      exact invIn_append _ _ (invIn_append _ _ hPreV hP) hAft
    · simp only [List.map_append, List.map_cons, List.map_nil, hV']
      exact invIn_append _ _ (invIn_append _ _ (invIn_append _ _ hPre hP) hV) hAft
  unfold ClauseFr.placedAt
  refine shape _ _ hV' ?_
  -- the list after the verb, with the second negative word when there is one (never under inversion)
  cases hn : x.neg2 with
  | none => exact hA
  | some w =>
    dsimp only
    by_cases hb : x.t = .b
    · rw [if_pos hb]; exact hA
    · have hnl : x.lier = false := by
        cases hl : x.lier with
        | false => rfl
        | true =>
          rcases (hc.inv hl).1 with h | h
          · rw [hn] at h; cases h
          · exact absurd h hb
      rw [if_neg hb, hnl]
      exact invIn_append [E.emb (.q w)] _ (single _ (hc.pas w hn).1 (hc.pas w hn).2) hA

/-- a node whose flattened children are (the embedding of) a clause-model token list split at its first
    non-auxiliary verb; `refl` = the clause's `typ.refl` -/
structure VPNode where
  refl : Bool
  pre : List ClauseFr.Tok
  post : List ClauseFr.Tok
  x : ClauseFr.VT
  f : Str

def VPNode.toks (nd : VPNode) : List ClauseFr.Tok := nd.pre ++ ClauseFr.Tok.v nd.x nd.f :: nd.post

/-- `place` of the fold: C05's `placePronouns` at the VP nodes, nothing elsewhere (`doPronounPlacement` is only
    called for a VP / a verbal dependent) -/
def placeC05 (E : Embedding) (nodes : Nat → Option VPNode) (id : Nat) (l : List Tok) : List Tok :=
  match nodes id with
  | none => l
  | some nd =>
    match ClauseFr.placePronouns nd.refl nd.toks with
    | .ok out => out.map E.emb
    | .error _ => l

/-- what is asked of a VP node: its list is the embedding of the clause-model tokens, `placePronouns` is in its
    closed form (`ClauseFr.place_first_verb`), and `PlaceCond` holds -/
def NodeOK (E : Embedding) (nodes : Nat → Option VPNode) (p : Nat × List Tok) : Prop :=
  match nodes p.1 with
  | none => True
  | some nd =>
    p.2 = nd.toks.map E.emb ∧ ClauseFr.OnlyAuxV nd.pre ∧ nd.x.isProg = false ∧ nd.x.isMod = false ∧
    ClauseFr.NoAuxNeg nd.toks ∧
    ∀ isR, ClauseFr.isReflexive nd.x nd.refl = .ok isR →
      PlaceCond E nd.pre nd.post nd.x nd.f isR (ClauseFr.lastProg none nd.pre)

/-- **`PlaceOK` (at the lists of the fold) for C05's `placePronouns`** -/
theorem placeOKAt_c05 (E : Embedding) (nodes : Nat → Option VPNode) (cats : List (Nat × List Tok))
    (h : ∀ p ∈ cats, NodeOK E nodes p) : PlaceOKAt (placeC05 E nodes) cats := by
  intro p hp hin
  have hn := h p hp
  unfold NodeOK at hn
  unfold placeC05
  cases hnd : nodes p.1 with
  | none => exact hin
  | some nd =>
    rw [hnd] at hn
    obtain ⟨he, h1, h2, h3, h4, h5⟩ := hn
    simp only []
    have hcf := ClauseFr.place_first_verb nd.refl nd.pre nd.post nd.x nd.f h1 h2 h3 h4
    unfold VPNode.toks
    rw [hcf]
    cases hr : ClauseFr.isReflexive nd.x nd.refl with
    | error e => simpa [Except.bind] using hin
    | ok isR =>
      simp only [Except.bind]
      rw [he] at hin
      exact placedAt_inv E nd.pre nd.post nd.x nd.f isR _ hin (h5 isR hr)

end Pyrealb.Elision
