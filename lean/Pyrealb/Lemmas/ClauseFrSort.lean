import Pyrealb.Model.ClauseFrPlace
/-! Sorting and collecting lemmas for the French clitic placement (any list length).

* `sortBy` (the stable sort `pros.sort(key=…)` becomes once its key looks a string up) returns a sorted permutation
  and is the identity on a sorted list;
* `collect` (the scan of `doPronounPlacement` after the verb) pops clitic pronouns only, keeps the input order of
  what it pops and of what it leaves, and loses nothing. -/
namespace Pyrealb.ClauseFr
open Pyrealb

instance exceptDecEq {ε α} [DecidableEq ε] [DecidableEq α] : DecidableEq (Except ε α) := fun a b =>
  match a, b with
  | .ok x, .ok y => if h : x = y then isTrue (by rw [h]) else isFalse (by intro h'; cases h'; exact h rfl)
  | .error x, .error y => if h : x = y then isTrue (by rw [h]) else isFalse (by intro h'; cases h'; exact h rfl)
  | .ok _, .error _ => isFalse (by intro h; cases h)
  | .error _, .ok _ => isFalse (by intro h; cases h)

theorem bindE_ok {α β} (x : Except Crash α) (f : α → Except Crash β) (r : β) (h : (x >>= f) = .ok r) :
    ∃ a, x = .ok a ∧ f a = .ok r := by
  cases x with
  | error e => cases h
  | ok a => exact ⟨a, rfl, h⟩

theorem ite_cases {α} {c : Prop} [Decidable c] {x y z : α} (h : (if c then x else y) = z) :
    (c ∧ x = z) ∨ (¬ c ∧ y = z) := by
  by_cases hc : c
  · exact Or.inl ⟨hc, by rwa [if_pos hc] at h⟩
  · exact Or.inr ⟨hc, by rwa [if_neg hc] at h⟩

/-- non-decreasing for the key `k` -/
def SortedBy {α} (k : α → Nat) (l : List α) : Prop := l.Pairwise (fun a b => k a ≤ k b)

instance {α} (k : α → Nat) (l : List α) : Decidable (SortedBy k l) := by
  unfold SortedBy; infer_instance

theorem insertBy_perm {α} (k : α → Nat) (x : α) (l : List α) : (insertBy k x l).Perm (x :: l) := by
  induction l with
  | nil => simp [insertBy]
  | cons a r ih =>
    unfold insertBy
    split
    · exact List.Perm.refl _
    · exact (List.Perm.cons a ih).trans (List.Perm.swap x a r)

theorem sortBy_perm {α} (k : α → Nat) (l : List α) : (sortBy k l).Perm l := by
  induction l with
  | nil => simp [sortBy]
  | cons a r ih =>
    unfold sortBy
    exact (insertBy_perm k a (sortBy k r)).trans (List.Perm.cons a ih)

theorem insertBy_sorted {α} (k : α → Nat) (x : α) (l : List α) (h : SortedBy k l) : SortedBy k (insertBy k x l) := by
  induction l with
  | nil => simp [insertBy, SortedBy]
  | cons a r ih =>
    unfold insertBy
    have ha : ∀ b ∈ r, k a ≤ k b := (List.pairwise_cons.mp h).1
    have hr : SortedBy k r := (List.pairwise_cons.mp h).2
    split
    · rename_i hxa
      refine List.pairwise_cons.mpr ⟨?_, h⟩
      intro b hb
      rcases List.mem_cons.mp hb with rfl | hb
      · exact hxa
      · exact Nat.le_trans hxa (ha b hb)
    · rename_i hxa
      refine List.pairwise_cons.mpr ⟨?_, ih hr⟩
      intro b hb
      have hb' : b ∈ x :: r := (insertBy_perm k x r).subset hb
      rcases List.mem_cons.mp hb' with rfl | hb'
      · omega
      · exact ha b hb'

/-- **sort lemma**: the stable insertion sort returns a list sorted by the key, for any input in any order -/
theorem sortBy_sorted {α} (k : α → Nat) (l : List α) : SortedBy k (sortBy k l) := by
  induction l with
  | nil => simp [sortBy, SortedBy]
  | cons a r ih => unfold sortBy; exact insertBy_sorted k a _ ih

theorem insertBy_of_le {α} (k : α → Nat) (x : α) (l : List α) (h : ∀ b ∈ l, k x ≤ k b) : insertBy k x l = x :: l := by
  cases l with
  | nil => rfl
  | cons a r => simp [insertBy, h a (List.mem_cons_self)]

/-- a stable sort leaves a sorted list alone -/
theorem sortBy_of_sorted {α} (k : α → Nat) (l : List α) (h : SortedBy k l) : sortBy k l = l := by
  induction l with
  | nil => rfl
  | cons a r ih =>
    have ha : ∀ b ∈ r, k a ≤ k b := (List.pairwise_cons.mp h).1
    have hr : SortedBy k r := (List.pairwise_cons.mp h).2
    unfold sortBy
    rw [ih hr]
    exact insertBy_of_le k a r ha

/-! ### `collect` -/

/-- a pronoun that `doPronounPlacement` pops and puts back next to the verb -/
def Tok.isClitic : Tok → Bool
  | .pro x f => isCliticPro x f
  | _ => false

theorem collect_fst_clitic (l : List Tok) : ∀ c ∈ (collect l).1, c.isClitic = true := by
  fun_induction collect l <;> simp_all +zetaDelta [Tok.isClitic]

theorem collect_fst_sublist (l : List Tok) : (collect l).1.Sublist l := by
  fun_induction collect l <;> simp_all +zetaDelta
  all_goals first
    | exact List.Sublist.cons _ (by assumption)
    | exact List.Sublist.cons _ (List.Sublist.cons _ (by assumption))

theorem collect_snd_sublist (l : List Tok) : (collect l).2.Sublist l := by
  fun_induction collect l <;> simp_all +zetaDelta
  all_goals first
    | exact List.Sublist.cons _ (by assumption)

theorem collect_perm (l : List Tok) : ((collect l).1 ++ (collect l).2).Perm l := by
  fun_induction collect l <;> simp_all +zetaDelta
  all_goals first
    | exact (List.perm_middle).trans (List.Perm.cons _ (by assumption))
    | exact ((List.perm_middle).trans (List.Perm.cons _ ((List.perm_middle).trans (List.Perm.cons _ (by assumption)))))

end Pyrealb.ClauseFr
