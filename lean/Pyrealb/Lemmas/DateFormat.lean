import Pyrealb.Model.DateTables
import Pyrealb.Lemmas.DateDec
import Pyrealb.Lemmas.DateCal
/-! When does `dateFormat` return?  Generic reduction of "no exception" to decidable facts about the tables. -/
namespace Pyrealb.Date

instance {p : Lang → Prop} [DecidablePred p] : Decidable (∀ l, p l) :=
  decidable_of_iff (p .en ∧ p .fr) ⟨fun h l => by cases l; exact h.1; exact h.2, fun h => ⟨h _, h _⟩⟩

def isOk {α} : Except Crash α → Bool
  | .ok _ => true
  | .error _ => false

theorem isOk_iff {α} (x : Except Crash α) : isOk x = true ↔ ∃ v, x = .ok v := by
  cases x <;> simp [isOk]

theorem ok_of_toOption {α} {e : Except Crash α} {o : Option α} (h : e.toOption = o) (hs : o.isSome = true) :
    ∃ x, e = .ok x ∧ o = some x := by
  cases e with
  | error c => subst h; cases hs
  | ok x => exact ⟨x, rfl, h.symm⟩

/-- seven weekday names, a name for each month number, two meridiem words if there are any -/
def WFText (r : DateRules) : Bool :=
  r.weekday.length == 7 && (List.range 12).all (fun i => (lookup (dec (i + 1)) r.month).isSome)
    && (match r.meridiem with
        | some l => decide (2 ≤ l.length)
        | none => true)

/-- the lambda of a placeholder returns (for a valid date-time): all do, except `[A]` without meridiem words -/
def phOK (r : DateRules) : Ph → Bool
  | .A => r.meridiem.isSome
  | _ => true

theorem getIdx_isOk (l : List Str) (i : Nat) (h : i < l.length) : isOk (getIdx l i) = true := by
  unfold getIdx; rw [List.getElem?_eq_getElem h]; rfl

theorem weekdayIdx_isOk (r : DateRules) (hwf : WFText r = true) (wd : Nat) :
    isOk (getIdx r.weekday ((wd + 1) % 7)) = true := by
  simp only [WFText, Bool.and_eq_true, beq_iff_eq] at hwf
  exact getIdx_isOk _ _ (by rw [hwf.1.1]; exact Nat.mod_lt _ (by decide))

theorem value_isOk (r : DateRules) (hwf : WFText r = true) (dt : DateTime) (hv : dt.valid = true) (p : Ph) :
    isOk (value r dt p) = phOK r p := by
  have hw := hwf
  simp only [WFText, Bool.and_eq_true, beq_iff_eq, List.all_eq_true, List.mem_range] at hw
  simp only [DateTime.valid, Bool.and_eq_true, decide_eq_true_eq] at hv
  obtain ⟨_, _, hm1, hm12, _⟩ := (valid_iff dt.toDate).mp hv.1.1.1
  cases p <;> try rfl
  case F =>
    have := hw.1.2 (dt.month - 1) (Nat.lt_of_lt_of_le (Nat.sub_lt hm1 Nat.one_pos) hm12)
    rw [Nat.sub_add_cancel hm1] at this
    simp only [value, getKey, phOK]
    generalize lookup (dec dt.month) r.month = a at this ⊢
    cases a with
    | none => cases this
    | some v => rfl
  case l => exact weekdayIdx_isOk r hwf _
  case A =>
    simp only [value, phOK]
    cases hm : r.meridiem with
    | none => rfl
    | some l =>
      have h2 := hm ▸ hw.2
      simp only [decide_eq_true_eq] at h2
      exact getIdx_isOk _ _ (by split; exact Nat.lt_of_lt_of_le (by decide) h2; exact h2)

def keysOK (r : DateRules) (ms : List Match) : Bool :=
  ms.all (fun m => match m.key with
    | none => true
    | some k => match lookup k phTable with
      | some p => phOK r p
      | none => false)

theorem render_isOk (r : DateRules) (hwf : WFText r = true) (dt : DateTime) (hv : dt.valid = true)
    (ms : List Match) (res : Str) : isOk (render r dt ms res) = keysOK r ms := by
  induction ms generalizing res with
  | nil => rfl
  | cons m ms ih =>
    obtain ⟨pre, _ | k⟩ := m
    · exact ih _
    · simp only [render, keysOK, List.all_cons, getKey]
      cases lookup k phTable with
      | none => rfl
      | some p =>
        dsimp only
        rw [← value_isOk r hwf dt hv p]
        cases value r dt p with
        | error e => rfl
        | ok v => exact ih _

/-- `interpret(key)` returns: decidable, independent of the instant -/
def cellOK (r : DateRules) (nat det : Bool) (key : Str) : Bool :=
  key == [] || (match selectFmt r nat det key with
                | .ok fmt => keysOK r (matchesOf fmt)
                | .error _ => false)

theorem interpret_isOk (r : DateRules) (hwf : WFText r = true) (dt : DateTime) (hv : dt.valid = true)
    (nat det : Bool) (key : Str) : isOk (interpret r dt nat det key) = cellOK r nat det key := by
  unfold interpret cellOK
  cases key with
  | nil => rfl
  | cons c k =>
    rw [if_neg (List.cons_ne_nil c k)]
    cases selectFmt r nat det (c :: k) with
    | error e => rfl
    | ok fmt => exact render_isOk r hwf dt hv _ _

def RelWF (r : DateRules) : Bool :=
  RelKeysWF r.relative && (lookup ['-'] r.relative).isSome && (lookup ['+'] r.relative).isSome

/-- beyond a week the relative branch is the `-` / `+` template with the number of days put in -/
theorem relativeCore_far (r : DateRules) (hrel : RelWF r = true) (d : Int) (hd : d < -6 ∨ 6 < d) (wd : Nat) :
    (relativeCore r d wd).toOption =
      (lookup (if d < 0 then ['-'] else ['+']) r.relative).map (replaceAll ['[','x',']'] (dec d.natAbs)) := by
  simp only [RelWF, Bool.and_eq_true] at hrel
  unfold relativeCore getKey
  rw [lookup_far _ hrel.1.1 d hd]
  cases lookup (if d < 0 then ['-'] else ['+']) r.relative <;> rfl

theorem relativeCore_isOk (r : DateRules) (hwf : WFText r = true) (hrel : RelWF r = true) (diff : Int) (wd : Nat) :
    isOk (relativeCore r diff wd) = true := by
  simp only [RelWF, Bool.and_eq_true] at hrel
  unfold relativeCore
  cases lookup (pyInt diff) r.relative with
  | some t =>
    have h := weekdayIdx_isOk r hwf wd
    dsimp only
    generalize getIdx r.weekday ((wd + 1) % 7) = a at h ⊢
    cases a with
    | error e => cases h
    | ok w => rfl
  | none =>
    have h : (lookup (if diff < 0 then ['-'] else ['+']) r.relative).isSome = true := by
      split
      · exact hrel.1.2
      · exact hrel.2
    dsimp only [getKey]
    generalize lookup (if diff < 0 then ['-'] else ['+']) r.relative = a at h ⊢
    cases a with
    | none => cases h
    | some t => rfl

theorem dateFormat_isOk (r : DateRules) (hwf : WFText r = true) (hrel : RelWF r = true) (dt : DateTime)
    (hv : dt.valid = true) (o : DOpts) (ref : Option Date) :
    isOk (dateFormat r dt o ref) =
      ((match ref with
        | some _ => true
        | none => cellOK r o.nat o.det (dateKey o)) && cellOK r o.nat o.det (timeKey dt o)) := by
  unfold dateFormat
  rw [← interpret_isOk r hwf dt hv o.nat o.det (timeKey dt o)]
  cases ref with
  | some rd =>
    have h := relativeCore_isOk r hwf hrel ((toordinal dt.toDate : Int) - toordinal rd) (weekday dt.toDate)
    dsimp only [relative]
    generalize relativeCore r _ _ = a at h ⊢
    cases a with
    | error e => cases h
    | ok x => cases interpret r dt o.nat o.det (timeKey dt o) <;> rfl
  | none =>
    rw [← interpret_isOk r hwf dt hv o.nat o.det (dateKey o)]
    cases interpret r dt o.nat o.det (dateKey o) <;> cases interpret r dt o.nat o.det (timeKey dt o) <;> rfl

/-- `timeFields` after the natural-time simplification, as a function of finitely many classes -/
def timeKeyC (nat H Mi S mz sz h0 h12 : Bool) : Str :=
  let tf := joinSel ':' [(kHour, H), (kMinute, Mi), (kSecond, S)]
  if nat then
    if tf = kHMS then
      if mz ∧ sz then
        if h0 then k0h else if h12 then k12h else kHour
      else if sz then kHM else tf
    else if tf = kHM then
      if mz then kHour else tf
    else tf
  else tf

theorem timeKey_eq (dt : DateTime) (o : DOpts) :
    timeKey dt o = timeKeyC o.nat o.hour o.minute o.second (dt.minute == 0) (dt.second == 0) (dt.hour == 0) (dt.hour == 12) := by
  unfold timeKey timeKeyC timeKey0
  simp only [beq_iff_eq]

end Pyrealb.Date
