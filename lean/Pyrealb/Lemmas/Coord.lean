import Pyrealb.Model.CoordSpec
namespace Pyrealb.Coord
open Pyrealb Pyrealb.Gen.CoordConsts

def Clean (l : List Str) : Prop := ∀ x ∈ l, x ≠ []

instance (l : List Str) : Decidable (Clean l) := by unfold Clean; infer_instance

theorem clean_append {a b : List Str} (ha : Clean a) (hb : Clean b) : Clean (a ++ b) := by
  intro x hx
  exact (List.mem_append.mp hx).elim (ha x) (hb x)

theorem filter_clean {l : List Str} (h : Clean l) : l.filter (fun t => decide (t ≠ [])) = l :=
  List.filter_eq_self.mpr (by intro x hx; simpa using h x hx)

theorem removeEmpty_clean {l : List Str} (h : Clean l) : removeEmpty l = l := by
  unfold removeEmpty
  simp only [filter_clean h]
  cases l <;> simp

theorem removeEmpty_mid (A E B : List Str) (hA : Clean A) (hB : Clean B) (hne : B ≠ []) :
    removeEmpty (A ++ E ++ B) = A ++ E.filter (fun t => t ≠ []) ++ B := by
  unfold removeEmpty
  simp only [List.filter_append, filter_clean hA, filter_clean hB]
  simp [hne]

theorem appendLast_concat (l : List Str) (t x : Str) : appendLast (l ++ [t]) x = l ++ [t ++ x] := by
  induction l with
  | nil => rfl
  | cons a r ih => cases r <;> simp_all [appendLast]

theorem appendLast_nil (l : List Str) : appendLast l [] = l := by
  rcases l.eq_nil_or_concat with rfl | ⟨l', t, rfl⟩
  · rfl
  · simp [appendLast_concat]

theorem appendLast_append (l : List Str) (x y : Str) : appendLast (appendLast l x) y = appendLast l (x ++ y) := by
  rcases l.eq_nil_or_concat with rfl | ⟨l', t, rfl⟩
  · rfl
  · simp [appendLast_concat]

theorem appendLast_ne_nil {l : List Str} (x : Str) (h : l ≠ []) : appendLast l x ≠ [] := by
  rcases l.eq_nil_or_concat with rfl | ⟨l', t, rfl⟩
  · exact absurd rfl h
  · simp [appendLast_concat]

theorem clean_appendLast {l : List Str} (x : Str) (h : Clean l) : Clean (appendLast l x) := by
  rcases l.eq_nil_or_concat with rfl | ⟨l', t, rfl⟩
  · exact h
  · rw [List.concat_eq_append, appendLast_concat]
    refine clean_append (fun y hy => h y (by simp [hy])) ?_
    intro y hy
    have := h t (by simp)
    cases t <;> simp_all

theorem afterOf_comma (pt : Str → Str) : afterOf pt (some [comma]) = pt comma := by
  simp [afterOf]

theorem alone_of_none (pt : Str → Str) (m : Member) (h : m.a = none) : alone pt m = m.toks := by
  simp [alone, realWith, h, afterOf, appendLast_nil]

theorem gnpLoop_cons (c : List Str) (acc : Acc) (m : Member) (ms : List Member) :
    gnpLoop c acc (m :: ms) = (match gnpStep c acc m with | .error e => .error e | .ok a => gnpLoop c a ms) := rfl

theorem gnpStep_spec {c : List Str} {acc a : Acc} {m : Member} (hm : m.kind ∈ c) (hs : gnpStep c acc m = .ok a) :
    a.nb = acc.nb + 1 ∧
    (a.n = some plural ↔ acc.n = some plural ∨ m.n = some plural) ∧
    (a.g = some masc ↔ acc.g = some masc ∨ m.g = some masc) ∧
    a.pe ≤ acc.pe ∧ (∀ k, m.peN = some k → a.pe ≤ k) ∧ (a.pe = acc.pe ∨ m.peN = some a.pe) := by
  unfold gnpStep at hs
  simp only [hm, if_true] at hs
  have hg : ((if m.g = some masc then some masc else if acc.g = none ∧ m.g ≠ none then m.g else acc.g) = some masc ↔
      acc.g = some masc ∨ m.g = some masc) := by
    by_cases hmg : m.g = some masc <;> by_cases hag : acc.g = none <;> simp [hmg, hag]
  have hn : ((if m.n = some plural then some plural else acc.n) = some plural ↔
      acc.n = some plural ∨ m.n = some plural) := by
    by_cases hmn : m.n = some plural <;> simp [hmn]
  cases hpe : m.pe with
  | none =>
    rw [hpe] at hs
    cases hs
    exact ⟨rfl, hn, hg, Nat.le_refl _, by simp [Member.peN, hpe], Or.inl rfl⟩
  | some v =>
    rw [hpe] at hs
    cases hv : v.nat? with
    | none => simp [hv] at hs
    | some k =>
      simp only [hv, Except.ok.injEq] at hs
      subst hs
      have hpn : m.peN = some k := by simp [Member.peN, hpe, hv]
      refine ⟨rfl, hn, hg, ?_⟩
      simp only [hpn, Option.some.injEq, forall_eq']
      split <;> omega

theorem gnpLoop_spec (c : List Str) (ms : List Member) (hk : ∀ m ∈ ms, m.kind ∈ c) :
    ∀ (acc acc' : Acc), gnpLoop c acc ms = .ok acc' →
      acc'.nb = acc.nb + ms.length ∧
      (acc'.n = some plural ↔ acc.n = some plural ∨ ∃ m ∈ ms, m.n = some plural) ∧
      (acc'.g = some masc ↔ acc.g = some masc ∨ ∃ m ∈ ms, m.g = some masc) ∧
      (acc'.pe ≤ acc.pe ∧ (∀ m ∈ ms, ∀ k, m.peN = some k → acc'.pe ≤ k) ∧
        (acc'.pe = acc.pe ∨ ∃ m ∈ ms, m.peN = some acc'.pe)) := by
  induction ms with
  | nil =>
    intro acc acc' h
    cases h
    simp
  | cons m ms ih =>
    intro acc acc' h
    rw [gnpLoop_cons] at h
    cases hs : gnpStep c acc m with
    | error e => rw [hs] at h; cases h
    | ok a =>
      rw [hs] at h
      obtain ⟨s1, s2, s3, s4, s5, s6⟩ := gnpStep_spec (hk m (by simp)) hs
      obtain ⟨h1, h2, h3, h4, h5, h6⟩ := ih (fun m' h' => hk m' (by simp [h'])) a acc' h
      refine ⟨by simp only [List.length_cons]; omega, by rw [h2, s2]; simp [or_assoc],
        by rw [h3, s3]; simp [or_assoc], by omega, ?_, ?_⟩
      · intro m' hm' k hk'
        rcases List.mem_cons.mp hm' with rfl | hm'
        · exact Nat.le_trans h4 (s5 k hk')
        · exact h5 m' hm' k hk'
      · rcases h6 with h6 | ⟨m', hm', hp⟩
        · exact s6.elim (fun s6 => Or.inl (h6.trans s6)) (fun s6 => Or.inr ⟨m, by simp, h6 ▸ s6⟩)
        · exact Or.inr ⟨m', by simp [hm'], hp⟩

theorem gnpLoop_ok_of_valid (c : List Str) (ms : List Member) (hp : ValidPe ms) :
    ∀ acc, ∃ acc', gnpLoop c acc ms = .ok acc' := by
  induction ms with
  | nil => intro acc; exact ⟨acc, rfl⟩
  | cons m ms ih =>
    intro acc
    have : ∃ a, gnpStep c acc m = .ok a := by
      unfold gnpStep
      split
      · cases hpe : m.pe with
        | none => exact ⟨_, rfl⟩
        | some v =>
          obtain ⟨k, hk⟩ := hp.parses (m := m) (by simp) hpe
          simp only [hk]
          exact ⟨_, rfl⟩
      · exact ⟨_, rfl⟩
    obtain ⟨a, ha⟩ := this
    rw [gnpLoop_cons, ha]
    exact ih (fun m' h' => hp m' (by simp [h'])) a

theorem gnpLoop_uncounted (c : List Str) : ∀ (ms : List Member) (acc : Acc), (∀ m ∈ ms, m.kind ∉ c) →
    gnpLoop c acc ms = .ok acc
  | [], _, _ => rfl
  | m :: ms, acc, h => by
    have hm : m.kind ∉ c := h m (by simp)
    rw [gnpLoop_cons]
    simp only [gnpStep, hm, if_false]
    exact gnpLoop_uncounted c ms acc (fun x hx => h x (by simp [hx]))

theorem findGNP_uncounted (c : List Str) (b : Bool) (ms : List Member) (h : ∀ m ∈ ms, m.kind ∉ c) :
    findGNP c b ms = .ok { g := none, n := none, pe := 3, nb := 0 } := by
  simp [findGNP, gnpLoop_uncounted c ms {} h]

theorem findGNP_ok (c : List Str) (andComb : Bool) (ms : List Member) (hp : ValidPe ms) :
    ∃ gn, findGNP c andComb ms = .ok gn := by
  obtain ⟨acc, h⟩ := gnpLoop_ok_of_valid c ms hp {}
  exact ⟨_, by rw [findGNP, h]⟩

theorem findGNP_spec (c : List Str) (andComb : Bool) (ms : List Member) (hk : ∀ m ∈ ms, m.kind ∈ c)
    (gn : GNP) (h : findGNP c andComb ms = .ok gn) :
    (gn.n = some plural ↔ SpecPlural andComb ms) ∧ (gn.g = some masc ↔ SpecMasc ms) ∧ IsMinPerson gn.pe ms
      ∧ gn.nb = ms.length := by
  unfold findGNP at h
  cases hl : gnpLoop c {} ms with
  | error e => rw [hl] at h; cases h
  | ok acc =>
    rw [hl] at h
    obtain ⟨h1, h2, h3, h4, h5, h6⟩ := gnpLoop_spec c ms hk {} acc hl
    cases h
    simp only [Nat.zero_add] at h1
    refine ⟨?_, by rw [h3]; simp [SpecMasc], ⟨h4, h5, h6⟩, h1⟩
    unfold SpecPlural
    by_cases hc : acc.nb > 1 ∧ andComb = true
    · simp only [if_pos hc, true_iff]
      exact Or.inl ⟨by omega, hc.2⟩
    · have : ¬ (2 ≤ ms.length ∧ andComb = true) := fun hh => hc ⟨by omega, hh.2⟩
      simp [hc, h2, this]


theorem single_person (m : Member) (hv : ValidPe [m]) :
    ∃ p, (writeSingle m).peN = some p ∧ IsMinPerson p [m] := by
  cases hpe : m.pe with
  | none =>
    refine ⟨3, by simp [writeSingle, Rec.peN, hpe, PeVal.nat?], by simp [IsMinPerson, Member.peN, hpe]⟩
  | some v =>
    obtain ⟨k, hk⟩ := hv.parses (m := m) (by simp) hpe
    have hpn : m.peN = some k := by simp [Member.peN, hpe, hk]
    refine ⟨k, by simp [writeSingle, Rec.peN, hpe, hk], (hv.get (m := m) (by simp) hpn).2, ?_, Or.inr ⟨m, by simp, hpn⟩⟩
    intro m' hm' k' hk'
    rw [List.mem_singleton.mp hm', hpn] at hk'
    cases hk'
    exact Nat.le_refl _

/-- The record `r` that a coordination of `ms` leaves where `r0` was, in either notation, when it resolves its
    members' features (`c`: the types looked at, `b`: joined by and/et). -/
inductive Resolved (c : List Str) (b : Bool) (r0 : Rec) : List Member → Rec → Prop
  | nil : Resolved c b r0 [] r0
  | one (m : Member) : Resolved c b r0 [m] (writeSingle m)
  | many {ms : List Member} {gn : GNP} : 2 ≤ ms.length → findGNP c b ms = .ok gn → Resolved c b r0 ms (writeGNP r0 gn)

section Resolved
variable {c : List Str} {b : Bool} {r0 r : Rec} {ms : List Member}

theorem Resolved.plural (h : Resolved c b r0 ms r) (hk : ∀ m ∈ ms, m.kind ∈ c) (h0 : r0.n ≠ some plural) :
    r.n = some plural ↔ SpecPlural b ms := by
  cases h with
  | nil => simp [SpecPlural, h0]
  | one m => simp [SpecPlural, writeSingle]
  | @many _ gn _ hg =>
    rw [← (findGNP_spec c b ms hk gn hg).1]
    cases hn : gn.n <;> simp [writeGNP, hn, h0]

theorem Resolved.masc (h : Resolved c b r0 ms r) (hk : ∀ m ∈ ms, m.kind ∈ c) (h0 : r0.g ≠ some masc) :
    r.g = some masc ↔ SpecMasc ms := by
  cases h with
  | nil => simp [SpecMasc, h0]
  | one m => simp [SpecMasc, writeSingle]
  | @many _ gn _ hg =>
    rw [← (findGNP_spec c b ms hk gn hg).2.1]
    cases hn : gn.g <;> simp [writeGNP, hn, h0]

theorem Resolved.person (h : Resolved c b r0 ms r) (hk : ∀ m ∈ ms, m.kind ∈ c) (hne : ms ≠ []) (hv : ValidPe ms) :
    ∃ p, r.peN = some p ∧ IsMinPerson p ms := by
  cases h with
  | nil => exact absurd rfl hne
  | one m => exact single_person m hv
  | @many _ gn _ hg => exact ⟨gn.pe, rfl, (findGNP_spec c b ms hk gn hg).2.2.1⟩

end Resolved

theorem propagateFrom_eq (allowed : List Str) : ∀ (kinds : List Str) (i : Nat),
    propagateFrom allowed i kinds = ((kinds.zipIdx i).filter (fun p => legal allowed p.1)).map (·.2)
  | [], _ => rfl
  | k :: ks, i => by
    rw [propagateFrom, propagateFrom_eq allowed ks (i + 1), List.zipIdx_cons, List.filter_cons]
    split <;> rfl

theorem propagateFrom_spec (allowed : List Str) (kinds : List Str) :
    (propagateFrom allowed 0 kinds).Pairwise (· < ·) ∧
      ∀ j, j ∈ propagateFrom allowed 0 kinds ↔ ∃ k, kinds[j]? = some k ∧ legal allowed k = true := by
  rw [propagateFrom_eq]
  constructor
  · have := (List.filter_sublist (p := fun p => legal allowed p.1) (l := kinds.zipIdx 0)).map (·.2)
    rw [List.zipIdx_map_snd] at this
    exact List.Pairwise.sublist this List.pairwise_lt_range'
  · intro j
    simp [List.mem_map, List.mem_filter, List.mk_mem_zipIdx_iff_getElem?]

theorem specFrom_cons (pt : Str → Str) (ctoks : Option (List Str)) (n k : Nat) (m : Member) (ms : List Member) :
    specFrom pt ctoks n k (m :: ms) = pieceAt pt ctoks n k m ++ specFrom pt ctoks n (k + 1) ms := by
  simp [specFrom, List.zipIdx_cons]

theorem realWith_appendComma (pt : Str → Str) (m : Member) : realWith pt m (appendComma m.a) = withComma pt m := by
  unfold withComma
  cases ha : m.a with
  | none => simp [appendComma, alone, realWith, ha, afterOf, appendLast_append]
  | some l =>
    by_cases hc : comma ∈ l
    · simp [appendComma, hc, alone, realWith, ha]
    · simp [appendComma, hc, alone, realWith, ha, afterOf, appendLast_append]

theorem loop_spec (pt : Str → Str) (ctoks : Option (List Str)) :
    ∀ (ms : List Member) (k : Nat), ms ≠ [] →
      loopWith appendComma pt ctoks.isNone ms ++ ctoks.getD [] ++ lastToks pt ms = specFrom pt ctoks (k + ms.length) k ms
  | [], _, h => absurd rfl h
  | [m], k, _ => by simp [loopWith, lastToks, specFrom, pieceAt]
  | m :: m' :: r, k, _ => by
    have ih := loop_spec pt ctoks (m' :: r) (k + 1) (by simp)
    have hn : k + 1 + (m' :: r).length = k + (m :: m' :: r).length := by simp only [List.length_cons]; omega
    rw [hn] at ih
    rw [specFrom_cons, ← ih, lastToks, loopWith]
    have hpiece : realWith pt m (if (ctoks.isNone || !r.isEmpty) = true then appendComma m.a else m.a)
        = pieceAt pt ctoks (k + (m :: m' :: r).length) k m := by
      cases ctoks <;> cases r <;> simp [pieceAt, realWith_appendComma, alone]
    rw [hpiece]
    simp [List.append_assoc]

theorem clean_loopWith (cf : Option (List Str) → Option (List Str)) (pt : Str → Str) (b : Bool) :
    ∀ (ms : List Member), (∀ m ∈ ms, Clean m.toks) → Clean (loopWith cf pt b ms)
  | [], _ => by intro x hx; simp [loopWith] at hx
  | [_], _ => by intro x hx; simp [loopWith] at hx
  | m :: m' :: r, h => by
    unfold loopWith
    exact clean_append (clean_appendLast _ (h m (by simp)))
      (clean_loopWith cf pt b (m' :: r) (fun x hx => h x (by simp [hx])))

theorem lastMember_some : ∀ (ms : List Member), ms ≠ [] → ∃ m, lastMember ms = some m ∧ m ∈ ms ∧ lastToks pt ms = alone pt m
  | [], h => absurd rfl h
  | [m], _ => ⟨m, rfl, by simp, rfl⟩
  | m :: m' :: r, _ => by
    obtain ⟨x, h1, h2, h3⟩ := lastMember_some (pt := pt) (m' :: r) (by simp)
    exact ⟨x, h1, by simp only [List.mem_cons] at h2 ⊢; exact Or.inr h2, h3⟩

theorem depLoop_consistent (pt : Str → Str) (deprel : Str) (b : Bool) :
    ∀ (ms : List Member), (∀ m ∈ ms, m.rel = coordStr ∨ m.rel = deprel ∨ deprel = coordStr) →
      depLoop pt deprel b ms = (loopWith appendComma pt b ms, 0)
  | [], _ => rfl
  | [_], _ => rfl
  | m :: m' :: r, h => by
    have ih := depLoop_consistent pt deprel b (m' :: r) (fun x hx => h x (by simp [hx]))
    unfold depLoop loopWith
    rw [ih]
    have hm := h m (by simp)
    have : ∀ a, depInner pt deprel m a = (realWith pt m a, 0) := by
      intro a
      unfold depInner
      split
      · rfl
      · split
        · next hc hw => exact (hm.resolve_left hc).elim (absurd · hw.1) (absurd · hw.2)
        · rfl
    simp [this]

/-- both notations produce the comma loop, then tokens `E` that, empty strings apart, are the conjunction's (all of
    them empty when there is none), then the last member: the positional specification -/
theorem removeEmpty_loop (pt : Str → Str) (ctoks : Option (List Str)) (E : List Str) (ms : List Member) (hne : ms ≠ [])
    (hcl : ∀ m ∈ ms, Clean m.toks ∧ m.toks ≠ []) (hE : E.filter (fun t => t ≠ []) = ctoks.getD []) :
    removeEmpty (loopWith appendComma pt ctoks.isNone ms ++ E ++ lastToks pt ms) = specToks pt ctoks ms := by
  obtain ⟨lastD, _, hmem, hlast⟩ := lastMember_some (pt := pt) ms hne
  rw [removeEmpty_mid _ _ _ (clean_loopWith appendComma pt ctoks.isNone ms fun m hm => (hcl m hm).1)
    (hlast ▸ clean_appendLast _ (hcl lastD hmem).1) (hlast ▸ appendLast_ne_nil _ (hcl lastD hmem).2), hE]
  have := loop_spec pt ctoks ms 0 hne
  rw [Nat.zero_add] at this
  exact this

theorem afterCoord_pe (o : Out) : (afterCoord o).pe = o.peng.peN.getD 3 := rfl

theorem afterCoord_pl (o : Out) : (afterCoord o).pl = true ↔ o.peng.n = some plural := by
  cases hon : o.peng.n with
  | none => simp [afterCoord, verbView, hon, sing, plural]
  | some x => simp [afterCoord, verbView, hon]

/-- the person and number the verb is conjugated with after a coordination that resolved its members into a record
    whose person was the third or none and whose number was not plural -/
theorem Resolved.verb {c : List Str} {b : Bool} {r0 : Rec} {ms : List Member} {o : Out} (h : Resolved c b r0 ms o.peng)
    (hk : ∀ m ∈ ms, m.kind ∈ c) (hv : ValidPe ms) (h0 : r0.n ≠ some Coord.plural) (h3 : r0.peN.getD 3 = 3) :
    IsMinPerson (afterCoord o).pe ms ∧ ((afterCoord o).pl = true ↔ SpecPlural b ms) := by
  refine ⟨?_, (afterCoord_pl o).trans (h.plural hk h0)⟩
  rw [afterCoord_pe]
  by_cases hne : ms = []
  · subst hne
    generalize o.peng = r at h
    cases h with
    | nil => rw [h3]; exact ⟨Nat.le_refl _, (fun _ hm => nomatch hm), Or.inl rfl⟩
    | many h2 => cases h2
  · obtain ⟨p, hp, hmin⟩ := h.person hk hne hv
    rw [hp]
    exact hmin

end Pyrealb.Coord
