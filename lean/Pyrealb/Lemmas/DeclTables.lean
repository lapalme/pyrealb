import Pyrealb.Model.LemmatizeWF
import Pyrealb.Lemmas.DeclLookup
import Pyrealb.Lemmas.ConjWF
/-! The generated declension tables: distinguishable rows and sound closed-class words (`declTables_en`, `declTables_fr`;
    `distinct_rows_tbl` and `closed_class_tbl` of C18 are read off them).  One evaluation per language:
    the kernel decodes the tables' string literals once per evaluation.  The closed-class words are evaluated with
    their table in front of the rule list (`closedBadAt`): the walk to a table is otherwise repeated for every form. -/
namespace Pyrealb.Lemmatize
open Pyrealb Pyrealb.Decl

theorem expandDeclension_congr {rules rules' : Decl.Rules} (h : ∀ k, lookup k rules = lookup k rules') (lang : Lang)
    (lemma pos : Str) (tab : LV) (entry : PosEntry) :
    expandDeclension lang rules lemma pos tab entry = expandDeclension lang rules' lemma pos tab entry := by
  unfold expandDeclension
  simp only [h]

theorem realizeExp_congr {env : Env} {rules' : Decl.Rules} (h : ∀ k, lookup k env.decl = lookup k rules') (lex : Lex)
    (verb : Option Conj.Verb) (e : Exp) :
    realizeExp env lex verb e = realizeExp { env with decl := rules' } lex verb e := by
  unfold realizeExp realizeV
  simp only [realize_congr h]

def closedBadAt (lang : Lang) (pos : Pos) (name : Str) (tb : Table) : List (Str × Str) :=
  let rules := (name, tb) :: (genEnv lang).decl
  let entry : PosEntry := [("tab".toList, .str name)]
  let lex : Lex := [(tb.ending, [(pos.name, entry)])]
  match expandDeclension lang rules tb.ending pos.name (.str name) entry with
  | .error _ => [(name, [])]
  | .ok l => l.filterMap (fun p =>
      if realizeExp { genEnv lang with decl := rules } lex none p.2 = .ok (p.1, 0) then none else some (name, p.1))

theorem closedBadAll_nil {lang : Lang} (hnd : Conj.distinctCodes ((genEnv lang).decl.map (·.1)) = true)
    (h : (genEnv lang).decl.flatMap (fun p => (closedPos p.1).flatMap (fun pos => closedBadAt lang pos p.1 p.2)) = []) :
    closedBadAll lang = [] := by
  unfold closedBadAll
  rw [List.flatMap_eq_nil_iff] at h ⊢
  intro p hp
  rw [← h p hp]
  congr
  funext pos
  have hk : ∀ k, lookup k (genEnv lang).decl = lookup k ((p.1, p.2) :: (genEnv lang).decl) := by
    intro k
    show _ = if p.1 = k then some p.2 else lookup k (genEnv lang).decl
    by_cases hpk : p.1 = k
    · rw [if_pos hpk, ← hpk]
      exact Conj.lookup_of_mem_nodup hp (Conj.distinctCodes_nodup hnd)
    · rw [if_neg hpk]
  unfold closedBad closedBadAt
  simp only [expandDeclension_congr hk, realizeExp_congr (env := genEnv lang) hk]
  rfl

theorem declTables_en : distinctFailures .en Gen.DeclEn.tables = [] ∧ closedBadAll .en = [] := by
  have h : distinctFailures .en Gen.DeclEn.tables = [] ∧ Conj.distinctCodes ((genEnv .en).decl.map (·.1)) = true ∧
      (genEnv .en).decl.flatMap (fun p => (closedPos p.1).flatMap (fun pos => closedBadAt .en pos p.1 p.2)) = [] := by
    decide +kernel
  exact ⟨h.1, closedBadAll_nil h.2.1 h.2.2⟩

theorem declTables_fr :
    (distinctFailures .fr Gen.DeclFr.tables).map (fun x => (x.1, x.2.1, x.2.2.lexG)) = distinctExceptionsFr ∧
      closedBadAll .fr = [] := by
  have h : (distinctFailures .fr Gen.DeclFr.tables).map (fun x => (x.1, x.2.1, x.2.2.lexG)) = distinctExceptionsFr ∧
      Conj.distinctCodes ((genEnv .fr).decl.map (·.1)) = true ∧
      (genEnv .fr).decl.flatMap (fun p => (closedPos p.1).flatMap (fun pos => closedBadAt .fr pos p.1 p.2)) = [] := by
    decide +kernel
  exact ⟨h.1, closedBadAll_nil h.2.1 h.2.2⟩

end Pyrealb.Lemmatize
