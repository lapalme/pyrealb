import Pyrealb.Lemmas.ClauseEnVG
/-! What the clause level uses of the words of `affixHopping`: one evaluation over the nine verb classes and the 2 × 192
    combinations `Typ.norm` reduces to. -/
namespace Pyrealb.ClauseEn

def VGFacts (v : VLemma) (t : Tense) (ty : Typ) : Prop :=
  (Irregular v t ty = false ↔ vgroup (words v t ty) = specGroup v t ty) ∧
  (Irregular v t ty = false ↔ usesDo (vgroupLF (words v t ty)) = doSupport v t ty) ∧
  usesDo (specLF v t ty) = doSupport v t ty ∧
  firstFiniteOnly t (vgroupLF (words v t ty)) = true ∧
  notPlaced ty.neg (words v t ty) = true ∧
  (words v t ty).all Tok.isWord = true ∧
  words v t ty ≠ [] ∧
  (ty.questioned = true →
    hasV (words v t ty) = true ∧ (2 ≤ (words v t ty).length ∨ headAlone (words v t ty) = true))

instance (v : VLemma) (t : Tense) (ty : Typ) : Decidable (VGFacts v t ty) := by
  unfold VGFacts; infer_instance

theorem vgFacts_fin : ∀ v ∈ VLemma.all, ∀ t ∈ [Tense.p, .ps], ∀ ty ∈ Typ.normFlags, VGFacts v t ty := by
  decide +kernel

theorem vgFacts (v : VLemma) (t : Tense) (ty : Typ) : VGFacts v t ty := by
  have h := vgFacts_fin v (VLemma.mem_all v) t.base t.base_mem (ty.norm t) (ty.norm_mem t)
  unfold VGFacts at h ⊢
  rw [words_norm, specGroup_norm, Irregular_norm, doSupport_norm, questioned_norm, firstFiniteOnly_base] at h
  unfold specLF at h ⊢
  rw [specGroup_norm] at h
  exact h

/-- the verb group is the prescribed one exactly outside the irregular combinations -/
theorem vgroup_words (v : VLemma) (t : Tense) (ty : Typ) :
    Irregular v t ty = false ↔ vgroup (words v t ty) = specGroup v t ty := (vgFacts v t ty).1

theorem usesDo_words (v : VLemma) (t : Tense) (ty : Typ) :
    Irregular v t ty = false ↔ usesDo (vgroupLF (words v t ty)) = doSupport v t ty := (vgFacts v t ty).2.1

theorem usesDo_spec (v : VLemma) (t : Tense) (ty : Typ) : usesDo (specLF v t ty) = doSupport v t ty :=
  (vgFacts v t ty).2.2.1

theorem first_finite_only (v : VLemma) (t : Tense) (ty : Typ) : firstFiniteOnly t (vgroupLF (words v t ty)) = true :=
  (vgFacts v t ty).2.2.2.1

theorem words_notPlaced (v : VLemma) (t : Tense) (ty : Typ) : notPlaced ty.neg (words v t ty) = true :=
  (vgFacts v t ty).2.2.2.2.1

theorem words_all (v : VLemma) (t : Tense) (ty : Typ) : (words v t ty).all Tok.isWord = true :=
  (vgFacts v t ty).2.2.2.2.2.1

theorem words_ne_nil (v : VLemma) (t : Tense) (ty : Typ) : words v t ty ≠ [] := (vgFacts v t ty).2.2.2.2.2.2.1

/-- a questioned clause has a V among its words (`cannot` alone needs a non-questioned clause) -/
theorem words_hasV (v : VLemma) (t : Tense) (ty : Typ) (hq : ty.questioned = true) : hasV (words v t ty) = true :=
  ((vgFacts v t ty).2.2.2.2.2.2.2 hq).1

/-- a questioned clause has an auxiliary in front of its verb, or its verb is a lone `be`/`have` -/
theorem dep_front_cond (v : VLemma) (t : Tense) (ty : Typ) (hq : ty.questioned = true) :
    2 ≤ (words v t ty).length ∨ headAlone (words v t ty) = true := ((vgFacts v t ty).2.2.2.2.2.2.2 hq).2

end Pyrealb.ClauseEn
