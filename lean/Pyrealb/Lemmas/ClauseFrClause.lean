import Pyrealb.Lemmas.ClauseFrNesting
import Pyrealb.Lemmas.ClauseFrFinite
/-! From what `processTyp` leaves to the list handed to `doPronounPlacement` (constituent notation): the FIRST verb of
    the VP carries `neg2` (and `lier`), every other verb is an infinitive or a participle without negation — through
    `pronominalize` and the conjugation. -/
namespace Pyrealb.ClauseFr
open Pyrealb
open Pyrealb.Gen.ClauseFr

/-- what the rest of the pipeline reads of a verb element; `pronominalize` only touches `cod` -/
def esig : El → Option (Option Str × Bool × Tense × Bool × Bool)
  | .v x => some (x.neg2, x.lier, x.t, x.isMod, x.isProg)
  | _ => none

theorem set_esig (l : List El) (j : Nat) (e e' : El) (h : l[j]? = some e) (hs : esig e' = esig e) :
    (l.set j e').map esig = l.map esig := by
  induction l generalizing j with
  | nil => rfl
  | cons a r ih =>
    cases j with
    | zero => simp only [List.getElem?_cons_zero, Option.some.injEq] at h; subst h; simp [hs]
    | succ k => simp only [List.getElem?_cons_succ] at h; simp [ih k h]

theorem pronominalizeVP_go_esig (fuel i : Nat) (l : List El) :
    (pronominalizeVP.go fuel i l).map esig = l.map esig := by
  induction fuel generalizing i l with
  | zero => rfl
  | succ f ih =>
    unfold pronominalizeVP.go
    cases hi : l[i]? with
    | none => rfl
    | some e =>
      cases e with
      | np a =>
        simp only
        split
        · split
          · rename_i idxV _
            rw [ih]
            have h1 : (l.set i (El.pro (tonicProOf a.g a.n Cas.acc))).map esig = l.map esig :=
              set_esig l i _ _ hi rfl
            split
            · rename_i x hx
              exact (set_esig _ idxV (El.v x) (El.v { x with cod := some (a.g, a.n) }) hx rfl).trans h1
            · exact h1
          · rw [ih]; exact set_esig l i _ _ hi rfl
        · exact ih _ _
      | pp prep inner flag =>
        cases flag with
        | false => simp only; exact ih _ _
        | true =>
          simp only
          rw [ih]
          apply set_esig l i _ _ hi
          split <;> (try split) <;> (try split) <;> (try rfl) <;> (cases inner <;> rfl)
      | _ => simp only; exact ih _ _

theorem pronominalizeVP_esig (l : List El) : (pronominalizeVP l).map esig = l.map esig :=
  pronominalizeVP_go_esig _ _ l

theorem tailOk_of_esig (e e' : El) (h : esig e' = esig e) (ht : TailOk e) : TailOk e' := by
  cases e' with
  | v y' =>
    cases e with
    | v y =>
      simp only [esig, Option.some.injEq, Prod.mk.injEq] at h
      obtain ⟨h1, h2, h3, _⟩ := h
      exact ⟨h1 ▸ ht.1, h2 ▸ ht.2.1, h3 ▸ ht.2.2⟩
    | _ => cases h
  | _ => trivial

/-- `VPI` only looks at `esig` -/
theorem vpi_of_esig (w : Option Str) (b : Bool) (l l' : List El) (h : l'.map esig = l.map esig) (hc : VPI w b l) :
    VPI w b l' := by
  obtain ⟨x, r, rfl, hn, hl, hr⟩ := hc
  cases l' with
  | nil => cases h
  | cons e' r' =>
    obtain ⟨h0, hrest⟩ := List.cons.inj h
    cases e' with
    | v x' =>
      simp only [esig, Option.some.injEq, Prod.mk.injEq] at h0
      refine ⟨x', r', rfl, h0.1 ▸ hn, h0.2.1 ▸ hl, ?_⟩
      intro e he
      obtain ⟨k, hk⟩ := List.getElem?_of_mem he
      have hk2 : (r.map esig)[k]? = some (esig e) := by rw [← hrest]; simp [hk]
      simp only [List.getElem?_map, Option.map_eq_some_iff] at hk2
      obtain ⟨e0, he0, hsig⟩ := hk2
      exact tailOk_of_esig e0 e hsig.symm (hr e0 (List.mem_of_getElem? he0))
    | _ => cases h0

/-- a token behind the first one: a verb carries neither a negation nor a hyphen -/
def TokTailOk : Tok → Prop
  | .v y _ => y.neg2 = none ∧ y.lier = false
  | _ => True

/-- tokens behind the first verb token: no negation, no hyphen, no finite form -/
def CleanToks (ts : List Tok) : Prop := (∀ t ∈ ts, TokTailOk t) ∧ ∀ y ∈ vts ts, NonFin y

theorem tokTailOk_of_noV (t : Tok) (h : t.isV = false) : TokTailOk t := by
  cases t with
  | v y f => cases h
  | _ => trivial

theorem cleanToks_of_noV (ts : List Tok) (h : ∀ t ∈ ts, t.isV = false) : CleanToks ts :=
  ⟨fun t ht => tokTailOk_of_noV t (h t ht), by rw [vts_nil_of_noV ts h]; exact fun _ hy => nomatch hy⟩

theorem cleanToks_append (a b : List Tok) (ha : CleanToks a) (hb : CleanToks b) : CleanToks (a ++ b) :=
  ⟨List.forall_mem_append.mpr ⟨ha.1, hb.1⟩, by rw [vts_append]; exact List.forall_mem_append.mpr ⟨ha.2, hb.2⟩⟩

/-- what the first token `y` of the conjugated verb `x` takes over: negation and hyphen; it is a modality /
    progressive flag carrier, or essentially reflexive, only if `x` is -/
def HeadOf (refl : Bool) (x y : VT) : Prop :=
  y.neg2 = x.neg2 ∧ y.lier = x.lier ∧ (y.isMod = true → x.isMod = true) ∧ (y.isProg = true → x.isProg = true) ∧
    (y.pat = some [reflStr] → isReflexive x refl = .ok true)

theorem conj_first (x : VT) (refl : Bool) (np : Option Tok) (r : List Tok × Bool)
    (hnp : ∀ p, np = some p → p.isV = false) (h : conjugate x refl np = .ok r) :
    ∃ hd tl, r.1 = hd :: tl ∧ (∀ t ∈ tl, TokTailOk t) ∧ ∀ y f, hd = .v y f → HeadOf refl x y := by
  have hself : HeadOf refl x x := ⟨rfl, rfl, id, id, fun hp => by rw [isReflexive, if_pos hp]⟩
  rcases conjugate_cases x refl np r h with rfl | ⟨hta, cr, rfl⟩ | ⟨ta, aux, ra, form, hta, rfl, _, ham, hap, hpat⟩
  · exact ⟨_, [], rfl, (fun _ ht => nomatch ht), (fun _ _ hq => nomatch hq)⟩
  · refine ⟨_, [], rfl, (fun _ ht => nomatch ht), fun y f hq => ?_⟩
    cases cr with
    | form g => cases hq; exact hself
    | morpho => cases hq
  · have hhead : ∀ y f, tokOfConj { aux with neg2 := x.neg2, lier := x.lier } ra = .v y f → HeadOf refl x y := by
      intro y f hq
      cases ra with
      | form g => cases hq; exact ⟨rfl, rfl, (fun hc => nomatch ham.symm.trans hc), (fun hc => nomatch hap.symm.trans hc), hpat⟩
      | morpho => cases hq
    have hone : ∀ t ∈ [Tok.v { x with neg2 := none, lier := false } form], TokTailOk t :=
      List.forall_mem_singleton.mpr ⟨rfl, rfl⟩
    unfold compoundToks
    by_cases hl : x.lier = true
    · cases np with
      | some p =>
        rw [if_pos hl]
        exact ⟨_, [p, _], rfl, List.forall_mem_cons.mpr ⟨tokTailOk_of_noV _ (hnp _ rfl), hone⟩, hhead⟩
      | none => rw [if_pos hl]; exact ⟨_, [_], rfl, hone, hhead⟩
    · rw [if_neg hl]; exact ⟨_, [_], rfl, hone, hhead⟩

theorem conj_clean (x : VT) (refl : Bool) (np : Option Tok) (r : List Tok × Bool)
    (hnp : ∀ p, np = some p → p.isV = false) (hx : TailOk (.v x)) (h : conjugate x refl np = .ok r) :
    CleanToks r.1 ∧ r.2 = false := by
  obtain ⟨hn, hl, ht⟩ := hx
  refine ⟨⟨?_, (conj_vts x refl np r hnp h).2 ht⟩, ?_⟩
  · obtain ⟨hd, tl, hr, htl, hhd⟩ := conj_first x refl np r hnp h
    intro t ht'
    rw [hr] at ht'
    rcases List.mem_cons.mp ht' with rfl | ht'
    · cases t with
      | v y f => obtain ⟨h1, h2, _⟩ := hhd y f rfl; exact ⟨h1.trans hn, h2.trans hl⟩
      | _ => trivial
    · exact htl t ht'
  · rcases conjugate_cases x refl np r h with rfl | ⟨_, cr, rfl⟩ | ⟨ta, aux, ra, form, _, rfl, _⟩
    · rfl
    · rfl
    · simp [compoundToks, hl]

theorem elToks_noV (e : El) : ∀ t ∈ e.toks, t.isV = false := by
  have : e.toks.all (fun t => !t.isV) = true := by
    cases e with
    | pp prep inner flag => cases inner <;> rfl
    | _ => rfl
  simpa using this

/-- one step of `realVPToks` at a verb: it is conjugated (with the pronoun that follows it, if any, at hand); the
    pronoun is skipped when the compound branch of a `lier` verb has consumed it -/
theorem realVPToks_step (refl : Bool) (x : VT) (tail : List El) (ts : List Tok)
    (h : realVPToks refl (.v x :: tail) = .ok ts) :
    ∃ np r more, conjugate x refl np = .ok r ∧ (∀ p, np = some p → p.isV = false) ∧ ts = r.1 ++ more ∧
      ((r.2 = false ∧ realVPToks refl tail = .ok more) ∨
       ∃ p rest, r.2 = true ∧ tail = .pro p :: rest ∧ realVPToks refl rest = .ok more) := by
  have hplain : (do let r ← conjugate x refl none; let more ← realVPToks refl tail; pure (r.1 ++ more)) = .ok ts →
      ∃ np r more, conjugate x refl np = .ok r ∧ (∀ p, np = some p → p.isV = false) ∧ ts = r.1 ++ more ∧
        ((r.2 = false ∧ realVPToks refl tail = .ok more) ∨
         ∃ p rest, r.2 = true ∧ tail = .pro p :: rest ∧ realVPToks refl rest = .ok more) := by
    intro h
    obtain ⟨r, hr, h⟩ := bindE_ok _ _ _ h
    obtain ⟨more, hm, h⟩ := bindE_ok _ _ _ h
    cases h
    exact ⟨none, r, more, hr, (fun _ hp => nomatch hp), rfl, Or.inl ⟨conjugate_none_snd _ _ _ hr, hm⟩⟩
  cases tail with
  | nil => exact hplain h
  | cons e rest =>
    cases e with
    | pro p =>
      rw [realVPToks] at h
      obtain ⟨r, hr, h⟩ := bindE_ok _ _ _ h
      have hnp : ∀ q, some (proTok p) = some q → q.isV = false := fun q hq => by cases hq; rfl
      cases hr2 : r.2 with
      | true =>
        rw [hr2, if_pos rfl] at h
        obtain ⟨more, hm, h⟩ := bindE_ok _ _ _ h
        cases h
        exact ⟨_, r, more, hr, hnp, rfl, Or.inr ⟨p, rest, hr2, rfl, hm⟩⟩
      | false =>
        rw [hr2, if_neg (by simp)] at h
        obtain ⟨more, hm, h⟩ := bindE_ok _ _ _ h
        cases h
        exact ⟨_, r, more, hr, hnp, rfl, Or.inl ⟨hr2, hm⟩⟩
    | _ => exact hplain h

theorem realVPToks_clean (refl : Bool) (l : List El) (ts : List Tok) (hl : ∀ e ∈ l, TailOk e)
    (h : realVPToks refl l = .ok ts) : CleanToks ts := by
  induction l generalizing ts with
  | nil => cases h; exact cleanToks_of_noV [] (fun _ ht => nomatch ht)
  | cons e tail ih =>
    have htail : ∀ e' ∈ tail, TailOk e' := fun e' he' => hl e' (List.mem_cons_of_mem _ he')
    by_cases hv : e.isV = true
    · cases e with
      | v x =>
        obtain ⟨np, r, more, hr, hnp, rfl, hm⟩ := realVPToks_step refl x tail ts h
        obtain ⟨hc, hr2⟩ := conj_clean x refl np r hnp (hl _ List.mem_cons_self) hr
        rcases hm with ⟨_, hm⟩ | ⟨p, rest, ht, _⟩
        · exact cleanToks_append _ _ hc (ih more htail hm)
        · rw [hr2] at ht; cases ht
      | _ => cases hv
    · have hv' : e.isV = false := by simpa using hv
      rw [realVPToks_nonV refl e tail hv'] at h
      obtain ⟨more, hm, h⟩ := bindE_ok _ _ _ h
      cases h
      exact cleanToks_append _ _ (cleanToks_of_noV _ (elToks_noV e)) (ih more htail hm)

/-- **the pieces of a realized VP**: the conjugated first verb, then clean tokens -/
theorem realVPToks_parts (refl : Bool) (x : VT) (r : List El) (raw : List Tok) (hr : ∀ e ∈ r, TailOk e)
    (h : realVPToks refl (.v x :: r) = .ok raw) :
    ∃ np rv more, conjugate x refl np = .ok rv ∧ (∀ p, np = some p → p.isV = false) ∧ raw = rv.1 ++ more ∧
      CleanToks more := by
  obtain ⟨np, rv, more, hc, hnp, rfl, hm⟩ := realVPToks_step refl x r raw h
  refine ⟨np, rv, more, hc, hnp, rfl, ?_⟩
  rcases hm with ⟨_, hm⟩ | ⟨p, rest, _, rfl, hm⟩
  · exact realVPToks_clean refl r more hr hm
  · exact realVPToks_clean refl rest more (fun e he => hr e (List.mem_cons_of_mem _ he)) hm

theorem parts_one_finite (x : VT) (refl : Bool) (np : Option Tok) (rv : List Tok × Bool) (pre more : List Tok)
    (hc : conjugate x refl np = .ok rv) (hnp : ∀ p, np = some p → p.isV = false) (hpre : ∀ t ∈ pre, t.isV = false)
    (hmore : CleanToks more) : ∀ t ∈ (vts (pre ++ rv.1 ++ more)).tail, NonFin t := by
  intro t ht
  rw [vts_append, vts_append, vts_nil_of_noV pre hpre, List.nil_append] at ht
  rcases mem_tail_append _ _ t ht with ht | ht
  · exact (conj_vts x refl np rv hnp hc).1 t ht
  · exact hmore.2 t ht

theorem removeEmptyAux_filter (k : Nat) (l : List Tok) (h : 0 < k ∨ ∃ t ∈ l, t.form.isEmpty = false) :
    removeEmptyAux k l = l.filter (fun t => !t.form.isEmpty) := by
  induction l generalizing k with
  | nil => rfl
  | cons a r ih =>
    unfold removeEmptyAux
    cases ha : a.form.isEmpty with
    | true =>
      have hr : 0 < k ∨ ∃ t ∈ r, t.form.isEmpty = false := by
        rcases h with h | ⟨t, ht, hte⟩
        · exact Or.inl h
        · rcases List.mem_cons.mp ht with rfl | ht
          · rw [ha] at hte; cases hte
          · exact Or.inr ⟨t, ht, hte⟩
      have hcond : k + r.length + 1 > 1 := by
        rcases hr with h | ⟨t, ht, _⟩
        · omega
        · have := List.length_pos_of_mem ht; omega
      simp [hcond, ha, ih k hr]
    | false =>
      simp [ha, ih (k + 1) (Or.inl (Nat.succ_pos k))]

theorem removeEmpty_filter (l : List Tok) (h : ∃ t ∈ l, t.form.isEmpty = false) :
    removeEmpty l = l.filter (fun t => !t.form.isEmpty) :=
  removeEmptyAux_filter 0 l (Or.inr h)

/-- what `removeEmpty` leaves of `verb-free tokens ++ a conjugated verb ++ clean tokens` when the verb inflects to a
    non-empty form `f` -/
theorem parts_removeEmpty (x : VT) (refl : Bool) (np : Option Tok) (rv : List Tok × Bool) (pre more tl0 : List Tok)
    (y : VT) (f : Str) (hc : conjugate x refl np = .ok rv) (hnp : ∀ p, np = some p → p.isV = false)
    (hpre : ∀ t ∈ pre, t.isV = false) (hmore : CleanToks more) (hrv : rv.1 = .v y f :: tl0) (hf : f ≠ []) :
    ∃ pre' tl, removeEmpty (pre ++ rv.1 ++ more) = pre' ++ .v y f :: tl ∧ (∀ t ∈ pre', t.isV = false) ∧
      (∀ t ∈ tl, TokTailOk t) ∧ HeadOf refl x y := by
  obtain ⟨hd, tl1, hr, htl, hhd⟩ := conj_first x refl np rv hnp hc
  rw [hrv] at hr
  obtain ⟨rfl, rfl⟩ := List.cons.inj hr
  have hfe : (Tok.v y f).form.isEmpty = false := by simpa [Tok.form] using hf
  refine ⟨pre.filter (fun t => !t.form.isEmpty), (tl0 ++ more).filter (fun t => !t.form.isEmpty), ?_,
    fun t ht => hpre t (List.mem_filter.mp ht).1,
    fun t ht => List.forall_mem_append.mpr ⟨htl, hmore.1⟩ t (List.mem_filter.mp ht).1, hhd y f rfl⟩
  rw [hrv, removeEmpty_filter _ ⟨.v y f, by simp, hfe⟩]
  simp [List.filter_append, hfe]

theorem flatMap_selToks (pre : List El) (placed : List Tok) (hpre : ∀ e ∈ pre, e.isVP = false) :
    (pre ++ [El.vp]).flatMap (selToks placed) = pre.flatMap El.toks ++ placed := by
  induction pre with
  | nil => simp [selToks]
  | cons a r ih =>
    have ha := hpre a List.mem_cons_self
    have hr := ih (fun e he => hpre e (List.mem_cons_of_mem _ he))
    simp only [List.cons_append, List.flatMap_cons, hr, List.append_assoc]
    cases a <;> simp_all [selToks, El.isVP]

/-- **the pieces `phraseReal` puts together**: the VP is the conjugated first verb followed by clean tokens; the
    verb-free tokens of the S come in front of what the placement returns -/
theorem phraseReal_parts (refl : Bool) (sel vp : List El) (toks : List Tok) (w : Option Str) (b : Bool)
    (hsel : SelShape sel) (hvp : VPI w b vp) (h : phraseReal refl sel vp = .ok toks) :
    ∃ x np rv more pre placed, conjugate x refl np = .ok rv ∧ (∀ p, np = some p → p.isV = false) ∧ x.neg2 = w ∧
      x.lier = b ∧ CleanToks more ∧ (∀ t ∈ pre, t.isV = false) ∧
      realVPToks refl (pronominalizeVP vp) = .ok (rv.1 ++ more) ∧
      placePronouns refl (removeEmpty (rv.1 ++ more)) = .ok placed ∧ toks = removeEmpty (pre ++ placed) := by
  unfold phraseReal at h
  obtain ⟨raw, hraw, h⟩ := bindE_ok _ _ _ h
  obtain ⟨placed, hplaced, h⟩ := bindE_ok _ _ _ h
  cases h
  obtain ⟨x, r, hvpe, hn, hl, hr⟩ := vpi_of_esig _ _ vp (pronominalizeVP vp) (pronominalizeVP_esig vp) hvp
  rw [hvpe] at hraw
  obtain ⟨np, rv, more, hc, hnp, rfl, hmore⟩ := realVPToks_parts refl x r raw hr hraw
  obtain ⟨pre, rfl, hpre⟩ := hsel
  refine ⟨x, np, rv, more, pre.flatMap El.toks, placed, hc, hnp, hn, hl, hmore, ?_, hvpe ▸ hraw, hplaced, ?_⟩
  · intro t ht
    obtain ⟨e, he, hte⟩ := List.mem_flatMap.mp ht
    exact elToks_noV e t hte
  · rw [flatMap_selToks pre placed (fun e he => (hpre e he).2)]

/-- **one finite verb, whole clause** (constituent notation) -/
theorem phraseReal_one_finite (refl : Bool) (sel vp : List El) (toks : List Tok) (w : Option Str) (b : Bool)
    (hsel : SelShape sel) (hvp : VPI w b vp) (h : phraseReal refl sel vp = .ok toks) :
    ∀ t ∈ (vts toks).tail, NonFin t := by
  obtain ⟨x, np, rv, more, pre, placed, hc, hnp, _, _, hmore, hpre, _, hpl, rfl⟩ :=
    phraseReal_parts refl sel vp toks w b hsel hvp h
  have h1 := parts_one_finite x refl np rv [] more hc hnp (fun _ ht => nomatch ht) hmore
  have h2 := tail_sublist_nonfin _ _ (vts_sublist _ _ (removeEmpty_sublist (rv.1 ++ more))) h1
  rw [← vts_place refl _ placed hpl] at h2
  have h3 : vts (pre ++ placed) = vts placed := by rw [vts_append, vts_nil_of_noV pre hpre, List.nil_append]
  exact tail_sublist_nonfin _ _ (vts_sublist _ _ (removeEmpty_sublist _)) (h3 ▸ h2)

end Pyrealb.ClauseFr
