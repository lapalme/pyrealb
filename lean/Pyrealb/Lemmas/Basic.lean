import Pyrealb.Model.Basic
/-! Lemmas about `Model/Basic`. -/
namespace Pyrealb

/-- A literal unifies with `String.ofList` of its characters, so `rw [s_ofList]` puts the characters in place of
    `s "…"`; evaluating `String.toList` on a literal instead makes the kernel decode its UTF-8 bytes, which is slow. -/
theorem s_ofList (l : Str) : s (String.ofList l) = l := String.toList_ofList

end Pyrealb
